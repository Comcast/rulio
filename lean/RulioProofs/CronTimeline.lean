import RulioModel.CronTimeline

/-! The in-memory cron (C16): the invariant `WFc` of the state machine `CronM`, what each operation does once the
decisive statements of cron.go (the flags of `Gen/C16.lean`) are in place (`drop`, `ins`, `pop`, `finish`; `Step`, `step_rel`),
and the preservation of the invariant.  `WFc` is stated of the six components it reads and not of `Cron`, so that timer, flags
and limit cannot occur in it and `WFc.mono` / `.insert` / `.pop` vary the lists one by one. -/

namespace CronM
open C16Gen List

/-! ## the timeline as a list -/

theorem insertJob_perm (j : Job) (l : List Job) : (insertJob j l).Perm (j :: l) := by
  induction l with
  | nil => exact Perm.refl _
  | cons x xs ih =>
    rw [insertJob]
    split
    · exact Perm.refl _
    · exact (Perm.cons x ih).trans (Perm.swap j x xs)

theorem mem_insertJob {j x : Job} {l : List Job} : x ∈ insertJob j l ↔ x = j ∨ x ∈ l := by
  rw [(insertJob_perm j l).mem_iff, mem_cons]

theorem insertJob_sorted (j : Job) {l : List Job} (h : l.Pairwise (fun a b => a.next ≤ b.next)) :
    (insertJob j l).Pairwise (fun a b => a.next ≤ b.next) := by
  induction l with
  | nil => exact pairwise_singleton _ _
  | cons x xs ih =>
    obtain ⟨hx, hxs⟩ := pairwise_cons.1 h
    rw [insertJob]
    -- any test that implies `j.next ≤ x.next` when true and `x.next ≤ j.next` when false keeps the order
    split
    · next ht =>
      have hle : j.next ≤ x.next := by simp [searchTest] at ht; omega
      exact pairwise_cons.2 ⟨forall_mem_cons.2 ⟨hle, fun y hy => Nat.le_trans hle (hx y hy)⟩, h⟩
    · next ht =>
      have hge : x.next ≤ j.next := by simp [searchTest] at ht; omega
      refine pairwise_cons.2 ⟨fun y hy => ?_, ih hxs⟩
      rcases mem_insertJob.1 hy with rfl | hy
      · exact hge
      · exact hx y hy

theorem remJob_sublist (id : Nat) (l : List Job) : (remJob id l).Sublist l := eraseP_sublist

theorem eraseP_key_gone {f : Job → Nat} {k : Nat} {l : List Job} (h : l.Pairwise (fun a b => f a ≠ f b)) :
    ∀ x ∈ l.eraseP (fun j => f j == k), f x ≠ k := by
  intro x hx hxk
  have hpx : (f x == k) = true := beq_iff_eq.2 hxk
  obtain ⟨a, l₁, l₂, hl₁, ha, rfl, e⟩ := exists_of_eraseP (p := fun j => f j == k) (eraseP_sublist.subset hx) hpx
  rw [e] at hx
  rcases mem_append.1 hx with hx | hx
  · exact hl₁ x hx hpx
  · exact (pairwise_cons.1 (pairwise_append.1 h).2.1).1 x hx ((beq_iff_eq.1 ha).trans hxk.symm)

theorem eq_of_key_eq {f : Job → Nat} {l : List Job} (h : l.Pairwise (fun a b => f a ≠ f b)) :
    ∀ ⦃a⦄, a ∈ l → ∀ ⦃b⦄, b ∈ l → f a = f b → a = b :=
  Pairwise.forall_of_forall_of_flip (fun _ _ _ => rfl) (h.imp fun hab e => absurd e hab)
    (h.imp fun hab e => absurd e.symm hab)

theorem remJob_no_id {id : Nat} {l : List Job} (h : l.Pairwise (fun a b => a.id ≠ b.id)) :
    ∀ x ∈ remJob id l, x.id ≠ id :=
  eraseP_key_gone h

theorem sublist_eraseP_of_forall_not {α : Type} {p : α → Bool} {l₁ l₂ : List α} (h : l₁.Sublist l₂)
    (hn : ∀ x ∈ l₁, ¬ p x = true) : l₁.Sublist (l₂.eraseP p) := by
  rw [← eraseP_of_forall_not hn]; exact h.eraseP

theorem nextOcc_gt {p now : Nat} (hp : p ≠ 0) : now < nextOcc p now := by
  rw [nextOcc, Nat.mul_comm]; exact Nat.lt_mul_div_succ now (Nat.pos_of_ne_zero hp)

theorem nextOcc_mod (p now : Nat) : nextOcc p now % p = 0 := Nat.mul_mod_left _ _

theorem schedJob_id (c : Nat) (j : Job) :
    (schedJob c j).id = j.id ∧ (schedJob c j).serial = j.serial ∧ (schedJob c j).period = j.period := by
  unfold schedJob; split <;> exact ⟨rfl, rfl, rfl⟩

theorem schedJob_next {j : Job} (hp : j.period ≠ 0) (c : Nat) : (schedJob c j).next = nextOcc j.period c := by
  rw [schedJob, if_neg hp]

structure WFc (tl infl run : List Job) (log : List Fire) (clock serial : Nat) : Prop where
  sorted : tl.Pairwise (fun a b => a.next ≤ b.next)
  /-- at most one entry per id among the pending jobs and the running jobs that will be re-scheduled -/
  nodupIdR : (tl ++ run).Pairwise (fun a b => a.id ≠ b.id)
  /-- a job object is pending or in flight, never both, never twice -/
  nodupSer : (tl ++ infl).Pairwise (fun a b => a.serial ≠ b.serial)
  serLt : ∀ j ∈ tl ++ infl, j.serial < serial
  occ : ∀ j ∈ tl ++ infl, j.period ≠ 0 → j.next % j.period = 0
  logOk : ∀ f ∈ log, f.serial < serial ∧ f.due ≤ f.time ∧ f.time ≤ clock ∧ (f.period ≠ 0 → f.due % f.period = 0)
  link : ∀ f ∈ log, ∀ j ∈ tl ++ infl, j.serial = f.serial → j.id = f.id ∧ j.period = f.period
  /-- a pending job that already fired is recurring and waits for a strictly later occurrence -/
  pend : ∀ f ∈ log, ∀ j ∈ tl, j.serial = f.serial → j.period ≠ 0 ∧ f.time < j.next
  /-- the log is in reverse chronological order: a later fire of the same job object is a recurring one, for a later occurrence -/
  logPair : log.Pairwise (fun f' f => f'.serial = f.serial →
    f'.id = f.id ∧ f'.period = f.period ∧ f'.period ≠ 0 ∧ f.time < f'.due)
  /-- `c.running` holds jobs whose `Fn` is executing (in the order they were popped) … -/
  runSub : run.Sublist infl
  /-- … and only recurring ones -/
  runRec : ∀ j ∈ run, j.period ≠ 0

abbrev WF (s : Cron) : Prop := WFc s.tl s.inflight s.running s.log s.clock s.serial

theorem WFc.insert {tl infl run : List Job} {log c n} (h : WFc tl infl run log c n) (j : Job)
    (hser : j.serial < n) (hfresh : ∀ x ∈ tl ++ infl, x.serial ≠ j.serial) (hid : ∀ x ∈ tl ++ run, x.id ≠ j.id)
    (hocc : j.period ≠ 0 → j.next % j.period = 0)
    (hlog : ∀ f ∈ log, f.serial = j.serial → j.id = f.id ∧ j.period = f.period ∧ j.period ≠ 0 ∧ f.time < j.next) :
    WFc (insertJob j tl) infl run log c n := by
  have hp (l : List Job) : (insertJob j tl ++ l).Perm (j :: (tl ++ l)) := (insertJob_perm j tl).append_right l
  have hmem : ∀ x ∈ insertJob j tl ++ infl, x = j ∨ x ∈ tl ++ infl := fun x hx => mem_cons.1 ((hp infl).mem_iff.1 hx)
  constructor
  · exact insertJob_sorted j h.sorted
  · exact ((hp run).pairwise_iff Ne.symm).2 (pairwise_cons.2 ⟨fun x hx => (hid x hx).symm, h.nodupIdR⟩)
  · exact ((hp infl).pairwise_iff Ne.symm).2 (pairwise_cons.2 ⟨fun x hx => (hfresh x hx).symm, h.nodupSer⟩)
  · intro x hx
    rcases hmem x hx with rfl | hx
    · exact hser
    · exact h.serLt x hx
  · intro x hx
    rcases hmem x hx with rfl | hx
    · exact hocc
    · exact h.occ x hx
  · exact h.logOk
  · intro f hf x hx hs
    rcases hmem x hx with rfl | hx
    · exact ⟨(hlog f hf hs.symm).1, (hlog f hf hs.symm).2.1⟩
    · exact h.link f hf x hx hs
  · intro f hf x hx hs
    rcases mem_insertJob.1 hx with rfl | hx
    · exact (hlog f hf hs.symm).2.2
    · exact h.pend f hf x hx hs
  · exact h.logPair
  · exact h.runSub
  · exact h.runRec

section
variable {tl infl run : List Job} {log : List Fire} {c n : Nat}

theorem WFc.nodupId (h : WFc tl infl run log c n) : tl.Pairwise (fun a b => a.id ≠ b.id) :=
  (pairwise_append.1 h.nodupIdR).1

theorem WFc.nodupIdRun (h : WFc tl infl run log c n) : run.Pairwise (fun a b => a.id ≠ b.id) :=
  (pairwise_append.1 h.nodupIdR).2.1

theorem WFc.nodupSerInfl (h : WFc tl infl run log c n) : infl.Pairwise (fun a b => a.serial ≠ b.serial) :=
  (pairwise_append.1 h.nodupSer).2.1

theorem WFc.run_eq (h : WFc tl infl run log c n) {x j : Job} (hx : x ∈ run) (hj : j ∈ infl)
    (hs : x.serial = j.serial) : x = j :=
  eq_of_key_eq h.nodupSerInfl (h.runSub.subset hx) hj hs

theorem WFc.mono {tl' infl' run' : List Job} {c' n'} (h : WFc tl infl run log c n) (h1 : tl'.Sublist tl)
    (h2 : infl'.Sublist infl) (h3 : run'.Sublist run) (h4 : run'.Sublist infl') (hc : c ≤ c') (hn : n ≤ n') :
    WFc tl' infl' run' log c' n' := by
  have h12 : (tl' ++ infl').Sublist (tl ++ infl) := h1.append h2
  constructor
  · exact h.sorted.sublist h1
  · exact h.nodupIdR.sublist (h1.append h3)
  · exact h.nodupSer.sublist h12
  · exact fun j hj => Nat.lt_of_lt_of_le (h.serLt j (h12.subset hj)) hn
  · exact fun j hj => h.occ j (h12.subset hj)
  · intro f hf
    obtain ⟨a, b, d, e⟩ := h.logOk f hf
    exact ⟨Nat.lt_of_lt_of_le a hn, b, Nat.le_trans d hc, e⟩
  · exact fun f hf j hj => h.link f hf j (h12.subset hj)
  · exact fun f hf j hj => h.pend f hf j (h1.subset hj)
  · exact h.logPair
  · exact h4
  · exact fun j hj => h.runRec j (h3.subset hj)

/-- `Cron.schedule` / `Cron.reschedule` put a job object that is neither pending nor in flight on the timeline (a recurring one
for its next occurrence): if it fired before, it is a recurring job, and its next occurrence lies after all its fires -/
theorem WFc.insert_sched (h : WFc tl infl run log c n) (j : Job) (hser : j.serial < n)
    (hfresh : ∀ x ∈ tl ++ infl, x.serial ≠ j.serial) (hid : ∀ x ∈ tl ++ run, x.id ≠ j.id)
    (hlog : ∀ f ∈ log, f.serial = j.serial → j.id = f.id ∧ j.period = f.period ∧ j.period ≠ 0) :
    WFc (insertJob (schedJob c j) tl) infl run log c n := by
  obtain ⟨i1, i2, i3⟩ := schedJob_id c j
  apply h.insert
  · rw [i2]; exact hser
  · rw [i2]; exact hfresh
  · rw [i1]; exact hid
  · rw [i3]; intro hp
    rw [schedJob_next hp]; exact nextOcc_mod _ _
  · intro f hf hs
    rw [i2] at hs; rw [i1, i3]
    obtain ⟨a, b, hp⟩ := hlog f hf hs
    rw [schedJob_next hp]
    exact ⟨a, b, hp, Nat.lt_of_le_of_lt (h.logOk f hf).2.2.1 (nextOcc_gt hp)⟩

/-- the loop pops the head `j` of the timeline, which is due, and starts its `Fn`; `j` may be entered in `c.running` -/
theorem WFc.pop {j : Job} {rest run' : List Job} (h : WFc (j :: rest) infl run log c n) (hdue : j.next ≤ c)
    (hsub : run'.Sublist (j :: run)) (hrec : ∀ x ∈ run', x.period ≠ 0) :
    WFc rest (j :: infl) run' (fireOf j c :: log) c n := by
  have hp : (rest ++ j :: infl).Perm (j :: rest ++ infl) := perm_middle
  have hmem : ∀ x ∈ rest ++ j :: infl, x ∈ j :: rest ++ infl := fun x hx => hp.mem_iff.1 hx
  have hj : j ∈ j :: rest ++ infl := mem_cons_self
  have hne : ∀ x ∈ rest ++ infl, j.serial ≠ x.serial := (pairwise_cons.1 h.nodupSer).1
  constructor
  · exact (pairwise_cons.1 h.sorted).2
  · exact ((perm_middle.pairwise_iff Ne.symm).2 h.nodupIdR).sublist ((Sublist.refl rest).append hsub)
  · exact (hp.pairwise_iff Ne.symm).2 h.nodupSer
  · exact fun x hx => h.serLt x (hmem x hx)
  · exact fun x hx => h.occ x (hmem x hx)
  · intro f hf
    rcases mem_cons.1 hf with rfl | hf
    · exact ⟨h.serLt j hj, hdue, Nat.le_refl _, h.occ j hj⟩
    · exact h.logOk f hf
  · intro f hf x hx hs
    rcases mem_cons.1 hf with rfl | hf
    · rcases mem_cons.1 (hmem x hx) with rfl | hx'
      · exact ⟨rfl, rfl⟩
      · exact absurd hs.symm (hne x hx')
    · exact h.link f hf x (hmem x hx) hs
  · intro f hf x hx hs
    rcases mem_cons.1 hf with rfl | hf
    · exact absurd hs.symm (hne x (mem_append_left _ hx))
    · exact h.pend f hf x (mem_cons_of_mem _ hx) hs
  · refine pairwise_cons.2 ⟨fun f hf hs => ?_, h.logPair⟩
    obtain ⟨a, b⟩ := h.link f hf j hj hs
    obtain ⟨c, d⟩ := h.pend f hf j mem_cons_self hs
    exact ⟨a, b, c, d⟩
  · exact hsub.trans (h.runSub.cons_cons j)
  · exact hrec

end

theorem WF_init (limit : Nat) : WF (init limit) := by
  refine ⟨.nil, .nil, .nil, ?_, ?_, ?_, ?_, ?_, .nil, .slnil, ?_⟩ <;> intro _ h <;> cases h

/-! ## what the operations do -/

/-- `Cron.rem`.  `step s (.rem id)` is `drop s id` by unfolding: the model's `cancelRunning` and `remJob` are the same
erasure because the extracted flags `remCancelsRunning` and `remErases` are both `true` -/
def drop (s : Cron) (id : Nat) : Cron := { s with tl := remJob id s.tl, running := remJob id s.running }

/-- `Cron.insert` -/
def ins (s : Cron) (j : Job) : Cron := { s with tl := insertJob j s.tl, armed := rearm (insertJob j s.tl) }

/-- the pop of the head `j` of the timeline in the loop's timer case -/
def pop (s : Cron) (j : Job) (rest : List Job) : Cron :=
  { s with tl := rest, inflight := j :: s.inflight, log := fireOf j s.clock :: s.log,
           running := if j.period != 0 then j :: s.running else s.running, armed := rearm rest }

/-- the return of the `Fn` of the job object `k` as far as the ghost list of running `Fn`s goes -/
def finish (s : Cron) (k : Nat) : Cron := { s with inflight := s.inflight.eraseP (fun j => j.serial == k) }

/-- by unfolding, with the extracted flags `scheduleRemsFirst`, `remCancelsRunning`, `remErases`, `insertRearms` all `true` -/
theorem schedule_eq (s : Cron) (j : Job) (b : Bool) :
    schedule s j b = if atLimit s b (remJob j.id s.tl) then (drop s j.id, false)
      else (ins (drop s j.id) (schedJob s.clock j), true) := rfl

theorem schedule_tl_nolimit (s : Cron) (j : Job) :
    (schedule s j false).1.tl = insertJob (schedJob s.clock j) (remJob j.id s.tl) := rfl

theorem readyTest_iff {now next : Nat} : readyTest now next = true ↔ next ≤ now := by
  simp [readyTest]

/-- A delivery of the timer either only sets the timer (the loop is in a pause; nothing is pending; the head is not ready,
and the timer is re-armed for it), or pops the head, which is ready. -/
theorem tick_cases (s : Cron) :
    (∃ a, tick s = { s with armed := a } ∧
      (s.paused = false → ∀ j rest, s.tl = j :: rest → s.clock < j.next ∧ a = some j.next)) ∨
    (∃ j rest, s.paused = false ∧ s.tl = j :: rest ∧ j.next ≤ s.clock ∧ tick s = pop s j rest) := by
  by_cases hp : s.paused = true
  · exact .inl ⟨s.armed, by rw [tick, if_pos hp], fun h => by rw [hp] at h; cases h⟩
  · rw [tick, if_neg hp]
    dsimp only
    -- the disarming of an expired timer (the `match` on `s.armed` in `tick`) changes `armed` only
    generalize hs1 : tick.match_1 (fun _ => Cron) s.armed _ _ = s1
    obtain ⟨a, rfl⟩ : ∃ a, s1 = { s with armed := a } := by
      rw [← hs1]
      split
      · split <;> exact ⟨_, rfl⟩
      · exact ⟨_, rfl⟩
    dsimp only
    cases htl : s.tl with
    | nil => exact .inl ⟨a, rfl, fun _ _ _ h => nomatch h⟩
    | cons j rest =>
      dsimp only
      by_cases hr : j.next ≤ s.clock
      · rw [if_pos (readyTest_iff.2 hr)]
        exact .inr ⟨j, rest, Bool.eq_false_iff.2 hp, rfl, hr, rfl⟩
      · rw [if_neg (mt readyTest_iff.1 hr)]
        refine .inl ⟨some j.next, rfl, fun _ j' rest' e => ?_⟩
        cases e
        exact ⟨Nat.lt_of_not_le hr, rfl⟩

theorem tick_pop {s : Cron} (hp : s.paused = false) {j : Job} {rest : List Job} (htl : s.tl = j :: rest)
    (hdue : j.next ≤ s.clock) : tick s = pop s j rest := by
  rcases tick_cases s with ⟨_, _, h⟩ | ⟨j', rest', _, h1, _, e⟩
  · exact absurd (h hp j rest htl).1 (Nat.not_lt_of_le hdue)
  · rw [htl] at h1; cases h1; exact e

theorem pop_running_sublist (s : Cron) (j : Job) (rest : List Job) : (pop s j rest).running.Sublist (j :: s.running) := by
  unfold pop; dsimp only
  split
  · exact Sublist.refl _
  · exact sublist_cons_self _ _

/-- When an `Fn` returns, its job object is put back on the timeline, for its next occurrence, if it is (still) in `c.running`;
otherwise (a one-shot; removed or replaced while `Fn` ran; no such `Fn`) nothing happens but that the `Fn` is gone. -/
theorem done_cases {s : Cron} (hw : WF s) (k : Nat) :
    (done s k = finish s k ∧ ∀ x ∈ s.running, x.serial ≠ k) ∨
    (∃ j ∈ s.running, j.serial = k ∧
      done s k = ins { finish s k with running := s.running.eraseP (fun x => x.serial == k) } (schedJob s.clock j)) := by
  unfold done
  split
  · next hnone =>
    have hno : ∀ j ∈ s.inflight, ¬ (j.serial == k) = true := find?_eq_none.1 hnone
    refine .inl ⟨?_, fun x hx e => hno x (hw.runSub.subset hx) (beq_iff_eq.2 e)⟩
    rw [finish, eraseP_of_forall_not hno]
  · next j hfind =>
    have hj : j ∈ s.inflight := mem_of_find?_eq_some hfind
    have hjk : j.serial = k := beq_iff_eq.1 (find?_some (p := fun j : Job => j.serial == k) hfind)
    subst hjk
    by_cases hr : j ∈ s.running
    · have hp : j.period ≠ 0 := hw.runRec j hr
      have hany : s.running.any (fun x => x.serial == j.serial) = true := any_eq_true.2 ⟨j, hr, beq_iff_eq.2 rfl⟩
      refine .inr ⟨j, hr, rfl, ?_⟩
      simp [hp, rescheduleRecurring, rescheduleViaRunning, reschedule, hany, insertRearms, ins, finish]
    · have hno : ∀ x ∈ s.running, x.serial ≠ j.serial := fun x hx e => hr (hw.run_eq hx hj e ▸ hx)
      have hany : s.running.any (fun x => x.serial == j.serial) = false :=
        any_eq_false.2 fun x hx e => hno x hx (beq_iff_eq.1 e)
      refine .inl ⟨?_, hno⟩
      by_cases hp : j.period = 0
      · simp [hp, rescheduleOnce, finish]
      · simp [hp, rescheduleRecurring, rescheduleViaRunning, reschedule, hany, finish]

theorem done_cancelled {s : Cron} (hw : WF s) {j : Job} (hj : j ∈ s.inflight) (hnr : j ∉ s.running) :
    done s j.serial = finish s j.serial := by
  rcases done_cases hw j.serial with ⟨e, _⟩ | ⟨x, hx, hxs, _⟩
  · exact e
  · exact absurd (hw.run_eq hx hj hxs ▸ hx) hnr

theorem done_running {s : Cron} (hw : WF s) {j : Job} (hj : j ∈ s.running) :
    done s j.serial = ins { finish s j.serial with running := s.running.eraseP (fun x => x.serial == j.serial) }
      (schedJob s.clock j) := by
  rcases done_cases hw j.serial with ⟨_, hno⟩ | ⟨x, hx, hxs, e⟩
  · exact absurd rfl (hno j hj)
  · rw [e, hw.run_eq hx (hw.runSub.subset hj) hxs]

/-- What a step can do; every per-operation argument about the cron is a `cases` on this. The elimination fails on
`step_rel hw op` as it stands, whose index `step s op` unfolds: `have hst := step_rel hw op`, then
`generalize step s op = s' at hst`, then `cases hst`. -/
inductive Step (s : Cron) : Op → Cron → Prop
  /-- time, suspension and pauses touch the clock, the timer and the two flags only; and they leave timer and flags
  alone, or stop the loop, or re-arm the timer for the head -/
  | control {op : Op} {c : Nat} {a : Option Nat} {su pa : Bool} : op.isControl = true → s.clock ≤ c →
      ((a = s.armed ∧ su = s.suspended ∧ pa = s.paused) ∨ su = true ∨ pa = true ∨ a = rearm s.tl) →
      Step s op { s with clock := c, armed := a, suspended := su, paused := pa }
  | rem (id : Nat) : Step s (.rem id) (drop s id)
  /-- an `Add` refused for capacity has still removed the entries with its id -/
  | addFull (id due p : Nat) : atLimit { s with serial := s.serial + 1 } true (remJob id s.tl) = true →
      Step s (.add id due p) (drop { s with serial := s.serial + 1 } id)
  | addIns (id due p : Nat) :
      Step s (.add id due p) (ins (drop { s with serial := s.serial + 1 } id) (schedJob s.clock ⟨id, due, p, s.serial⟩))
  /-- a delivery that pops nothing only sets the timer: for the head exactly, unless the loop is in a pause -/
  | tickIdle (a : Option Nat) :
      (s.paused = false → ∀ j rest, s.tl = j :: rest → s.clock < j.next ∧ a = some j.next) →
      Step s .tick { s with armed := a }
  | tickPop (j : Job) (rest : List Job) : s.paused = false → s.tl = j :: rest → j.next ≤ s.clock →
      Step s .tick (pop s j rest)
  /-- the `Fn` of a job that is not (or no longer) in `c.running` returns -/
  | doneGone (k : Nat) : (∀ x ∈ s.running, x.serial ≠ k) → Step s (.done k) (finish s k)
  | doneBack (j : Job) : j ∈ s.running →
      Step s (.done j.serial)
        (ins { finish s j.serial with running := s.running.eraseP (fun x => x.serial == j.serial) } (schedJob s.clock j))

theorem step_control (s : Cron) {op : Op} (h : op.isControl = true) : Step s op (step s op) := by
  cases op with
  | advance d => exact .control h (Nat.le_add_right _ d) (.inl ⟨rfl, rfl, rfl⟩)
  | suspend => exact .control h (Nat.le_refl _) (.inr (.inl rfl))
  | pauseBegin => exact .control h (Nat.le_refl _) (.inr (.inr (.inl rfl)))
  | resume =>
    by_cases hs : s.suspended = true
    · rw [step, if_pos hs]; exact .control h (Nat.le_refl _) (.inr (.inr (.inr rfl)))
    · rw [step, if_neg hs]; exact .control h (Nat.le_refl _) (.inl ⟨rfl, rfl, rfl⟩)
  | pauseEnd =>
    by_cases hs : s.paused = true
    · rw [step, if_pos hs]; exact .control h (Nat.le_refl _) (.inr (.inr (.inr rfl)))
    · rw [step, if_neg hs]; exact .control h (Nat.le_refl _) (.inl ⟨rfl, rfl, rfl⟩)
  | _ => cases h

theorem step_rel {s : Cron} (hw : WF s) (op : Op) : Step s op (step s op) := by
  cases op with
  | add id due p =>
    -- `Cron.Add`: the new job object gets the next serial
    show Step s _ (schedule { s with serial := s.serial + 1 } ⟨id, due, p, s.serial⟩ true).1
    rw [schedule_eq]
    split
    · next hl => exact .addFull id due p hl
    · exact .addIns id due p
  | rem id => exact .rem id
  | tick =>
    rcases tick_cases s with ⟨a, e, ha⟩ | ⟨j, rest, hp, htl, hr, e⟩ <;> rw [step, e]
    · exact .tickIdle a ha
    · exact .tickPop j rest hp htl hr
  | done k =>
    rcases done_cases hw k with ⟨e, hno⟩ | ⟨j, hj, rfl, e⟩ <;> rw [step, e]
    · exact .doneGone k hno
    · exact .doneBack j hj
  | _ => exact step_control s rfl

/-! ## preservation -/

theorem WF_drop {s : Cron} (h : WF s) (id : Nat) : WF (drop s id) :=
  h.mono (remJob_sublist id s.tl) (Sublist.refl _) (remJob_sublist id s.running)
    ((remJob_sublist id s.running).trans h.runSub) (Nat.le_refl _) (Nat.le_refl _)

theorem drop_no_id {s : Cron} (h : WF s) (id : Nat) : ∀ x ∈ (drop s id).tl ++ (drop s id).running, x.id ≠ id :=
  fun x hx => (mem_append.1 hx).elim (remJob_no_id h.nodupId x) (remJob_no_id h.nodupIdRun x)

theorem WF_step {s : Cron} (h : WF s) (op : Op) : WF (step s op) := by
  have h' : WF { s with serial := s.serial + 1 } :=
    h.mono (Sublist.refl _) (Sublist.refl _) (Sublist.refl _) h.runSub (Nat.le_refl _) (Nat.le_succ _)
  have hst := step_rel h op
  generalize step s op = s' at hst
  cases hst with
  | control _ hle _ => exact h.mono (Sublist.refl _) (Sublist.refl _) (Sublist.refl _) h.runSub hle (Nat.le_refl _)
  | rem id => exact WF_drop h id
  | addFull id => exact WF_drop h' id
  | addIns id due p =>
    -- the new job object has a serial no live job and no fire has
    apply (WF_drop h' id).insert_sched
    · exact Nat.lt_succ_self _
    · exact fun x hx => Nat.ne_of_lt (h.serLt x (((remJob_sublist _ _).append_right _).subset hx))
    · exact drop_no_id h id
    · exact fun f hf hs => absurd hs (Nat.ne_of_lt (h.logOk f hf).1)
  | tickIdle => exact h
  | tickPop j rest _ htl hr =>
    have h' : WFc (j :: rest) s.inflight s.running s.log s.clock s.serial := htl ▸ h
    refine h'.pop hr (pop_running_sublist s j rest) fun x hx => ?_
    -- `j` is entered in `c.running` only if it is recurring
    unfold pop at hx; dsimp only at hx
    split at hx
    · next hz =>
      rcases mem_cons.1 hx with rfl | hx
      · exact bne_iff_ne.1 hz
      · exact h.runRec x hx
    · exact h.runRec x hx
  | doneGone k hno =>
    exact h.mono (Sublist.refl _) eraseP_sublist (Sublist.refl _)
      (sublist_eraseP_of_forall_not h.runSub fun x hx e => hno x hx (beq_iff_eq.1 e)) (Nat.le_refl _) (Nat.le_refl _)
  | doneBack j hjr =>
    have hj : j ∈ s.inflight := h.runSub.subset hjr
    have hsubr : (s.running.eraseP (fun x => x.serial == j.serial)).Sublist s.running := eraseP_sublist
    have h1 : WFc s.tl (s.inflight.eraseP (fun x => x.serial == j.serial))
        (s.running.eraseP (fun x => x.serial == j.serial)) s.log s.clock s.serial :=
      h.mono (Sublist.refl _) eraseP_sublist hsubr h.runSub.eraseP (Nat.le_refl _) (Nat.le_refl _)
    apply h1.insert_sched
    · exact h.serLt j (mem_append_right _ hj)
    · -- `j` was in flight, so not pending, and is the only job in flight with its serial
      intro x hx
      rcases mem_append.1 hx with hx | hx
      · exact (pairwise_append.1 h.nodupSer).2.2 x hx j hj
      · exact eraseP_key_gone h.nodupSerInfl x hx
    · -- … and was in `running`, so no pending job has its id, nor any other job of `running`
      intro x hx e
      rcases mem_append.1 hx with hx | hx
      · exact (pairwise_append.1 h.nodupIdR).2.2 x hx j hjr e
      · have := eq_of_key_eq h.nodupIdRun (hsubr.subset hx) hjr e
        exact eraseP_key_gone (h.nodupSerInfl.sublist h.runSub) x hx (this ▸ rfl)
    · intro f hf hs
      obtain ⟨a, b⟩ := h.link f hf j (mem_append_right _ hj) hs.symm
      exact ⟨a, b, h.runRec j hjr⟩

theorem WF_run {s : Cron} (h : WF s) (ops : List Op) : WF (run s ops) :=
  List.foldlRecOn ops _ h fun _ hb op _ => WF_step hb op

end CronM
