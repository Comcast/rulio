import RulioModel.Indep
import RulioProofs.Cache

/-! C11: a client whose operations read and write its own component only is not affected by the
others (`indep_gen`); the System engine is such a frame, the component of a location being its cache slot and storage
bucket (`sysFrame`, from `reqE_local`); lazily created storage with the check under the lock (`LzInv`, `lzOK`). -/

section indep
variable {Client : Type} [DecidableEq Client]

theorem indep_gen (E : Engine Client) (F : Frame E) (i : Client) :
    ∀ (sched : List (Client × E.Op)) (s s' : E.State), F.view s i = F.view s' i →
      resultsOf i (runAll E s sched).2 = (runSolo E s' i sched).2 ∧
      F.view (runAll E s sched).1 i = F.view (runSolo E s' i sched).1 i := by
  intro sched
  induction sched with
  | nil => intro s s' h; exact ⟨rfl, h⟩
  | cons a rest ih =>
    intro s s' h
    obtain ⟨j, op⟩ := a
    by_cases hj : j = i
    · subst hj
      have h1 := F.local_res s s' j op h
      have h2 := F.local_upd s s' j op h
      obtain ⟨r1, r2⟩ := ih (E.step s j op).1 (E.step s' j op).1 h2
      simp only [runAll, runSolo, resultsOf, if_true]
      exact ⟨by rw [h1, r1], r2⟩
    · have h2 : F.view (E.step s j op).1 i = F.view s' i := by
        rw [F.frame s j i op hj]; exact h
      obtain ⟨r1, r2⟩ := ih (E.step s j op).1 s' h2
      simp only [runAll, runSolo, resultsOf, hj, if_false]
      exact ⟨r1, r2⟩

end indep

section sysframe
variable {sem : LocSem}

theorem ROp.toReq_name (i : String) (op : ROp sem) : (op.toReq i).name = i := by cases op <;> rfl

/-- `sysView` is `viewOf` (by `rfl`): the model file cannot name the proof-side `viewOf` -/
def sysFrame (sem : LocSem) (cfg : Cfg) : Frame (sysEngine sem cfg) where
  Comp := Option (CEntry sem) × sem.S
  view := sysView
  local_res := by
    intro s s' i op h
    have h : viewOf s i = viewOf s' i := h
    show (reqE cfg s (op.1.toReq i) op.2.1 op.2.2).2 = (reqE cfg s' (op.1.toReq i) op.2.1 op.2.2).2
    rw [(reqE_local cfg s _ _ _).1, (reqE_local cfg s' _ _ _).1, ROp.toReq_name, h]
  local_upd := by
    intro s s' i op h
    have h : viewOf s i = viewOf s' i := h
    show viewOf (reqE cfg s (op.1.toReq i) op.2.1 op.2.2).1 i = viewOf (reqE cfg s' (op.1.toReq i) op.2.1 op.2.2).1 i
    rw [(reqE_local cfg s _ _ _).2 i, (reqE_local cfg s' _ _ _).2 i, ROp.toReq_name, if_pos rfl, if_pos rfl, h]
  frame := by
    intro s i j op hij
    show viewOf (reqE cfg s (op.1.toReq i) op.2.1 op.2.2).1 j = viewOf s j
    rw [(reqE_local cfg s _ _ _).2 j, ROp.toReq_name, if_neg (Ne.symm hij)]

end sysframe

section lazy

/-- where a thread may be: at its start, or — only once the storage is made — past the check and bound to storage `0`;
never between the check and the creation -/
def lzOK (made : Bool) : LzPC → Prop
  | .start _ _ => True
  | .create _ _ => False
  | .write _ _ sid => made = true ∧ sid = 0
  | .done sid => made = true ∧ sid = 0

theorem lzOK_made {pc : LzPC} {made : Bool} (h : lzOK made pc) : lzOK true pc := by
  cases pc with
  | start l f => trivial
  | create l f => exact h
  | write l f sid => exact ⟨rfl, h.2⟩
  | done sid => exact ⟨rfl, h.2⟩

/-- there is no storage yet, or the one created first — number `0`, the only entry of `stores` —; every thread is where
`lzOK` lets it be -/
def LzInv (s : LzSt) : Prop :=
  ((s.storage = none ∧ s.stores.length = 0) ∨ (s.storage = some 0 ∧ s.stores.length = 1)) ∧
  ∀ pc ∈ s.pcs, lzOK s.storage.isSome pc

theorem LzInv.init (reqs : List (String × Nat)) : LzInv { pcs := reqs.map (fun r => LzPC.start r.1 r.2) } := by
  refine ⟨Or.inl ⟨rfl, rfl⟩, fun pc hpc => ?_⟩
  obtain ⟨r, -, rfl⟩ := List.mem_map.mp hpc
  trivial

theorem LzInv.single {s : LzSt} (h : LzInv s) :
    s.stores.length ≤ 1 ∧ ∀ pc ∈ s.pcs, ∀ l f sid, (pc = LzPC.write l f sid ∨ pc = LzPC.done sid) → sid = 0 := by
  refine ⟨by rcases h.1 with ⟨-, h2⟩ | ⟨-, h2⟩ <;> omega, fun pc hpc l f sid hw => ?_⟩
  have := h.2 pc hpc
  rcases hw with rfl | rfl <;> exact this.2

theorem lzInv_step (s : LzSt) (tid : Nat) (h : LzInv s) : LzInv (lzStep true s tid) := by
  unfold lzStep
  cases hpc : s.pcs[tid]? with
  | none => exact h
  | some pc =>
    have hok := h.2 pc (List.mem_of_getElem? hpc)
    -- thread `tid` moves to `pc'`, the storage stays or is made: the others are where they may be
    have hmove : ∀ {made : Bool} (pc' : LzPC), lzOK made pc' → (s.storage.isSome = true → made = true) →
        ∀ q ∈ setNth s.pcs tid pc', lzOK made q := by
      intro made pc' h' hm q hq
      rcases mem_setNth _ _ _ _ hq with rfl | hq
      · exact h'
      · have := h.2 q hq
        cases made with
        | true => exact lzOK_made this
        | false => cases hs : s.storage.isSome with
          | true => exact absurd (hm hs) (by simp)
          | false => exact hs ▸ this
    cases pc with
    | start l f =>
      rcases h.1 with ⟨h1, h2⟩ | ⟨h1, h2⟩
      · simp only [h1, if_true]
        exact ⟨Or.inr ⟨by simp [h2], by simp [h2]⟩, hmove _ ⟨rfl, h2⟩ (fun _ => rfl)⟩
      · simp only [h1]
        exact ⟨Or.inr ⟨rfl, h2⟩, hmove _ ⟨rfl, rfl⟩ (fun _ => rfl)⟩
    | create l f => exact hok.elim
    | write l f sid =>
      obtain ⟨hmade, rfl⟩ := hok
      simp only
      cases hs : s.stores[0]? with
      | none => exact h
      | some st =>
        simp only
        refine ⟨?_, hmove _ ⟨hmade, rfl⟩ id⟩
        rcases h.1 with ⟨h1, -⟩ | ⟨h1, h2⟩
        · rw [h1] at hmade; cases hmade
        · exact Or.inr ⟨h1, by simp [setNth_eq_set, h2]⟩
    | done sid => exact h

theorem lzInv_run (sched : List Nat) : ∀ s, LzInv s → LzInv (lzRun true s sched) := by
  induction sched with
  | nil => intro s h; exact h
  | cons t rest ih => intro s h; exact ih _ (lzInv_step s t h)

end lazy
