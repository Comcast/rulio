/-! # `Except`: when a bind, a guard `if c then error else …`, or a `mapM` succeeds or fails -/

universe u v

theorem Except.bind_eq_ok {ε : Type u} {α β : Type v} {x : Except ε α} {f : α → Except ε β} {b : β} :
    (x >>= f) = .ok b ↔ ∃ a, x = .ok a ∧ f a = .ok b := by
  cases x with
  | error e => exact ⟨(fun h => nomatch h), fun ⟨_, h, _⟩ => nomatch h⟩
  | ok a => exact ⟨fun h => ⟨a, rfl, h⟩, fun ⟨_, h, hf⟩ => by cases h; exact hf⟩

theorem Except.bind_eq_error {ε : Type u} {α β : Type v} {x : Except ε α} {f : α → Except ε β} {e : ε} :
    (x >>= f) = .error e ↔ x = .error e ∨ ∃ a, x = .ok a ∧ f a = .error e := by
  cases x with
  | error e' =>
    exact ⟨fun h => .inl (congrArg _ (Except.error.inj h)),
      fun h => h.elim (fun h => congrArg _ (Except.error.inj h)) fun ⟨_, h, _⟩ => nomatch h⟩
  | ok a => exact ⟨fun h => .inr ⟨a, rfl, h⟩, fun h => h.elim (fun h => nomatch h) fun ⟨_, h, hf⟩ => by cases h; exact hf⟩

theorem Except.ite_error_eq_ok {ε α : Type} {c : Prop} [Decidable c] {e : ε} {x : Except ε α} {a : α} :
    (if c then .error e else x) = .ok a ↔ ¬c ∧ x = .ok a := by
  by_cases h : c <;> simp [h]

theorem List.mapM_cons_eq_ok {ε α β : Type} {f : α → Except ε β} {a : α} {l : List α} {rs : List β} :
    (a :: l).mapM f = .ok rs ↔ ∃ r rl, f a = .ok r ∧ l.mapM f = .ok rl ∧ rs = r :: rl := by
  rw [List.mapM_cons]
  constructor
  · intro h
    obtain ⟨r, hr, h⟩ := Except.bind_eq_ok.1 h
    obtain ⟨rl, hrl, h⟩ := Except.bind_eq_ok.1 h
    exact ⟨r, rl, hr, hrl, (Except.ok.inj h).symm⟩
  · rintro ⟨r, rl, hr, hrl, rfl⟩
    rw [hr, hrl]; rfl

/-- the one induction on which the membership and `Forall₂` readings of a successful `mapM` rest -/
theorem List.mapM_eq_ok_iff {ε α β : Type} {f : α → Except ε β} : ∀ {l : List α} {rs : List β},
    l.mapM f = .ok rs ↔ l.map f = rs.map .ok
  | [], rs => by
    rw [List.mapM_nil, List.map_nil, eq_comm (a := ([] : List (Except ε β))), List.map_eq_nil_iff]
    exact ⟨fun h => (Except.ok.inj h).symm, fun h => h ▸ rfl⟩
  | a :: l, rs => by
    rw [List.mapM_cons_eq_ok, List.map_cons]
    constructor
    · rintro ⟨r, rl, hr, hrl, rfl⟩
      rw [List.map_cons, hr, List.mapM_eq_ok_iff.1 hrl]
    · intro h
      cases rs with
      | nil => cases h
      | cons r rl =>
        rw [List.map_cons, List.cons.injEq] at h
        exact ⟨r, rl, h.1, List.mapM_eq_ok_iff.2 h.2, rfl⟩

theorem mapM_ok_mem_right {ε α β : Type} {f : α → Except ε β} {l : List α} {rs : List β}
    (h : l.mapM f = .ok rs) {r : β} (hr : r ∈ rs) : ∃ a ∈ l, f a = .ok r :=
  List.mem_map.1 (List.mapM_eq_ok_iff.1 h ▸ List.mem_map_of_mem (f := Except.ok) hr)

theorem mapM_ok_mem_left {ε α β : Type} {f : α → Except ε β} {l : List α} {rs : List β}
    (h : l.mapM f = .ok rs) {a : α} (ha : a ∈ l) : ∃ r ∈ rs, f a = .ok r := by
  obtain ⟨r, hr, e⟩ := List.mem_map.1 (List.mapM_eq_ok_iff.1 h ▸ List.mem_map_of_mem (f := f) ha)
  exact ⟨r, hr, e.symm⟩

theorem mem_flat_mapM {ε α β : Type} {f : α → Except ε (List β)} {l : List α} {rs : List (List β)}
    (h : l.mapM f = .ok rs) {y : β} : y ∈ rs.flatMap id ↔ ∃ a ∈ l, ∃ r, f a = .ok r ∧ y ∈ r := by
  constructor
  · intro hy
    obtain ⟨r, hr, hy⟩ := List.mem_flatMap.1 hy
    obtain ⟨a, ha, hf⟩ := mapM_ok_mem_right h hr
    exact ⟨a, ha, r, hf, hy⟩
  · rintro ⟨a, ha, r, hf, hy⟩
    obtain ⟨r', hr', hf'⟩ := mapM_ok_mem_left h ha
    cases hf.symm.trans hf'
    exact List.mem_flatMap.2 ⟨r, hr', hy⟩

theorem mapM_congr {ε α β : Type} (f g : α → Except ε β) (l : List α) (h : ∀ x ∈ l, f x = g x) :
    l.mapM f = l.mapM g := by
  induction l with
  | nil => rfl
  | cons x xs ih =>
    rw [List.mapM_cons, List.mapM_cons, h x List.mem_cons_self, ih fun y hy => h y (List.mem_cons_of_mem _ hy)]

theorem mapM_ok_of_forall {ε α β : Type} {f : α → Except ε β} :
    ∀ {l : List α}, (∀ a ∈ l, ∃ r, f a = .ok r) → ∃ rs, l.mapM f = .ok rs
  | [], _ => ⟨[], rfl⟩
  | a :: l, h => by
      obtain ⟨r, hr⟩ := h a List.mem_cons_self
      obtain ⟨rs, hrs⟩ := mapM_ok_of_forall (l := l) (fun a ha => h a (List.mem_cons_of_mem _ ha))
      exact ⟨r :: rs, List.mapM_cons_eq_ok.2 ⟨r, rs, hr, hrs, rfl⟩⟩

theorem mapM_error {ε α β : Type} {f : α → Except ε β} {e : ε} :
    ∀ {l : List α}, l.mapM f = .error e → ∃ a ∈ l, f a = .error e
  | [], h => nomatch h
  | a :: l, h => by
      rw [List.mapM_cons] at h
      rcases Except.bind_eq_error.1 h with h | ⟨r, _, h⟩
      · exact ⟨a, List.mem_cons_self, h⟩
      · rcases Except.bind_eq_error.1 h with h | ⟨rl, _, h⟩
        · obtain ⟨a', ha', h'⟩ := mapM_error h
          exact ⟨a', List.mem_cons_of_mem _ ha', h'⟩
        · exact nomatch h

theorem mapM_all_nil {ε α β : Type} {f : α → Except ε (List β)} : ∀ {l : List α}, (∀ a ∈ l, f a = .ok []) →
    ∃ rs, l.mapM f = .ok rs ∧ rs.flatMap id = []
  | [], _ => ⟨[], rfl, rfl⟩
  | a :: l, h => by
      obtain ⟨rs, h1, h2⟩ := mapM_all_nil (l := l) (fun a ha => h a (List.mem_cons_of_mem _ ha))
      exact ⟨[] :: rs, List.mapM_cons_eq_ok.2 ⟨[], rs, h a List.mem_cons_self, h1, rfl⟩, by simpa using h2⟩
