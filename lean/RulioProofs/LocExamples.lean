import RulioProofs.LocGuards

/-! # Two concrete locations on which the hypotheses of C19 and C10 hold (non-vacuity)

Each instance comes with one statement of the small facts its `example`s read off, so that the kernel evaluates the
location once. -/

open LocP

/-- a linear-state location holding the property fact `!.writeKey = "s3cret"` and one ordinary fact -/
def c19Example : Loc :=
  { name := "home",
    st := { kind := .linear,
            facts := [("!.writeKey", [("id", .str ""), ("!writeKey", .str "s3cret"), ("deleteWith", .arr [.str ""])]),
                      ("f1", [("likes", .str "tacos")])],
            store := [("!.writeKey", .obj [("id", .str ""), ("!writeKey", .str "s3cret"), ("deleteWith", .arr [.str ""])]),
                      ("f1", .obj [("likes", .str "tacos")])] } }

/-- at time 100: the guard properties are unexpired; no key and a wrong key are refused, the right key is not; the
location is enabled and has no read key; the verdicts of the write and the read guards for a caller without keys -/
theorem c19Example_facts :
    guardFreshB c19Example.st 100 = true ∧ propStr c19Example.st "writeKey" 100 = "s3cret" ∧
    (WriteDenied c19Example {} 100 ∧ WriteDenied c19Example { wk := "guess" } 100 ∧
      ¬ WriteDenied c19Example { wk := "s3cret" } 100 ∧ ¬ Disabled c19Example 100 ∧ ¬ ReadDenied c19Example {} 100) ∧
    ¬ ReadDenied c19Example { wk := "s3cret" } 100 ∧
    guardsVerdict {} 100 c19Example [.enabled, .checkWrite] = .error "writeDenied" ∧
    guardsVerdict {} 100 c19Example [.enabled, .checkRead] = .ok () := by
  decide +kernel

/-- a location switched off through its `!enabled` property, holding a rule `r1` and its disabled flag -/
def c10Example : Loc :=
  { name := "home",
    st := { kind := .linear,
            facts := [("!.enabled", [("id", .str ""), ("!enabled", .str "no"), ("deleteWith", .arr [.str ""])]),
                      ("r1", [("rule", .obj [("when", .obj [("pattern", .obj [("wants", .str "?x")])]),
                                             ("action", .obj [("code", .str "1")])])]),
                      ("!r1.disabled", flagFact "r1")] } }

/-- at time 7: the location is disabled, its guard properties are unexpired, `r1` carries the disabled flag (which is
unexpired) and `r2` does not -/
theorem c10Example_facts :
    Disabled c10Example 7 ∧ guardFreshB c10Example.st 7 = true ∧
    (ruleDisabled c10Example.st.facts "r1" 7 = true ∧ ruleDisabled c10Example.st.facts "r2" 7 = false) ∧
    freshAtB c10Example.st (genPropId "r1" "disabled") 7 = true := by
  decide +kernel
