import RulioProofs.ComposeLoc
import RulioProofs.ComposeHist

/-! # A concrete location history on which every hypothesis of the composed theorems holds (non-vacuity)

`cxLoc k`: a fresh location of kind `k` after: `r1` and `r2` added with the `when` `{"likes":["tacos"]}`; `r1`
**replaced** by a rule with the `when` `{"wants":"?x"}`; `r2` **disabled**; a plain fact added; `r3` added and
**overwritten by a plain fact**.  The event `{"wants":"tacos","likes":["chips","tacos"]}` matches the current `when` of `r1` and `r2`
and the former `when` of `r1`. -/

namespace ComposeEx

def rule1 : Obj := [("when", .obj [("pattern", .obj [("wants", .str "?x")])]), ("action", .obj [("code", .str "1")])]
def rule2 : Obj := [("when", .obj [("pattern", .obj [("likes", .arr [.str "tacos"])])]), ("action", .obj [("code", .str "2")])]
def cxOps : List LocOp :=
  [.addRule {} "r1" rule2 0, .addRule {} "r2" rule2 0, .addRule {} "r1" rule1 1, .enableRule {} "r2" false 2,
   .addFact {} "f1" [("have", .str "chips")] 3, .addRule {} "r3" rule1 4, .addFact {} "r3" [("have", .str "salsa")] 5]
def cxLoc (k : Kind) : Loc := (Loc.fresh "home" k).run cxOps
def cxEv : Obj := [("wants", .str "tacos"), ("likes", .arr [.str "chips", .str "tacos"])]

/-- what the theorems below read off the instance, in one statement: the kernel runs the history once per kind. One
conjunct per line, so that the projections below can be checked by counting lines. -/
theorem cx_all (k : Kind) :
    (cxLoc k).st.facts.map (·.1) = ["r1", "r2", "!r2.disabled", "f1", "r3"] ∧
    (cxLoc k).st.kind = k ∧
    noneExpiredB (cxLoc k).st 7 = true ∧
    ruleShapesB (cxLoc k).st = true ∧
    whenFragB (cxLoc k).st = true ∧
    rulesValidB (cxLoc k).st = true ∧
    ruleMapsB (cxLoc k).st = true ∧
    LocP.guardsVerdict {} 7 (cxLoc k) (guardsOf "searchRules") = .ok () ∧
    (ruleDisabled (cxLoc k).st.facts "r2" 7 = true ∧ ruleDisabled (cxLoc k).st.facts "r1" 7 = false) ∧
    (cxLoc k).st.facts.all (fun e => !(e.1 == "r3") || (whenOf e.2).isNone) = true ∧
    (cxLoc k).name = "home" ∧
    (amGet (cxLoc k).st.facts (genPropId "" "parents")).isNone = true := by
  cases k <;> decide +kernel

theorem cx_ids (k : Kind) : (cxLoc k).st.facts.map (·.1) = ["r1", "r2", "!r2.disabled", "f1", "r3"] := (cx_all k).1

theorem cx_kind (k : Kind) : (cxLoc k).st.kind = k := (cx_all k).2.1

theorem cx_good (k : Kind) : StGood (cxLoc k).st := stGood_history "home" k cxOps

theorem cx_noneExpired (k : Kind) : NoneExpired (cxLoc k).st 7 := noneExpired_of_check (cx_all k).2.2.1

theorem cx_shapes (k : Kind) : RuleShapes (cxLoc k).st := ruleShapes_of_b (cx_all k).2.2.2.1

theorem cx_whenFrag (k : Kind) : WhenFrag (cxLoc k).st := whenFrag_of_b (cx_all k).2.2.2.2.1

theorem cx_valid (k : Kind) : RulesValid (cxLoc k).st := rulesValid_of_b (cx_all k).2.2.2.2.2.1

theorem cx_maps (k : Kind) : RuleMaps (cxLoc k).st := ruleMaps_of_b (cx_all k).2.2.2.2.2.2.1

theorem cx_ev : EvOK cxEv = true ∧ dataOK (.obj cxEv) = true := by decide +kernel

theorem cx_guards (k : Kind) : LocP.guardsVerdict {} 7 (cxLoc k) (guardsOf "searchRules") = .ok () :=
  (cx_all k).2.2.2.2.2.2.2.1

theorem cx_disabled (k : Kind) : ruleDisabled (cxLoc k).st.facts "r2" 7 = true ∧ ruleDisabled (cxLoc k).st.facts "r1" 7 = false :=
  (cx_all k).2.2.2.2.2.2.2.2.1

theorem cx_r3 (k : Kind) : ∀ f, ("r3", f) ∈ (cxLoc k).st.facts → whenOf f = none := by
  intro f hf
  simpa using List.all_eq_true.1 (cx_all k).2.2.2.2.2.2.2.2.2.1 ("r3", f) hf

theorem cx_sys (k : Kind) : (cxLoc k).name = "home" ∧ amGet (cxLoc k).st.facts (genPropId "" "parents") = none ∧
    Sys.get? [("home", cxLoc k)] "home" = some (cxLoc k) :=
  ⟨(cx_all k).2.2.2.2.2.2.2.2.2.2.1, Option.isNone_iff_eq_none.1 (cx_all k).2.2.2.2.2.2.2.2.2.2.2,
    by simp [Sys.get?, amGet]⟩

theorem cx_idx (k : Kind) : (cxLoc k).st.kind = .indexed →
    IReach (cxLoc k).st ∧ WhenFrag (cxLoc k).st ∧ EvOK cxEv = true ∧ dataOK (.obj cxEv) = true :=
  fun hk => ⟨(cx_good k).2 hk, cx_whenFrag k, cx_ev.1, cx_ev.2⟩

/-- the dispatch specification does not fail on the instance (needed as a hypothesis for the linear kind only) -/
theorem cx_spec (k : Kind) : ∃ out, specDispatchLocal (cxLoc k).st.facts cxEv 7 = .ok out :=
  specDispatchLocal_total_frag (cx_whenFrag k) cx_ev.2

end ComposeEx
