import RulioProofs.PatIndexBase
import RulioProofs.StateRi
import RulioProofs.PrepareFact

/-! # Pattern index: an index transaction under one id, for the abstract history and the state alike (C01)

`P : String → Option Obj` says which pattern is indexed under which id: `amGet s.rules` for the abstract history `IdxSt`,
`patOf s.facts` (the `when` of the stored, non-scheduled rule) for the state `St`.  `Swap P P' ri ri'` lists what an index
transaction under one id may do to the trie and to `P`.  Both halves of the index invariant — every indexed pattern's id
sits at the end of its path (`IndexedBy`), nothing else sits anywhere (`SoundBy`) — are kept by every `Swap`, proved once;
`IdxSt.add` and `IdxSt.rem` are `Swap`s (here), `St.iadd` and one removal of the state too (`PatIndexState`), through
`ModSpec.mem_add` / `mem_rem` and never into `PI.mod`.

The file begins with what `whenOf` is in terms of `ExtractRule`, the `schedule` test and `GetRulePatterns` (`ruleWhen` …
`ruleWhen_getRulePattern`; `ComposeLoc` has the other reading, `whenOf_eq_some`).  Everything stands in `namespace PI`, these
lemmas and `IdxSt.add_swap`, `IdxSt.rem_swap` too. -/

namespace PI

/-! ## the `when` pattern of a stored rule, in terms of `ExtractRule` / `GetRulePatterns` -/

/-- the indexed pattern of a rule body: none for a scheduled rule -/
def ruleWhen (r : Obj) : Option Obj :=
  if Obj.has r "schedule" then none else
  match Obj.get? r "when" with
  | some (.obj w) => (match Obj.get? w "pattern" with | some (.obj p) => some p | none => some w | _ => none)
  | _ => none

theorem whenOf_eq (fact : Obj) :
    whenOf fact = (match fact.get? "rule" with | some (.obj r) => ruleWhen r | _ => none) := by
  unfold whenOf ruleWhen
  rfl

theorem ruleWhen_set_expires (r : Obj) (e : J) : ruleWhen (Obj.set r "expires" e) = ruleWhen r := by
  unfold ruleWhen Obj.has
  have h1 : Obj.get? (Obj.set r "expires" e) "schedule" = Obj.get? r "schedule" := by
    rw [Obj.get?_set]; simp
  have h2 : Obj.get? (Obj.set r "expires" e) "when" = Obj.get? r "when" := by
    rw [Obj.get?_set]; simp
  unfold Obj.get? at h1 h2
  unfold Obj.get?
  rw [h1, h2]

/-- `ruleWhen` of a rule body that may be absent (`ExtractRule` found none) -/
def optWhen (o : Option Obj) : Option Obj := match o with | some r => ruleWhen r | none => none

theorem whenOf_nonobj {fact : Obj} (h : ∀ r, fact.get? "rule" ≠ some (.obj r)) : whenOf fact = none := by
  rw [whenOf_eq]
  rcases hv : fact.get? "rule" with _ | (_ | _ | _ | _ | _ | r) <;> first | rfl | exact absurd hv (h r)

/-- `whenOf` of a stored fact is what `ExtractRule` + `schedule` test + `GetRulePatterns` see -/
theorem whenOf_extractRule (fact : Obj) :
    whenOf fact = (match extractRule fact false with | .ok (some r, _) => ruleWhen r | _ => none) := by
  rw [whenOf_eq]
  by_cases hr : ∃ r, fact.get? "rule" = some (.obj r)
  · obtain ⟨r, hr⟩ := hr
    rw [extractRule_obj hr, hr]
    cases fact.get? "expires" with
    | none => rfl
    | some e => exact (ruleWhen_set_expires r e).symm
  · rw [extractRule_nonobj fun r e => hr ⟨r, e⟩, ← whenOf_eq]
    exact whenOf_nonobj fun r e => hr ⟨r, e⟩

theorem whenOf_extractRule_snd {fact fact' : Obj} {rule : Option Obj}
    (h : extractRule fact false = .ok (rule, fact')) :
    whenOf fact' = optWhen rule := by
  by_cases hr : ∃ r, fact.get? "rule" = some (.obj r)
  · obtain ⟨r, hr⟩ := hr
    rw [extractRule_obj hr] at h
    split at h <;> cases h
    · rw [whenOf_eq, Obj.get?_set_self]; rfl
    · rw [whenOf_eq, hr]; rfl
  · rw [extractRule_nonobj fun r e => hr ⟨r, e⟩] at h
    cases h
    exact whenOf_nonobj fun r e => hr ⟨r, e⟩

theorem whenOf_storedRule (fact : Obj) : whenOf fact = optWhen (storedRule fact) := by
  rw [whenOf_extractRule]
  unfold storedRule
  rcases extractRule fact false with e | ⟨_ | r, _⟩ <;> rfl

theorem ruleWhen_eq (r : Obj) :
    ruleWhen r = if Obj.has r "schedule" then none else
      (match getRulePattern r with | .ok o => o | .error _ => none) := by
  unfold ruleWhen getRulePattern
  split
  · rfl
  · cases Obj.get? r "when" with
    | none => rfl
    | some w =>
      cases w with
      | obj w =>
        dsimp only
        cases Obj.get? w "pattern" with
        | none => rfl
        | some p => cases p <;> rfl
      | _ => rfl

theorem ruleWhen_getRulePattern {r pat : Obj} (h : ruleWhen r = some pat) :
    Obj.has r "schedule" = false ∧ getRulePattern r = .ok (some pat) := by
  rw [ruleWhen_eq] at h
  split at h
  · cases h
  · next hs =>
    refine ⟨Bool.eq_false_iff.2 hs, ?_⟩
    cases hg : getRulePattern r with
    | error e => rw [hg] at h; cases h
    | ok o => rw [hg] at h; cases h; rfl

/-! ## the index actions are updates with a key -/

abbrev pathOf (p : Obj) : Option (List Edge) := path (mapToPairs p)

/-- where `indexRule` puts a rule body and `unindexRule` looks for it (neither tells a scheduled rule apart) -/
def ruleKey (r : Obj) : Option (List Edge) :=
  match getRulePattern r with | .ok (some pat) => pathOf pat | _ => none

/-- where a rule that may be absent or scheduled is indexed: the path of its `when`, in the terms of `whenOf` -/
def optKey (o : Option Obj) : Option (List Edge) := (optWhen o).bind pathOf

theorem optKey_some (r : Obj) : optKey (some r) = if Obj.has r "schedule" then none else ruleKey r := by
  unfold optKey optWhen ruleKey
  simp only [ruleWhen_eq]
  split
  · rfl
  · rcases getRulePattern r with e | _ | pat <;> rfl

theorem riRem_modSpec {ri ri' : PI} {id : String} {rule : Obj} (h : riRem ri id rule = .ok ri') :
    ModSpec ri ri' (ruleKey rule) (updIds id false) := by
  unfold riRem at h; unfold ruleKey
  revert h
  rcases getRulePattern rule with e | _ | pat <;> intro h
  · cases h
  · cases h; exact ModSpec.refl _ _
  · simp only [] at h ⊢
    split at h <;> cases h
    exact (piRem_spec ri pat id).2

theorem riAdd_modSpec (ri : PI) (id : String) (rule : Obj) :
    ModSpec ri (riAdd ri id rule).1 (ruleKey rule) (updIds id true) ∧
    ((riAdd ri id rule).2 = none ↔ (ruleKey rule).isSome = true) := by
  unfold riAdd ruleKey
  rcases getRulePattern rule with e | _ | pat
  · exact ⟨ModSpec.refl _ _, by simp⟩
  · exact ⟨ModSpec.refl _ _, by simp⟩
  · refine ⟨(piAdd_spec ri pat id).2, ?_⟩
    rw [← (piAdd_spec ri pat id).1]; simp

theorem riOpt_modSpec (ri : PI) (id : String) (o : Option Obj) :
    ModSpec ri (riOpt ri id o).1 (optKey o) (updIds id true) ∧
    ((riOpt ri id o).2 = none → ∀ p, optWhen o = some p → (pathOf p).isSome = true) ∧
    ((riOpt ri id o).2 ≠ none → optKey o = none) := by
  rcases o with _ | r
  · exact ⟨ModSpec.refl _ _, fun _ _ h => (nomatch h), fun h => absurd rfl h⟩
  rw [optKey_some]
  unfold riOpt
  simp only []
  split
  · next hs =>
    refine ⟨ModSpec.refl _ _, fun _ p h => ?_, fun h => absurd rfl h⟩
    rw [(ruleWhen_getRulePattern h).1] at hs; cases hs
  · obtain ⟨i2, i3⟩ := riAdd_modSpec ri id r
    refine ⟨i2, fun he p h => ?_, fun he => ?_⟩
    · have := i3.1 he
      unfold ruleKey at this
      rwa [(ruleWhen_getRulePattern h).2] at this
    · cases hk : ruleKey r with
      | none => rfl
      | some π => exact absurd (i3.2 (by rw [hk]; rfl)) he

/-- the key cleared when a stored rule leaves the index covers the key `whenOf` sees: `unindexRule` also runs on a
scheduled rule -/
theorem riRemOpt_modSpec {ri ri1 : PI} {id : String} {old : Option Obj} (h : riRemOpt ri id old = .ok ri1) :
    ∃ krm, ModSpec ri ri1 krm (updIds id false) ∧ ∀ ρ, optKey old = some ρ → krm = some ρ := by
  unfold riRemOpt at h
  rcases old with _ | o
  · cases h; exact ⟨none, ModSpec.refl _ _, fun _ h => nomatch h⟩
  · refine ⟨ruleKey o, riRem_modSpec h, fun ρ h => ?_⟩
    rw [optKey_some] at h; split at h
    · cases h
    · exact h

/-- **what the index transaction of `add` does to the trie**: it aborts and leaves the trie alone; or it clears a key
that covers the key of `old` and enters the key of `rule` (accepted) or of `old` (rejected: put back) -/
theorem swap_spec (ri : PI) (id : String) (old rule : Option Obj) :
    ((swap ri id old rule).1 = ri ∧ (swap ri id old rule).2 ≠ none) ∨
    ∃ krm, (∀ ρ, optKey old = some ρ → krm = some ρ) ∧
      ((swap ri id old rule).2 = none → ∀ p, optWhen rule = some p → (pathOf p).isSome = true) ∧
      (NodupIds ri → NodupIds (swap ri id old rule).1 ∧ ∀ ρ y, y ∈ idsAt (swap ri id old rule).1 ρ ↔
        (y ∈ idsAt ri ρ ∧ ¬ (y = id ∧ krm = some ρ)) ∨
        (y = id ∧ (match (swap ri id old rule).2 with | none => optKey rule | some _ => optKey old) = some ρ)) := by
  unfold swap
  cases hr : riRemOpt ri id old with
  | error e => exact .inl ⟨rfl, by simp⟩
  | ok ri1 =>
    obtain ⟨krm, hm1, hk⟩ := riRemOpt_modSpec hr
    obtain ⟨j2, j3, j4⟩ := riOpt_modSpec ri1 id rule
    refine .inr ⟨krm, hk, ?_⟩
    simp only []
    rcases hio : riOpt ri1 id rule with ⟨ri2, _ | e⟩ <;> rw [hio] at j2 j3 j4 <;> dsimp only at j2 j3 j4 ⊢
    · refine ⟨fun _ => j3 rfl, fun hn => ⟨j2.nodup (hm1.nodup hn), fun ρ y => ?_⟩⟩
      rw [j2.mem_add, hm1.mem_rem hn]
    · obtain ⟨l2, _, _⟩ := riOpt_modSpec ri2 id old
      rw [j4 (by simp)] at j2
      refine ⟨fun h => (nomatch h), fun hn => ⟨l2.nodup (j2.nodup (hm1.nodup hn)), fun ρ y => ?_⟩⟩
      rw [l2.mem_add, j2.mem_add, hm1.mem_rem hn]; simp

/-! ## the interface: an index transaction as the state proofs see it -/

/-- every indexed pattern has a path, and its id sits on the node at the end of it -/
def IndexedBy (P : String → Option Obj) (ri : PI) : Prop :=
  ∀ id p, P id = some p → ∃ π, pathOf p = some π ∧ id ∈ idsAt ri π

/-- an id sits on a node only if the path of the pattern indexed under it ends there -/
def SoundBy (P : String → Option Obj) (ri : PI) : Prop :=
  ∀ π id, id ∈ idsAt ri π → (P id).bind pathOf = some π

/-- **an index transaction under one id.**  Either nothing moved; or, under one id: the key `krm` was cleared (it covers
the key the id had) and the key of the id's pattern afterwards was entered; the other ids keep their patterns; the id's
pattern is as before or has a path. -/
def Swap (P P' : String → Option Obj) (ri ri' : PI) : Prop :=
  ((∀ y, P' y = P y) ∧ ri' = ri) ∨
  ∃ id krm, (∀ ρ, (P id).bind pathOf = some ρ → krm = some ρ) ∧ (∀ y, y ≠ id → P' y = P y) ∧
    (P' id = P id ∨ ∀ p, P' id = some p → (pathOf p).isSome = true) ∧
    (NodupIds ri → NodupIds ri' ∧ ∀ ρ y, y ∈ idsAt ri' ρ ↔
        (y ∈ idsAt ri ρ ∧ ¬ (y = id ∧ krm = some ρ)) ∨ (y = id ∧ (P' id).bind pathOf = some ρ))

section
variable {P P' : String → Option Obj} {ri ri' : PI}

theorem Swap.indexed (h : Swap P P' ri ri') (hn : NodupIds ri) (hi : IndexedBy P ri) :
    NodupIds ri' ∧ IndexedBy P' ri' := by
  rcases h with ⟨hP, rfl⟩ | ⟨id, krm, _, hoth, hid, hmem⟩
  · exact ⟨hn, fun id p h => hi id p (hP id ▸ h)⟩
  obtain ⟨hn', hmem⟩ := hmem hn
  refine ⟨hn', fun id' p hp => ?_⟩
  by_cases hne : id' = id
  · subst hne
    have hπ : ∃ π, pathOf p = some π := by
      rcases hid with h | h
      · obtain ⟨π, hπ, _⟩ := hi id' p (h ▸ hp); exact ⟨π, hπ⟩
      · exact Option.isSome_iff_exists.1 (h p hp)
    obtain ⟨π, hπ⟩ := hπ
    exact ⟨π, hπ, (hmem π id').2 (.inr ⟨rfl, by rw [hp]; exact hπ⟩)⟩
  · obtain ⟨π, hπ, hm⟩ := hi id' p (hoth id' hne ▸ hp)
    exact ⟨π, hπ, (hmem π id').2 (.inl ⟨hm, fun h => hne h.1⟩)⟩

theorem Swap.sound (h : Swap P P' ri ri') (hn : NodupIds ri) (hs : SoundBy P ri) : SoundBy P' ri' := by
  rcases h with ⟨hP, rfl⟩ | ⟨id, krm, hkrm, hoth, _, hmem⟩
  · exact fun π y hy => hP y ▸ hs π y hy
  intro π y hy
  rcases ((hmem hn).2 π y).1 hy with ⟨hy, hne⟩ | ⟨rfl, hk⟩
  · have hk := hs π y hy
    -- `y` is not the id of the transaction: its key would have been cleared
    rwa [hoth y fun h => hne ⟨h, hkrm π (h ▸ hk)⟩]
  · exact hk

end

/-! ## the abstract history -/

theorem IdxSt.add_swap (s : IdxSt) (id : String) (p : Obj) :
    Swap (amGet s.rules) (amGet (s.add id p).rules) s.ri (s.add id p).ri := by
  unfold IdxSt.add
  dsimp only
  split
  · exact .inl ⟨fun _ => rfl, rfl⟩
  · next ri1 hr1 =>
    obtain ⟨k, hm1, hk⟩ : ∃ k, ModSpec s.ri ri1 k (updIds id false) ∧
        (∀ ρ, (amGet s.rules id).bind pathOf = some ρ → k = some ρ) := by
      cases hprev : amGet s.rules id with
      | none => rw [hprev] at hr1; cases hr1; exact ⟨none, ModSpec.refl _ _, fun _ h => nomatch h⟩
      | some q =>
        rw [hprev] at hr1
        have := (piRem_spec s.ri q id).2
        dsimp only at hr1
        rw [hr1] at this
        exact ⟨pathOf q, this, fun _ h => h⟩
    have hsp := piAdd_spec ri1 p id
    rcases hpa : piAdd ri1 p id with ⟨ri2, _ | e2⟩ <;> rw [hpa] at hsp <;> dsimp only at hsp ⊢
    · refine .inr ⟨id, k, hk, fun y hne => by simp [AM.amGet_amSet, hne], .inr fun p' hp' => ?_, fun hn => ?_⟩
      · simp only [AM.amGet_amSet, if_true, Option.some.injEq] at hp'
        subst hp'; exact hsp.1.1 rfl
      · refine ⟨hsp.2.nodup (hm1.nodup hn), fun ρ y => ?_⟩
        rw [hsp.2.mem_add, hm1.mem_rem hn]
        simp [AM.amGet_amSet]
    · -- the new pattern is rejected: it has no path, and the previous one is put back
      have hnone : path (mapToPairs p) = none := by
        cases h : path (mapToPairs p) with
        | none => rfl
        | some π => exact absurd (hsp.1.2 (by rw [h]; rfl)) (by simp)
      have hm2 := hsp.2
      rw [hnone] at hm2
      cases hprev : amGet s.rules id with
      | none =>
        refine .inr ⟨id, k, hk, fun _ _ => rfl, .inl rfl, fun hn => ⟨hm2.nodup (hm1.nodup hn), fun ρ y => ?_⟩⟩
        show y ∈ idsAt ri2 ρ ↔ _
        rw [hm2.mem_add, hm1.mem_rem hn]; simp [hprev]
      | some q =>
        have hm3 := (piAdd_spec ri2 q id).2
        refine .inr ⟨id, k, hk, fun _ _ => rfl, .inl rfl,
          fun hn => ⟨hm3.nodup (hm2.nodup (hm1.nodup hn)), fun ρ y => ?_⟩⟩
        show y ∈ idsAt (piAdd ri2 q id).1 ρ ↔ _
        rw [hm3.mem_add, hm2.mem_add, hm1.mem_rem hn]; simp [hprev]

theorem IdxSt.rem_swap (s : IdxSt) (id : String) :
    Swap (amGet s.rules) (amGet (s.rem id).rules) s.ri (s.rem id).ri := by
  unfold IdxSt.rem
  cases hprev : amGet s.rules id with
  | none => exact .inl ⟨fun _ => rfl, rfl⟩
  | some q =>
    dsimp only
    have hsp := (piRem_spec s.ri q id).2
    rcases hpr : piRem s.ri q id with ⟨ri1, _ | e⟩ <;> rw [hpr] at hsp <;> dsimp only at hsp ⊢
    · refine .inr ⟨id, pathOf q, fun ρ h => by rw [hprev] at h; exact h, fun y hne => by simp [AM.amGet_amErase, hne],
        .inr fun p hp => (by simp [AM.amGet_amErase] at hp), fun hn => ⟨hsp.nodup hn, fun ρ y => ?_⟩⟩
      rw [hsp.mem_rem hn]; simp [AM.amGet_amErase]
    · exact .inl ⟨fun _ => rfl, rfl⟩

/-- the invariant of the abstract history: id lists duplicate free, every stored pattern indexed (`Indexed ri rules` is
`IndexedBy (amGet rules) ri` unfolded, which is how `Swap.indexed` applies below) -/
def HInv (s : IdxSt) : Prop := NodupIds s.ri ∧ Indexed s.ri s.rules

theorem hinv_init : HInv {} :=
  ⟨nodupIds_empty, fun id p h => by simp [amGet] at h⟩

theorem hinv_run : ∀ (ops : List IOp) (s : IdxSt), HInv s → HInv (s.run ops)
  | [], _, h => h
  | op :: ops, s, h => by
    unfold IdxSt.run; rw [List.foldl_cons]
    refine hinv_run ops (s.step op) ?_
    cases op with
    | add id p => exact (IdxSt.add_swap s id p).indexed h.1 h.2
    | rem id => exact (IdxSt.rem_swap s id).indexed h.1 h.2

end PI
