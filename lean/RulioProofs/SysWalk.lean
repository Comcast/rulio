import RulioProofs.SysBasic

open AM

/-! # The ancestor walk `doAncestors`: unfolding, the rule for two runs side by side, invariants, fuel -/

theorem doAncestors_loop_eq_walkList {α} (n : String) (now : Int) (fn : String → LM α) (path : List String) (fuel : Nat)
    (ps : List String) : ∀ (fuel' : Nat) (sys : Sys) (acc : List α), ps.length + 1 ≤ fuel' →
    doAncestors.loop n now fn path fuel fuel' sys ps acc =
      walkList (fun s p a => doAncestors fuel s p now fn a (n :: path)) n sys ps acc := by
  induction ps with
  | nil =>
    intro fuel' sys acc h
    obtain ⟨f, rfl⟩ : ∃ f, fuel' = f + 1 := ⟨fuel' - 1, by omega⟩
    rw [doAncestors.loop.eq_2, walkList]
  | cons p rest ih =>
    intro fuel' sys acc h
    obtain ⟨f, rfl⟩ : ∃ f, fuel' = f + 1 := ⟨fuel' - 1, by omega⟩
    rw [doAncestors.loop.eq_3, walkList]
    by_cases hpn : (p == n) = true
    · simp only [hpn, if_true]
    · simp only [hpn, if_false, Bool.false_eq_true]
      cases hg : sys.get? p with
      | none => rfl
      | some l =>
        simp only []
        cases hd : doAncestors fuel sys p now fn acc (n :: path) with
        | mk s2 r =>
          cases r with
          | error e => rfl
          | ok a2 =>
            simp only []
            apply ih
            simp at h; omega

theorem doAncestors_succ {α} (fuel : Nat) (sys : Sys) (n : String) (now : Int) (fn : String → LM α)
    (acc : List α) (path : List String) :
    doAncestors (fuel + 1) sys n now fn acc path =
      if path.contains n then (sys, .error "loop") else
      match sys.at n (locGetParentsRaw now) with
      | (sys1, .error e) => (sys1, .error e)
      | (sys1, .ok parents) =>
        if noProv sys1 n parents then (sys1, .error "noProvider") else
        match walkList (fun s p a => doAncestors fuel s p now fn a (n :: path)) n sys1 parents acc with
        | (sys2, .error e) => (sys2, .error e)
        | (sys2, .ok acc2) =>
          match sys2.at n (fn n) with
          | (sys3, .error e) => (sys3, .error e)
          | (sys3, .ok a) => (sys3, .ok (acc2 ++ [a])) := by
  rw [doAncestors.eq_2]
  simp only [doAncestors_loop_eq_walkList _ _ _ _ _ _ _ _ _ (Nat.le_refl _), noProv]
  rfl

theorem doAncestors_succ_of_read {α} {sys s1 : Sys} {n : String} {now : Int} {ps : List String}
    (h : sys.at n (locGetParentsRaw now) = (s1, .ok ps)) {path : List String} (hp : path.contains n = false)
    (fuel : Nat) (fn : String → LM α) (acc : List α) :
    doAncestors (fuel + 1) sys n now fn acc path =
      if noProv s1 n ps then (s1, .error "noProvider") else
      match walkList (fun s p a => doAncestors fuel s p now fn a (n :: path)) n s1 ps acc with
      | (sys2, .error e) => (sys2, .error e)
      | (sys2, .ok acc2) =>
        match sys2.at n (fn n) with
        | (sys3, .error e) => (sys3, .error e)
        | (sys3, .ok a) => (sys3, .ok (acc2 ++ [a])) := by
  rw [doAncestors_succ, h, hp]; rfl

theorem doAncestors_leaf {α} {sys s1 : Sys} {n : String} {now : Int} (h : sys.at n (locGetParentsRaw now) = (s1, .ok []))
    (fuel : Nat) (fn : String → LM α) (acc : List α) :
    doAncestors (fuel + 1) sys n now fn acc [] =
      match s1.at n (fn n) with
      | (s3, .error e) => (s3, .error e)
      | (s3, .ok a) => (s3, .ok (acc ++ [a])) := by
  rw [doAncestors_succ_of_read h rfl]; rfl

/-! ## the rule for the walk

Two runs of the walk side by side: from two systems, or at two fuels; one run is the case `R s1 s2 := s1 = s2 ∧ I s1`. -/

/-- the answers `p1`, `p2` of two `Sys`-level computations run side by side: the same value or the same error, a value in
`Q`, an error in `E`, and the systems left related by `R` -/
structure WalkPost {β} (R : Sys → Sys → Prop) (Q : β → Prop) (E : LErr → Prop) (p1 p2 : Sys × Except LErr β) : Prop where
  out : p1.2 = p2.2
  rel : R p1.1 p2.1
  ok : ∀ b, p1.2 = .ok b → Q b
  err : ∀ e, p1.2 = .error e → E e

theorem WalkPost.error {β} {R : Sys → Sys → Prop} {Q : β → Prop} {E : LErr → Prop} {s1 s2 : Sys} {e : LErr} (h : R s1 s2)
    (he : E e) : WalkPost R Q E (s1, .error e) (s2, .error e) :=
  ⟨rfl, h, nofun, fun _ h' => by cases h'; exact he⟩

theorem WalkPost.value {β} {R : Sys → Sys → Prop} {Q : β → Prop} {E : LErr → Prop} {s1 s2 : Sys} {b : β} (h : R s1 s2)
    (hb : Q b) : WalkPost R Q E (s1, .ok b) (s2, .ok b) :=
  ⟨rfl, h, fun _ h' => by cases h'; exact hb, nofun⟩

theorem WalkPost.cases {β} {R : Sys → Sys → Prop} {Q : β → Prop} {E : LErr → Prop} {p1 p2 : Sys × Except LErr β}
    (h : WalkPost R Q E p1 p2) : ∃ s1 s2 r, p1 = (s1, r) ∧ p2 = (s2, r) ∧ WalkPost R Q E (s1, r) (s2, r) :=
  ⟨p1.1, p2.1, p1.2, rfl, by rw [h.out], by have := h; rwa [show p2 = (p2.1, p1.2) by rw [h.out]] at this⟩

/-- What the two `at` steps of the walk (the parent read, `fn`) promise when run side by side from systems related by `R`
at a name in `V`. The first run has `fuel`, the second `fuel + d`; `G fuel path` is an invariant of (fuel left, path) that
descending keeps. Where the fuel does not matter, `d = 0` and `G` is `fun _ _ => True`; in `doAncestors_fits` `G` bounds the
path by the fuel, so that `G 0 path` cannot hold. -/
structure WalkSpec {α} (now : Int) (fn : String → LM α) (R : Sys → Sys → Prop) (V : String → Prop)
    (A : List α → Prop) (E : LErr → Prop) (d : Nat) (G : Nat → List String → Prop) : Prop where
  /-- the errors the walk raises itself are allowed -/
  loop : E "loop"
  noProvider : E "noProvider"
  notFound : E "notFound"
  /-- if the first run can be out of fuel then so is the second, and `"diverge"` is an allowed error -/
  zero : ∀ path, G 0 path → d = 0 ∧ E "diverge"
  /-- `G` goes down with the walk: one unit of fuel less, a known name not on the path more -/
  down : ∀ fuel s1 s2 n path, R s1 s2 → s1.get? n ≠ none → G (fuel + 1) path → ¬ path.contains n = true → G fuel (n :: path)
  /-- related systems hold the same location under a name of `V` (for the tests the walk makes between its steps) -/
  agree : ∀ s1 s2 p, R s1 s2 → V p → s1.get? p = s2.get? p
  /-- the parent read: `R` again, the same answer, parents that all lie in `V`, an error in `E` -/
  read : ∀ s1 s2 n, R s1 s2 → V n →
    WalkPost R (fun ps => ∀ p ∈ ps, V p) E (s1.at n (locGetParentsRaw now)) (s2.at n (locGetParentsRaw now))
  /-- the visit: `R` again, the same answer, a value that keeps `A` of the list gathered, an error in `E` -/
  visit : ∀ s1 s2 n, R s1 s2 → V n →
    WalkPost R (fun a => ∀ acc, A acc → A (acc ++ [a])) E (s1.at n (fn n)) (s2.at n (fn n))

theorem walkList_rule {α} {R : Sys → Sys → Prop} {V : String → Prop} {A : List α → Prop} {E : LErr → Prop}
    {step1 step2 : Sys → String → List α → Sys × Except LErr (List α)} {n : String} (hl : E "loop") (hnf : E "notFound")
    (hag : ∀ s1 s2 p, R s1 s2 → V p → s1.get? p = s2.get? p)
    (hstep : ∀ s1 s2 p a, R s1 s2 → V p → A a → WalkPost R A E (step1 s1 p a) (step2 s2 p a))
    (ps : List String) (hps : ∀ p ∈ ps, V p) (s1 s2 : Sys) (acc : List α) (hr : R s1 s2) (ha : A acc) :
    WalkPost R A E (walkList step1 n s1 ps acc) (walkList step2 n s2 ps acc) := by
  fun_induction walkList step1 n s1 ps acc generalizing s2 with
  | case1 => exact .value hr ha
  | case2 _ _ _ _ hpn => rw [walkList, if_pos hpn]; exact .error hr hl
  | case3 _ p _ _ hpn hg => rw [walkList, if_neg hpn, ← hag _ _ p hr (hps p (by simp)), hg]; exact .error hr hnf
  | case4 s1 p _ acc hpn _ hg _ _ hs =>
    have hp := hps p (by simp)
    obtain ⟨t1, t2, r, e1, e2, h⟩ := (hstep s1 s2 p acc hr hp ha).cases
    rw [walkList, if_neg hpn, ← hag _ _ p hr hp, hg, e2]
    cases (hs.symm.trans e1)
    exact .error h.rel (h.err _ rfl)
  | case5 s1 p _ acc hpn _ hg _ _ hs ih =>
    have hp := hps p (by simp)
    obtain ⟨t1, t2, r, e1, e2, h⟩ := (hstep s1 s2 p acc hr hp ha).cases
    rw [walkList, if_neg hpn, ← hag _ _ p hr hp, hg, e2]
    cases (hs.symm.trans e1)
    exact ih (fun q hq => hps q (by simp [hq])) t2 h.rel (h.ok _ rfl)

theorem doAncestors_rule {α} {now : Int} {fn : String → LM α} {R : Sys → Sys → Prop} {V : String → Prop}
    {A : List α → Prop} {E : LErr → Prop} {d : Nat} {G : Nat → List String → Prop} (h : WalkSpec now fn R V A E d G)
    (fuel : Nat) : ∀ (s1 s2 : Sys) (n : String) (acc : List α) (path : List String),
      R s1 s2 → V n → A acc → G fuel path →
      WalkPost R A E (doAncestors fuel s1 n now fn acc path) (doAncestors (fuel + d) s2 n now fn acc path) := by
  induction fuel with
  | zero =>
    intro s1 s2 n acc path hr _ _ hg
    obtain ⟨hd, he⟩ := h.zero path hg
    rw [hd, Nat.add_zero, doAncestors, doAncestors]; exact .error hr he
  | succ fuel ih =>
    intro s1 s2 n acc path hr hn ha hg
    rw [Nat.add_right_comm, doAncestors_succ, doAncestors_succ]
    by_cases hc : path.contains n = true
    · rw [if_pos hc, if_pos hc]; exact .error hr h.loop
    rw [if_neg hc, if_neg hc]
    obtain ⟨t1, t2, r, e1, e2, h1⟩ := (h.read s1 s2 n hr hn).cases
    rw [e1, e2]
    cases r with
    | error e => exact .error h1.rel (h1.err _ rfl)
    | ok ps =>
    dsimp only
    have hnp : noProv t2 n ps = noProv t1 n ps := by unfold noProv; rw [h.agree _ _ n h1.rel hn]
    rw [hnp]
    cases hnp1 : noProv t1 n ps with
    | true => exact .error h1.rel h.noProvider
    | false =>
    simp only [Bool.false_eq_true, if_false]
    have hk : s1.get? n ≠ none := by obtain ⟨l, hl, _⟩ := Sys.at_ok_get? e1; simp [hl]
    obtain ⟨u1, u2, q, w1, w2, h2⟩ := (walkList_rule (n := n) h.loop h.notFound h.agree
      (fun s1' s2' p a hs hp ha' => ih s1' s2' p a (n :: path) hs hp ha' (h.down fuel s1 s2 n path hr hk hg hc))
      ps (h1.ok ps rfl) t1 t2 acc h1.rel ha).cases
    rw [w1, w2]
    cases q with
    | error e => exact .error h2.rel (h2.err _ rfl)
    | ok acc2 =>
    dsimp only
    obtain ⟨v1, v2, x, f1', f2', h3⟩ := (h.visit u1 u2 n h2.rel hn).cases
    rw [f1', f2']
    cases x with
    | error e => exact .error h3.rel (h3.err _ rfl)
    | ok a => exact .value h3.rel (h3.ok a rfl acc2 (h2.ok acc2 rfl))

theorem doAncestors_inv {α} (I : Sys → Prop) {now : Int} {fn : String → LM α}
    (hget : ∀ s n, I s → I (s.at n (locGetParentsRaw now)).1)
    (hfn : ∀ s n, I s → I (s.at n (fn n)).1) (fuel : Nat) :
    ∀ (sys : Sys) (n : String) (acc : List α) (path : List String), I sys →
      I (doAncestors fuel sys n now fn acc path).1 :=
  fun sys n acc path h =>
  (doAncestors_rule (R := fun s1 s2 => s1 = s2 ∧ I s1) (V := fun _ => True) (A := fun _ => True) (E := fun _ => True)
    (d := 0) (G := fun _ _ => True)
    { loop := trivial, noProvider := trivial, notFound := trivial
      zero := fun _ _ => ⟨rfl, trivial⟩, down := fun _ _ _ _ _ _ _ _ _ => trivial
      agree := fun _ _ _ ⟨e, _⟩ _ => e ▸ rfl
      read := fun s _ n ⟨e, hs⟩ _ => e ▸ ⟨rfl, ⟨rfl, hget s n hs⟩, fun _ _ _ _ => trivial, fun _ _ => trivial⟩
      visit := fun s _ n ⟨e, hs⟩ _ => e ▸ ⟨rfl, ⟨rfl, hfn s n hs⟩, fun _ _ _ _ => trivial, fun _ _ => trivial⟩ }
    fuel sys sys n acc path ⟨rfl, h⟩ trivial trivial trivial).rel.2

theorem PathOK.length_le {sys : Sys} {path : List String} (h : PathOK sys path) : path.length ≤ sys.length := by
  rw [Sys.length_eq_keys]; exact h.1.length_le_of_subset h.2

theorem PathOK.step {sys : Sys} {path : List String} {n : String} {fuel : Nat} (hp : PathOK sys path)
    (hb : sys.length + 1 ≤ fuel + 1 + path.length) (hn : n ∈ sys.keys)
    (hnot : ¬ path.contains n = true) : PathOK sys (n :: path) ∧ sys.length + 1 ≤ fuel + (n :: path).length := by
  refine ⟨⟨List.nodup_cons.2 ⟨fun hmem => hnot (by simpa using hmem), hp.1⟩, fun p hpm => ?_⟩, ?_⟩
  · rcases List.mem_cons.1 hpm with h | h
    · rw [h]; exact hn
    · exact hp.2 p h
  · rw [List.length_cons]; omega

theorem Sys.at_nd {α} (sys : Sys) (n : String) {m : LM α} (hm : m.NoDiv) : ND (sys.at n m).2 := by
  unfold Sys.at
  split
  · exact ND.lit (by simp)
  · exact hm _

/-- names on the path are distinct known names, so `sys.length < fuel + path.length` keeps the walk off its fuel-0
branch: more fuel changes nothing, and `"diverge"` is answered only if the read or `fn` answer it -/
theorem doAncestors_fits {α} {now : Int} {fn : String → LM α} (hfn : ∀ n, (fn n).KeepsName) {sys : Sys} (wf : SysWF sys)
    {path : List String} (hp : PathOK sys path) {fuel fuel' : Nat} (hb : sys.length + 1 ≤ fuel + path.length)
    (hle : fuel ≤ fuel') (n : String) (acc : List α) :
    doAncestors fuel' sys n now fn acc path = doAncestors fuel sys n now fn acc path ∧
      ((∀ m l, (fn m l).2 ≠ .error "diverge") → (∀ l, (locGetParentsRaw now l).2 ≠ .error "diverge") →
        (doAncestors fuel sys n now fn acc path).2 ≠ .error "diverge") :=
  -- one run at two fuels: the systems on the way are well-formed with the names of `sys`
  have spec : WalkSpec now fn (fun s1 s2 => s1 = s2 ∧ SysWF s1 ∧ s1.keys = sys.keys) (fun _ => True) (fun _ => True)
      (fun e => (∀ m l, (fn m l).2 ≠ .error "diverge") → (∀ l, (locGetParentsRaw now l).2 ≠ .error "diverge") →
        e ≠ "diverge")
      (fuel' - fuel) (fun fuel path => PathOK sys path ∧ sys.length + 1 ≤ fuel + path.length) :=
    { loop := fun _ _ => by decide
      noProvider := fun _ _ => by decide
      notFound := fun _ _ => by decide
      zero := fun path ⟨hp, hb⟩ => by have := hp.length_le; omega
      down := fun fuel s1 _ n path ⟨_, _, k⟩ hk ⟨hp, hb⟩ hc =>
        hp.step hb (k ▸ (Sys.get?_isSome_iff s1 n).1 (Option.isSome_iff_ne_none.2 hk)) hc
      agree := fun _ _ _ ⟨e, _⟩ _ => e ▸ rfl
      read := fun s1 _ n ⟨e, w, k⟩ _ => e ▸
        ⟨rfl, ⟨rfl, Sys.at_wf w _ _, (Sys.at_keys w n (locGetParentsRaw_via now).keepsId.keepsName).trans k⟩,
          fun _ _ _ _ => trivial, fun e he _ hrd => Sys.at_nd _ n (fun l => .of_ne (hrd l)) e he⟩
      visit := fun s1 _ n ⟨e, w, k⟩ _ => e ▸
        ⟨rfl, ⟨rfl, Sys.at_wf w _ _, (Sys.at_keys w n (hfn n)).trans k⟩,
          fun _ _ _ _ => trivial, fun e he hfnd _ => Sys.at_nd _ n (fun l => .of_ne (hfnd n l)) e he⟩ }
  have := doAncestors_rule spec fuel sys sys n acc path ⟨rfl, wf, rfl⟩ trivial trivial ⟨hp, hb⟩
  ⟨by rw [Nat.add_sub_cancel' hle] at this; exact (Prod.ext this.rel.1 this.out).symm,
    fun hfnd hrd hd => this.err _ hd hfnd hrd rfl⟩

/-- the model's own `ancestorFuel sys = sys.length + 2`, started with an empty path, is such a fuel -/
theorem doAncestors_fits_own {α} {now : Int} {fn : String → LM α} (hfn : ∀ n, (fn n).KeepsName) {sys : Sys} (wf : SysWF sys)
    {fuel' : Nat} (hle : ancestorFuel sys ≤ fuel') (n : String) (acc : List α) :
    doAncestors fuel' sys n now fn acc = doAncestors (ancestorFuel sys) sys n now fn acc ∧
      ((∀ m l, (fn m l).2 ≠ .error "diverge") → (∀ l, (locGetParentsRaw now l).2 ≠ .error "diverge") →
        (doAncestors (ancestorFuel sys) sys n now fn acc).2 ≠ .error "diverge") :=
  doAncestors_fits hfn wf ⟨List.nodup_nil, by simp⟩ (by simp [ancestorFuel]) hle n acc
