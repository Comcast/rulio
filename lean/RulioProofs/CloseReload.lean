import RulioProofs.ReloadIndexed
import RulioProofs.StateC02
import RulioProofs.StateC08
import RulioProofs.PatIndexState
import RulioModel.CloseFrag

/-! # C06 for the indexed state: `Load` re-establishes the index invariants of a live state, and what follows for
observations on the reloaded state (composition of the C06 reload lemmas with the invariants of C01 / C02 / C08). Two invariants meet here: `IdxInvs`
(CloseFrag: `WF` with `StIdx`) and `IdxInv` (ReloadIndexed: what makes the reload reproduce the state). -/

/-! ## the invariants do not mention storage (nor, for `StIdx`, the term index) -/

theorem WF.iadd {s : St} (h : WF s) (hk : s.kind = .indexed) (given : String) (x : Obj) (now : Int) :
    WF (s.iadd given x now).1 ∧ (s.iadd given x now).1.kind = .indexed := by
  rcases iadd_shape s given x now with ⟨e, _, hf⟩ | ⟨id, m, x', _, ha⟩
  · exact ⟨h.addFailed hf, hf.kind.trans hk⟩
  · exact ⟨(h.added (ha.added hk)).of_eq rfl rfl rfl, ha.kind.trans hk⟩

theorem IdxInvs.iadd {s : St} (h : IdxInvs s) (given : String) (x : Obj) (now : Int) :
    IdxInvs (s.iadd given x now).1 :=
  ⟨(h.wf.iadd h.kind given x now).2, (h.wf.iadd h.kind given x now).1, PI.stIdx_iadd s given x now h.idx⟩

theorem IdxInvs.of_eq {s s' : St} (h : IdxInvs s) (hf : s'.facts = s.facts) (hr : s'.ri = s.ri) (ht : s'.ti = s.ti)
    (hk : s'.kind = s.kind) : IdxInvs s' :=
  ⟨hk.trans h.kind, h.wf.of_eq hf ht hk, h.idx.of_eq hf hr⟩

theorem IdxInvs.init (store : List (String × J)) (n : Nat) : IdxInvs { kind := .indexed, store := store, fresh := n } :=
  ⟨rfl, (wf_empty .indexed).of_eq rfl rfl rfl, (PI.stIdx_init .indexed n).of_eq rfl rfl⟩

/-- **`Load` is a history of in-memory `add`s**: every state it goes through satisfies the index invariants -/
theorem iLoad_go_inv (now : Int) : ∀ (docs : List (String × J)) (s t : St), IdxInvs s →
    St.iLoad.go now s docs = .ok t → IdxInvs t := by
  intro docs
  induction docs with
  | nil => intro s t h hgo; simp only [St.iLoad.go] at hgo; cases hgo; exact h
  | cons d rest ih =>
    intro s t h hgo
    obtain ⟨id, doc⟩ := d
    cases doc with
    | obj x =>
      simp only [St.iLoad.go] at hgo
      have h1 := h.iadd id x now
      split at hgo
      · rename_i s1 r heq
        rw [heq] at h1
        exact ih s1 t h1 hgo
      · rename_i s1 heq
        rw [heq] at h1
        simp only at h1
        exact ih _ t (IdxInvs.of_eq (s' := { s1 with store := amErase s1.store id }) h1 rfl rfl rfl rfl) hgo
      · cases hgo
    | _ => simp only [St.iLoad.go] at hgo; cases hgo

theorem iLoad_inv {docs : List (String × J)} {now : Int} {t : St} (h : St.iLoad docs now = .ok t) : IdxInvs t := by
  unfold St.iLoad at h
  exact iLoad_go_inv now docs _ t (IdxInvs.init docs 0) h

theorem reload_inv {s t : St} {now : Int} (hk : s.kind = .indexed) (h : s.reload now = .ok t) : IdxInvs t := by
  unfold St.reload at h
  rw [hk] at h
  simp only at h
  cases hl : St.iLoad s.store now with
  | error e => rw [hl] at h; cases h
  | ok t0 =>
    rw [hl] at h
    simp only [Except.map] at h
    cases h
    exact (iLoad_inv hl).of_eq rfl rfl rfl rfl

/-! ## every operation of the `State` interface keeps reachability and the index invariants -/

theorem IReach.stepOp {s : St} (h : IReach s) (hk : s.kind = .indexed) (op : ROp) : IReach (s.stepOp op).1 := by
  cases op with
  | add g x now => simp only [St.stepOp, St.add, hk]; exact .add s g x now h
  | rem id now => simp only [St.stepOp, St.rem, hk]; exact .rem s s.fuel id now h
  | get id now => simp only [St.stepOp, St.get, hk]; exact .get s id now h
  | search p now => simp only [St.stepOp, St.search, hk]; exact .search s s.fuel p now h
  | findRules ev now => simp only [St.stepOp, St.findRules, hk]; exact .findRules s ev now h
  | clear => exact .clear s h

theorem IdxInvs.stepOp {s : St} (h : IdxInvs s) (op : ROp) : IdxInvs (s.stepOp op).1 :=
  St.stepOp_cases (Q := fun _ s' => IdxInvs s') s
    (fun hp => ⟨hp.le.kind.trans h.kind, h.wf.le hp.le, PI.stIdx_purge (h.kind ▸ hp) h.idx⟩)
    (fun g x now => ⟨(St.stepOp_kind s (.add g x now)).trans h.kind, h.wf.add g x now, by
      simp only [St.add, h.kind]; exact PI.stIdx_iAdd s g x now h.idx⟩)
    ⟨h.kind, wf_clear s, (PI.stIdx_init s.kind s.fresh).of_eq rfl rfl⟩ op

theorem IdxInvs.runOps (ops : List ROp) {s : St} : IdxInvs s → IdxInvs (s.runOps ops) :=
  St.runOps_inv (P := IdxInvs) (fun _ op h => h.stepOp op) ops

theorem IdxInvs.empty : IdxInvs (St.empty .indexed) := IdxInvs.init [] 0

/-! ## reload when nothing is expired: same memory, same storage -/

theorem reload_same {s : St} (h : IdxInv s) {now : Int} (hne : NoneExpired s now) :
    ∃ t, s.reload now = .ok t ∧ t.facts = s.facts ∧ t.store = s.store ∧ t.fresh = s.fresh ∧ t.kind = s.kind ∧
      IdxInvs t := by
  have hun : ∀ p ∈ s.facts, unexpired p.2 now = true := fun p hp => by unfold unexpired; rw [hne p hp]
  obtain ⟨t0, hl, hk, hf, hs⟩ := iLoad_spec h.storeEq h.canon h.indexable h.nodup now
  have hr : s.reload now = .ok { t0 with fresh := s.fresh } := by
    unfold St.reload
    rw [h.kind]
    simp only [hl, Except.map]
  exact ⟨_, hr, hf.trans (List.filter_eq_self.2 hun), hs hun, rfl, hk.trans h.kind.symm, reload_inv h.kind hr⟩

/-! ## observations are determined by the facts -/

theorem get_ok_congr {s t : St} (hf : t.facts = s.facts) (id : String) (now : Int) (f : Obj) :
    (t.get id now).2 = .ok f ↔ (s.get id now).2 = .ok f := by
  have key (u : St) : (u.get id now).2 = .ok f ↔ amGet u.facts id = some f ∧ checkExpiration f now = .ok false :=
    ⟨fun h => (St.get_eq_ok.1 (Prod.ext rfl h)).2, fun ⟨hg, hc⟩ => by rw [St.get_live hg hc]⟩
  rw [key, key, hf]

theorem get_quiet_congr {s t : St} (hf : t.facts = s.facts) (id : String) (now : Int)
    (hq : ∀ f, amGet s.facts id = some f → checkExpiration f now = .ok false) :
    ∃ r, s.get id now = (s, r) ∧ t.get id now = (t, r) := by
  cases hg : amGet s.facts id with
  | none => exact ⟨_, St.get_absent hg, St.get_absent (by rw [hf]; exact hg)⟩
  | some f => exact ⟨_, St.get_live hg (hq f hg), St.get_live (by rw [hf]; exact hg) (hq f hg)⟩

theorem search_perm_congr {s t : St} (hs : IdxInvs s) (ht : IdxInvs t) (hf : t.facts = s.facts) {now : Int}
    (hne : NoneExpired s now) {p : Obj} (hterm : TermOK p = true) (hsound : MatcherSoundOn s.facts p)
    {R : List (String × List Bs)} (hspec : specSearch s.facts p now = .ok R) :
    ∃ Rs Rt, s.search p now = (s, .ok Rs) ∧ t.search p now = (t, .ok Rt) ∧
      (projRes Rs).Perm R ∧ (projRes Rt).Perm R := by
  have hne' : NoneExpired t now := St.All.congr hne hf
  obtain ⟨Rs, h1, h2⟩ := searchWith_indexed hs.kind hs.wf hne hterm hsound hspec (g := s.fuel) (Nat.le_refl _)
  obtain ⟨Rt, h3, h4⟩ := searchWith_indexed ht.kind ht.wf hne' hterm (by rw [hf]; exact hsound)
    (by rw [hf]; exact hspec) (g := t.fuel) (Nat.le_refl _)
  exact ⟨Rs, Rt, by rw [St.search_eq_searchWith]; exact h1, by rw [St.search_eq_searchWith]; exact h3, h2, h4⟩

/-! ## the in-memory `add` does not depend on the indexes -/

theorem iadd_congr {s t : St} (hf : t.facts = s.facts) (hfr : t.fresh = s.fresh) (g : String) (x : Obj) (now : Int) :
    (t.iadd g x now).2 = (s.iadd g x now).2 ∧ (t.iadd g x now).1.facts = (s.iadd g x now).1.facts ∧
    (t.iadd g x now).1.fresh = (s.iadd g x now).1.fresh := by
  rw [St.iadd_unfold, St.iadd_unfold]
  have hfid : t.freshId = s.freshId := by unfold St.freshId; rw [hfr]
  rw [hfid]
  rcases prepareFact g s.freshId x now with e | ⟨id, fact, x'⟩
  · exact ⟨rfl, hf, hfr⟩
  have hb : (t.bump g id).facts = (s.bump g id).facts ∧ (t.bump g id).fresh = (s.bump g id).fresh := by
    rw [(t.bump_same g id).1, (s.bump_same g id).1, St.bump_fresh, St.bump_fresh, hfid, hfr]; exact ⟨hf, rfl⟩
  simp only []
  rcases extractRule fact false with e | ⟨rule, fact'⟩
  · exact ⟨rfl, hb⟩
  · exact iaddCore_congr hb.1 hb.2 id rule fact' x'

/-! ## live and reloaded state stay in step -/

theorem ReloadSim.storeEq' {s t : St} (h : ReloadSim s t) : StoreEq t := by
  unfold StoreEq
  rw [h.mem.store, h.mem.facts]; exact h.storeEq

theorem ReloadSim.of_parts {s t : St} (hs : IdxInvs s) (ht : IdxInvs t) (he : StoreEq s) (he' : StoreEq t)
    (hf : t.facts = s.facts) (hfr : t.fresh = s.fresh) : ReloadSim s t :=
  ⟨⟨hf, by rw [he, he', hf], hfr, ht.kind.trans hs.kind.symm⟩, hs, ht, he⟩

theorem iAdd_congr {s t : St} (hf : t.facts = s.facts) (hfr : t.fresh = s.fresh) (g : String) (x : Obj) (now : Int) :
    (t.iAdd g x now).2 = (s.iAdd g x now).2 ∧ (t.iAdd g x now).1.facts = (s.iAdd g x now).1.facts ∧
    (t.iAdd g x now).1.fresh = (s.iAdd g x now).1.fresh := by
  obtain ⟨h1, h2, h3⟩ := iadd_congr hf hfr g x now
  unfold St.iAdd
  generalize s.iadd g x now = a at h1 h2 h3 ⊢
  generalize t.iadd g x now = b at h1 h2 h3 ⊢
  obtain ⟨s1, rs⟩ := a
  obtain ⟨t1, rt⟩ := b
  cases h1
  cases rs <;> exact ⟨rfl, h2, h3⟩

theorem findRules_fst_of_quiet {s : St} (hk : s.kind = .indexed) {now : Int} (hne : NoneExpired s now) (ev : Obj) :
    (s.findRules ev now).1 = s := by
  unfold St.findRules
  rw [hk]
  exact congrArg Prod.fst (iFindRules_eq hne ev)

theorem search_fst_of_quiet {s : St} (hk : s.kind = .indexed) {now : Int} (hne : NoneExpired s now) (p : Obj) :
    (s.search p now).1 = s := by
  unfold St.search
  rw [hk]
  simp only
  rw [isearch_eq_ispec hne p (g := s.fuel) (Nat.le_refl _)]

theorem rem_congr {s t : St} (hs : WF s) (ht : WF t) (hf : t.facts = s.facts) {id : String} {now : Int}
    (hne : NoneExpired s now) (hid : isVar id = false) (hun : UnindexOK s) :
    (t.rem id now).2 = (s.rem id now).2 ∧ (∃ b, (s.rem id now).2 = .ok b) ∧
      (t.rem id now).1.facts = (s.rem id now).1.facts := by
  have hne' : NoneExpired t now := St.All.congr hne hf
  have hun' : UnindexOK t := St.All.congr hun hf
  obtain ⟨s', b, hrs, hS⟩ := remWith_answers hs (hne.but id) hid (fun _ => hun) (Nat.le_refl _)
  obtain ⟨t', c, hrt, hT⟩ := remWith_answers ht (hne'.but id) hid (fun _ => hun') (Nat.le_refl _)
  rw [St.rem_eq_remOK, St.rem_eq_remOK, St.remOK_eq_remWith, St.remOK_eq_remWith, hrs, hrt]
  refine ⟨?_, ⟨b, rfl⟩, ?_⟩
  · simp only; rw [hS.flag, hT.flag, hf]
  · simp only; rw [hS.facts, hT.facts, hf]

theorem ReloadSim.stepOp {s t : St} (h : ReloadSim s t) {op : ROp} (hok : op.okFor s) :
    ReloadSim (s.stepOp op).1 (t.stepOp op).1 := by
  have hf := h.mem.facts
  have hfr := h.mem.fresh
  have quiet : ∀ {now}, NoneExpired s now → NoneExpired t now := fun hne => St.All.congr hne hf
  have key : (t.stepOp op).1.facts = (s.stepOp op).1.facts ∧ (t.stepOp op).1.fresh = (s.stepOp op).1.fresh := by
    cases op with
    | add g x now =>
      show (t.add g x now).1.facts = (s.add g x now).1.facts ∧ (t.add g x now).1.fresh = (s.add g x now).1.fresh
      simp only [St.add, h.live.kind, h.re.kind]
      exact (iAdd_congr hf hfr g x now).2
    | rem id now =>
      exact ⟨(rem_congr h.live.wf h.re.wf hf hok.1 hok.2.1 hok.2.2).2.2,
        ((St.rem_purge t id now).le.fresh.trans hfr).trans (St.rem_purge s id now).le.fresh.symm⟩
    | get id now =>
      obtain ⟨r, h1, h2⟩ := get_quiet_congr hf id now hok
      show (t.get id now).1.facts = (s.get id now).1.facts ∧ (t.get id now).1.fresh = (s.get id now).1.fresh
      rw [h1, h2]
      exact ⟨hf, hfr⟩
    | search p now =>
      show (t.search p now).1.facts = (s.search p now).1.facts ∧ (t.search p now).1.fresh = (s.search p now).1.fresh
      rw [search_fst_of_quiet h.live.kind hok, search_fst_of_quiet h.re.kind (quiet hok)]
      exact ⟨hf, hfr⟩
    | findRules ev now =>
      show (t.findRules ev now).1.facts = (s.findRules ev now).1.facts ∧
        (t.findRules ev now).1.fresh = (s.findRules ev now).1.fresh
      rw [findRules_fst_of_quiet h.live.kind hok, findRules_fst_of_quiet h.re.kind (quiet hok)]
      exact ⟨hf, hfr⟩
    | clear => exact ⟨rfl, hfr⟩
  exact ReloadSim.of_parts (h.live.stepOp op) (h.re.stepOp op) (St.stepOp_storeEq h.storeEq op)
    (St.stepOp_storeEq h.storeEq' op) key.1 key.2

theorem ReloadSim.runOps : ∀ (ops : List ROp) {s t : St}, ReloadSim s t → OpsOK s ops →
    ReloadSim (s.runOps ops) (t.runOps ops) := by
  intro ops
  induction ops with
  | nil => intro s t h _; exact h
  | cons op rest ih => intro s t h hok; exact ih (h.stepOp hok.1) hok.2

/-- the answers of the writes (`Add`: the id or the error; `Rem`: the flag; `stepOp` reduces both to ok/error)
agree as well -/
theorem ReloadSim.add_result {s t : St} (h : ReloadSim s t) (g : String) (x : Obj) (now : Int) :
    (t.add g x now).2 = (s.add g x now).2 := by
  simp only [St.add, h.live.kind, h.re.kind]
  exact (iAdd_congr h.mem.facts h.mem.fresh g x now).1

theorem ReloadSim.rem_result {s t : St} (h : ReloadSim s t) {id : String} {now : Int}
    (hok : (ROp.rem id now).okFor s) : (t.rem id now).2 = (s.rem id now).2 ∧ ∃ b, (s.rem id now).2 = .ok b :=
  have := rem_congr h.live.wf h.re.wf h.mem.facts hok.1 hok.2.1 hok.2.2
  ⟨this.1, this.2.1⟩

theorem ReloadSim.of_reload {s : St} (h : IdxInv s) (hi : IdxInvs s) {now : Int} (hne : NoneExpired s now) :
    ∃ t, s.reload now = .ok t ∧ ReloadSim s t := by
  obtain ⟨t, hr, hf, hs, hfr, hk, hinv⟩ := reload_same h hne
  exact ⟨t, hr, ⟨⟨hf, hs, hfr, hk⟩, hi, hinv, h.storeEq⟩⟩

/-! ## a history checked in one run (for the examples over concrete histories) -/

def ROp.okForB (s : St) : ROp → Bool
  | .rem id now => noneExpiredB s now && !isVar id && unindexOKB s
  | .get id now => (amGet s.facts id).all (fun f => match checkExpiration f now with | .ok false => true | _ => false)
  | .search _ now => noneExpiredB s now
  | .findRules _ now => noneExpiredB s now
  | _ => true

def opsOKB : St → List ROp → Bool
  | _, [] => true
  | s, op :: rest => op.okForB s && opsOKB (s.stepOp op).1 rest

theorem opsOK_of_check : ∀ {ops : List ROp} {s : St}, opsOKB s ops = true → OpsOK s ops := by
  intro ops
  induction ops with
  | nil => intro s _; trivial
  | cons op rest ih =>
    intro s h
    simp only [opsOKB, Bool.and_eq_true] at h
    refine ⟨?_, ih h.2⟩
    have h1 := h.1
    cases op with
    | rem id now =>
      simp only [ROp.okForB, Bool.and_eq_true, Bool.not_eq_true'] at h1
      exact ⟨noneExpired_of_check h1.1.1, h1.1.2, unindexOK_of_check h1.2⟩
    | get id now =>
      intro f hg
      simp only [ROp.okForB, hg, Option.all_some] at h1
      split at h1
      · assumption
      · cases h1
    | search p now => exact noneExpired_of_check h1
    | findRules ev now => exact noneExpired_of_check h1
    | add g x now => trivial
    | clear => trivial

theorem OpsOK.take : ∀ (k : Nat) {s : St} {ops : List ROp}, OpsOK s ops → OpsOK s (ops.take k) := by
  intro k
  induction k with
  | zero => intro s ops _; simp [OpsOK]
  | succ k ih =>
    intro s ops h
    cases ops with
    | nil => simp [OpsOK]
    | cons op rest => exact ⟨h.1, ih h.2⟩
