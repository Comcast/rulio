import RulioModel.MatchIneq
import RulioProofs.MatchUnfold

/-! # Inequality variables (C05): the faithful matcher `matchJI` is a conservative extension of `matchJ`,
and what `matchStrI` does on an inequality variable, operator by operator -/

theorem ineqOf_le (r : String) : ineqOf ("?<=" ++ r) = some ("<=", r) := by
  simp [ineqOf, String.toList_append, String.ofList_toList]
theorem ineqOf_ge (r : String) : ineqOf ("?>=" ++ r) = some (">=", r) := by
  simp [ineqOf, String.toList_append, String.ofList_toList]
theorem ineqOf_ne (r : String) : ineqOf ("?!=" ++ r) = some ("!=", r) := by
  simp [ineqOf, String.toList_append, String.ofList_toList]

/-- `"?<" ++ r` and `"?>" ++ r` are the strict inequalities unless `r` is empty (`"?<"` is an ordinary variable)
or starts with `=` (then they are `"<="`, `">="`) -/
theorem ineqOf_lt_gt (r : String) (hne : r ≠ "") (heq : ¬ ['='] <+: r.toList) :
    ineqOf ("?<" ++ r) = some ("<", r) ∧ ineqOf ("?>" ++ r) = some (">", r) := by
  unfold ineqOf
  rw [String.toList_append, String.toList_append]
  cases hr : r.toList with
  | nil => exact absurd (by rw [← String.ofList_toList (s := r), hr]) hne
  | cons c t =>
    have hc : c ≠ '=' := by
      rintro rfl; exact heq ⟨t, by rw [hr]; rfl⟩
    have h1 : "?<".toList = ['?', '<'] := rfl
    have h2 : "?>".toList = ['?', '>'] := rfl
    rw [h1, h2]
    simp only [List.cons_append, List.nil_append]
    rw [← hr, String.ofList_toList]
    exact ⟨rfl, rfl⟩

theorem ineqOf_isVar {v : String} {x : String × String} (h : ineqOf v = some x) : isVar v = true ∧ v ≠ "?" := by
  unfold ineqOf at h
  constructor
  · rw [isVar_iff]
    split at h <;> first | (cases h; done) | (rename_i hv; exact ⟨_, by rw [hv]; rfl⟩)
  · rintro rfl
    simp at h

theorem ineqOf_op {v : String} {ie rest : String} (h : ineqOf v = some (ie, rest)) :
    ie = "<=" ∨ ie = ">=" ∨ ie = "!=" ∨ ie = ">" ∨ ie = "<" := by
  unfold ineqOf at h
  split at h <;> simp at h <;> simp [← h.1]

theorem ineqSat_lt (a b : Int) : ineqSat "<" a b = decide (a < b) := by simp [ineqSat]
theorem ineqSat_le (a b : Int) : ineqSat "<=" a b = decide (a ≤ b) := by simp [ineqSat]
theorem ineqSat_gt (a b : Int) : ineqSat ">" a b = decide (a > b) := by simp [ineqSat]
theorem ineqSat_ge (a b : Int) : ineqSat ">=" a b = decide (a ≥ b) := by simp [ineqSat]
theorem ineqSat_ne (a b : Int) : ineqSat "!=" a b = (a != b) := by simp [ineqSat]

theorem inequal_of_not_ineq {v : String} (h : ineqOf v = none) (f : J) (bs : Bs) : inequal f bs v = none := by
  unfold inequal
  split
  · split
    · rw [h]
    · rfl
  · rfl

theorem inequal_of_fact_not_num {f : J} (hf : ∀ a, f ≠ .num a) (bs : Bs) (v : String) : inequal f bs v = none := by
  unfold inequal
  split
  · split
    · exact absurd rfl (hf _)
    · rfl
  · rfl

theorem inequal_of_unbound {v : String} {bs : Bs} (h : bs.get? v = none) (f : J) : inequal f bs v = none := by
  unfold inequal; rw [h]

theorem inequal_of_bound_not_num {v : String} {bs : Bs} {x : J} (h : bs.get? v = some x) (hx : ∀ b, x ≠ .num b) (f : J) :
    inequal f bs v = none := by
  unfold inequal; rw [h]
  cases x <;> first | rfl | exact absurd rfl (hx _)

theorem inequal_eq {v ie rest : String} (hv : ineqOf v = some (ie, rest)) {bs : Bs} {a b : Int}
    (hb : bs.get? v = some (.num b)) :
    inequal (.num a) bs v =
      if ineqSat ie a b = false then some []
      else match bs.get? ("?" ++ rest) with
        | some (.num c) => some (if c == a then [bs] else [])
        | some _ => none
        | none => some [bs.set ("?" ++ rest) (.num a)] := by
  unfold inequal
  rw [hb]
  simp only [hv]
  cases ineqSat ie a b <;> rfl

theorem matchStrI_of_inequal_none {s : String} {f : J} {bs : Bs} (h : inequal f bs s = none) :
    matchStrI s f bs = matchStr s f bs := by
  unfold matchStrI
  rw [h]
  by_cases hv : isVar s = true
  · by_cases ha : s = "?"
    · subst ha; simp [matchStr, isVar]
    · simp [hv, ha]
  · simp [hv]

theorem matchStrI_of_not_ineq {s : String} (h : ineqOf s = none) (f : J) (bs : Bs) :
    matchStrI s f bs = matchStr s f bs :=
  matchStrI_of_inequal_none (inequal_of_not_ineq h f bs)

theorem matchStrI_of_fact_not_num {f : J} (hf : ∀ a, f ≠ .num a) (s : String) (bs : Bs) :
    matchStrI s f bs = matchStr s f bs :=
  matchStrI_of_inequal_none (inequal_of_fact_not_num hf bs s)

theorem matchStrI_of_unbound {s : String} {bs : Bs} (h : bs.get? s = none) (f : J) :
    matchStrI s f bs = matchStr s f bs :=
  matchStrI_of_inequal_none (inequal_of_unbound h f)

theorem matchStrI_ineq {v ie rest : String} (hv : ineqOf v = some (ie, rest)) {bs : Bs} {a b : Int}
    (hb : bs.get? v = some (.num b)) :
    matchStrI v (.num a) bs =
      if ineqSat ie a b = false then .ok []
      else match bs.get? ("?" ++ rest) with
        | some (.num c) => .ok (if c == a then [bs] else [])
        | some _ => matchStr v (.num a) bs
        | none => .ok [bs.set ("?" ++ rest) (.num a)] := by
  obtain ⟨h1, h2⟩ := ineqOf_isVar hv
  unfold matchStrI
  rw [inequal_eq hv hb]
  simp only [h1, Bool.not_true, Bool.false_eq_true, if_false, beq_iff_eq, h2]
  cases ineqSat ie a b
  · simp
  · simp only [Bool.true_eq_false, if_false]
    cases hg : bs.get? ("?" ++ rest) with
    | none => rfl
    | some x => cases x <;> rfl

theorem matchStrI_ineq_fresh {v ie rest : String} (hv : ineqOf v = some (ie, rest)) {bs : Bs} {a b : Int}
    (hb : bs.get? v = some (.num b)) (hn : bs.get? ("?" ++ rest) = none) :
    matchStrI v (.num a) bs = .ok (if ineqSat ie a b then [bs.set ("?" ++ rest) (.num a)] else []) := by
  rw [matchStrI_ineq hv hb, hn]
  cases ineqSat ie a b <;> simp

theorem matchJI_eqns : MatchEqns matchStrI matchJI matchOI matchAI where
  null f bs := by rw [matchJI.eq_def]; rfl
  bool a f bs := by rw [matchJI.eq_def]; rfl
  num a f bs := by rw [matchJI.eq_def]; rfl
  str s f bs := by rw [matchJI.eq_def]
  obj kvs f bs := by rw [matchJI.eq_def]; rfl
  arr xs f bs := by rw [matchJI.eq_def]; rfl
  o_nil fm bss := by rw [matchOI.eq_def]
  o_cons_const hk v r fm bss := by rw [matchOI.eq_def]; simp only [hk, Bool.false_eq_true, if_false]; rfl
  o_cons_var hk v r fm bss := by rw [matchOI.eq_def]; simp only [hk, if_true]
  a_nil ns branches := by rw [matchAI.eq_def]
  a_cons x xs ns branches := by rw [matchAI.eq_def]; rfl

theorem noIneq_agree : StrAgree matchStrI matchStr (noIneqVars · = true) where
  str _ h := matchStrI_of_not_ineq (Option.isNone_iff_eq_none.1 h)
  arr _ _ h := Bool.and_eq_true_iff.1 h
  obj _ _ _ h := and_assoc.1 ((Bool.and_eq_true_iff.1 h).imp_left Bool.and_eq_true_iff.1)

theorem matchJI_eq_matchJ : ∀ (p : J), noIneqVars p = true → ∀ (f : J) (bs : Bs), matchJI p f bs = matchJ p f bs :=
  matchJI_eqns.congrJ matchJ_eqns noIneq_agree
theorem matchOI_eq_matchO : ∀ (kvs : List (String × J)), noIneqVarsO kvs = true →
    ∀ (fm : List (String × J)) (bss : List Bs), matchOI kvs fm bss = matchO kvs fm bss :=
  matchJI_eqns.congrO matchJ_eqns noIneq_agree
theorem matchAI_eq_matchA : ∀ (xs : List J), noIneqVarsL xs = true →
    ∀ (ns : Bool) (br : List (List Bs × List J × List J)), matchAI xs ns br = matchA xs ns br :=
  matchJI_eqns.congrA matchJ_eqns noIneq_agree

/-- An inequality variable laid over two keys, from empty bindings: the first occurrence is unbound and binds
itself to the number `a1` like an ordinary variable; the second is then the test `a2 ie a1`, and binds the target. -/
theorem matchJI_same_ineq_twice {k1 k2 v ie rest : String} (hk1 : isVar k1 = false) (hk2 : isVar k2 = false)
    (hv : ineqOf v = some (ie, rest)) (hne : "?" ++ rest ≠ v) {fm : List (String × J)} {a1 a2 : Int}
    (h1 : lookupKey k1 fm = some (.num a1)) (h2 : lookupKey k2 fm = some (.num a2)) :
    matchJI (.obj [(k1, .str v), (k2, .str v)]) (.obj fm) [] =
      .ok (if ineqSat ie a2 a1 then [[("?" ++ rest, .num a2), (v, .num a1)]] else []) := by
  obtain ⟨hvar, hq⟩ := ineqOf_isVar hv
  have hget : Bs.get? [(v, J.num a1)] v = some (.num a1) := by simp [Bs.get?]
  have hget' : Bs.get? [(v, J.num a1)] ("?" ++ rest) = none := by simp [Bs.get?, hne]
  have hset : Bs.set [(v, J.num a1)] ("?" ++ rest) (.num a2) = [("?" ++ rest, .num a2), (v, .num a1)] := by
    simp [Bs.set, Ne.symm hne]
  rw [matchJI_eqns.obj]
  simp only [List.isEmpty_cons, List.any_cons, List.any_nil, hk1, hk2, Bool.or_false, Bool.and_false,
    Bool.false_eq_true, if_false]
  rw [matchJI_eqns.o_cons_const hk1, h1]
  simp only [List.mapM_cons, List.mapM_nil, matchJI_eqns.str]
  rw [matchStrI_of_unbound rfl, matchStr_var hvar, if_neg (by simpa using hq)]
  simp only [Bs.get?, Bs.set, List.filter_nil, bind, Except.bind, pure, Except.pure, List.flatMap_cons,
    List.flatMap_nil, id, List.append_nil, List.isEmpty_cons, Bool.false_eq_true, if_false]
  rw [matchJI_eqns.o_cons_const hk2, h2]
  simp only [List.mapM_cons, List.mapM_nil, matchJI_eqns.str]
  rw [matchStrI_ineq_fresh hv hget hget', hset]
  cases ineqSat ie a2 a1 <;> simp [bind, Except.bind, pure, Except.pure, matchJI_eqns.o_nil]
