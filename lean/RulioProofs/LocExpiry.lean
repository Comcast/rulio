import RulioProofs.PrepareFact
import Std.Data.String.ToNat

namespace LocP

/-! # Expiry: what `setExpires` and `prepareFact` compute for a Location (on top of `PrepareFact`), and the duration and
RFC3339 parsers against their `String`-free twins -/

theorem Obj.get?_erase_ne (o : Obj) (k : String) {k' : String} (h : k' ≠ k) :
    (Obj.erase o k).get? k' = o.get? k' := by
  rw [Obj.get?_erase, if_neg h]

/-- preparing an already prepared, expiring fact again (at any later time) finds the same instant: the
stored `expires` is absolute -/
theorem setExpires_again {m : Obj} {e : Int} (ht : m.get? "ttl" = none) (he : m.get? "expires" = some (.num e))
    (hr : m.get? "rule" = none ∨ ∃ r, m.get? "rule" = some (.obj r)) (now' : Int) :
    ∃ m', setExpires m now' = .ok (m', true, e) ∧ m'.get? "expires" = some (.num e) ∧ m'.get? "ttl" = none := by
  rw [setExpires_num now' ht he, mirrorRule]
  rcases hr with hr | ⟨r, hr⟩
  · rw [hr]; exact ⟨m, rfl, he, ht⟩
  · rw [hr]
    exact ⟨_, rfl, (Obj.get?_set_ne _ _ (by decide)).trans he, (Obj.get?_set_ne _ _ (by decide)).trans ht⟩

theorem setExpires_rfc3339 {x : Obj} {s : String} {t : Int} (ht : x.get? "ttl" = none)
    (he : x.get? "expires" = some (.str s)) (hp : parseRFC3339 s = some t) (now : Int) :
    setExpires x now = mirrorRule (x.set "expires" (.num t)) t := by
  rw [setExpires_eq, ht]
  dsimp only
  rw [expiresPart_eq, he]
  simp only [hp]

theorem prepareFact_expired_iff (given fresh : String) (x : Obj) (now : Int) :
    prepareFact given fresh x now = .error "expired" ↔
      (∃ id, genId x given fresh = .ok id) ∧ ∃ m e, setExpires x now = .ok (m, true, e) ∧ notAfter e now = true := by
  rw [prepareFact_eq]
  constructor
  · intro h
    cases hg : genId x given fresh with
    | error e =>
      rw [hg] at h
      simp only [Except.error.injEq] at h
      rcases genId_err hg with h1 | h1 | h1 <;> rw [h1] at h <;> exact absurd h (by decide)
    | ok id' =>
      rw [hg] at h
      cases hs : setExpires x now with
      | error e =>
        rw [hs] at h
        simp only [Except.error.injEq] at h
        rcases setExpires_err hs with h1 | h1 | h1 <;> rw [h1] at h <;> exact absurd h (by decide)
      | ok t =>
        obtain ⟨m', b, e⟩ := t
        rw [hs] at h
        dsimp only at h
        split at h
        · rename_i hc
          simp only [Bool.and_eq_true] at hc
          refine ⟨⟨id', rfl⟩, m', e, ?_, hc.2⟩
          rw [hc.1]
        · cases h
  · rintro ⟨⟨id, hg⟩, m, e, hs, hn⟩
    rw [hg, hs]
    simp [hn]

/-! ## the parsers on concrete inputs

Core `String` functions do not reduce well in the kernel, so each parser gets a twin on `List Char`, proved equal
once for all strings; a literal `"abc"` is `String.ofList ['a', 'b', 'c']` by `rfl`, and the twin is evaluated. -/

/-- `digitsToNat?` on the characters -/
def digitsL (l : List Char) : Option Nat :=
  if l.isEmpty || !l.all Char.isDigit then none else some (Nat.ofDigitChars 10 l 0)

theorem digitsToNat?_eq_list (s : String) : digitsToNat? s = digitsL s.toList := by
  unfold digitsToNat? digitsL
  have he : s.toList.isEmpty = s.isEmpty := by
    rw [Bool.eq_iff_iff, String.isEmpty_iff, List.isEmpty_iff, String.toList_eq_nil_iff]
  rw [String.all_bool_eq, he]
  by_cases h : (s.isEmpty || !s.toList.all Char.isDigit) = true
  · rw [if_pos h, if_pos h]
  · rw [if_neg h, if_neg h]
    simp only [Bool.or_eq_true, Bool.not_eq_true', not_or, Bool.not_eq_false, String.isEmpty_iff,
      List.all_eq_true] at h
    -- a run of digits holds no `_`, the one character `toNat?` skips
    have hd : s.toList.filter (· != '_') = s.toList :=
      List.filter_eq_self.2 fun c hc => by
        have := h.2 c hc
        rw [bne_iff_ne]; rintro rfl; exact absurd this (by decide)
    rw [String.toNat?_eq_some_ofDigitChars (String.isNat_of_isDigit h.1 h.2), hd]

theorem isNat_digits4 : (String.ofList ['1', '9', '7', '0']).isNat = true :=
  String.isNat_of_isDigit (by simp) (by simp)

/-- `parseRFC3339` on the characters -/
def rfc3339L (cs : List Char) : Option Int :=
  if cs.length != 20 then none else
  let sub (a b : Nat) : List Char := (cs.drop a).take (b - a)
  let ch (i : Nat) : Char := cs.getD i ' '
  if ch 4 != '-' || ch 7 != '-' || ch 10 != 'T' || ch 13 != ':' || ch 16 != ':' || ch 19 != 'Z' then none else
  match digitsL (sub 0 4), digitsL (sub 5 7), digitsL (sub 8 10),
        digitsL (sub 11 13), digitsL (sub 14 16), digitsL (sub 17 19) with
  | some y, some mo, some d, some h, some mi, some sec =>
    if mo < 1 || mo > 12 || d < 1 || d > 31 || h > 23 || mi > 59 || sec > 59 then none
    else some (daysFromCivil y mo d * 86400 + h * 3600 + mi * 60 + sec)
  | _, _, _, _, _, _ => none

theorem parseRFC3339_ofList (cs : List Char) : parseRFC3339 (String.ofList cs) = rfc3339L cs := by
  unfold parseRFC3339 rfc3339L
  simp only [digitsToNat?_eq_list, String.toList_ofList]
  rfl

theorem parseRFC3339_epoch : parseRFC3339 "1970-01-01T00:00:00Z" = some 0 :=
  (parseRFC3339_ofList _).trans (by decide +kernel)

theorem parseRFC3339_sample : parseRFC3339 "2026-09-29T05:00:00Z" = some 1790658000 :=
  (parseRFC3339_ofList _).trans (by decide +kernel)

theorem parseRFC3339_rejects : parseRFC3339 "2026-09-29 05:00:00Z" = none ∧ parseRFC3339 "2026-13-01T00:00:00Z" = none :=
  ⟨(parseRFC3339_ofList _).trans (by decide +kernel), (parseRFC3339_ofList _).trans (by decide +kernel)⟩

/-- `parseDurationSecs` on the characters -/
def durationSecsL (cs : List Char) : Option Int :=
  let neg := ['-'].isPrefixOf cs
  let body := if neg || ['+'].isPrefixOf cs then cs.drop 1 else cs
  let go (mult : Nat) : Option Int :=
    (digitsL body.dropLast).map (fun n => if neg then -((n * mult : Nat) : Int) else ((n * mult : Nat) : Int))
  if ['s'].isSuffixOf body && !['m', 's'].isSuffixOf body && !['n', 's'].isSuffixOf body && !['u', 's'].isSuffixOf body
    then go 1
  else if ['m'].isSuffixOf body then go 60
  else if ['h'].isSuffixOf body then go 3600
  else none

theorem startsWith_eq_prefix (s pat : String) : s.startsWith pat = pat.toList.isPrefixOf s.toList := by
  rw [Bool.eq_iff_iff, String.startsWith_string_iff, List.isPrefixOf_iff_prefix]

theorem endsWith_eq_suffix (s pat : String) : s.endsWith pat = pat.toList.isSuffixOf s.toList := by
  rw [Bool.eq_iff_iff, List.isSuffixOf_iff_suffix]
  simp only [String.endsWith, String.Slice.endsWith_string_iff, String.copy_toSlice]

theorem parseDurationSecs_ofList (cs : List Char) : parseDurationSecs (String.ofList cs) = durationSecsL cs := by
  have hbody : ∀ (s : String) (b : Bool),
      (if b then (s.drop 1).toString else s).toList = if b then s.toList.drop 1 else s.toList := by
    intro s b; cases b <;> simp
  have hnum : ∀ t : String, (t.dropEnd 1).toString.toList = t.toList.dropLast := by
    intro t; simp [List.dropLast_eq_take]
  unfold parseDurationSecs durationSecsL
  simp only [startsWith_eq_prefix, endsWith_eq_suffix, digitsToNat?_eq_list, hnum, hbody, String.toList_ofList]
  rfl

theorem parseDurationSecs_examples :
    parseDurationSecs "90m" = some 5400 ∧ parseDurationSecs "2s" = some 2 ∧ parseDurationSecs "1h" = some 3600 ∧
    parseDurationSecs "-5s" = some (-5) ∧ parseDurationSecs "5ms" = none ∧ parseDurationSecs "soon" = none :=
  ⟨(parseDurationSecs_ofList _).trans (by decide +kernel), (parseDurationSecs_ofList _).trans (by decide +kernel),
   (parseDurationSecs_ofList _).trans (by decide +kernel), (parseDurationSecs_ofList _).trans (by decide +kernel),
   (parseDurationSecs_ofList _).trans (by decide +kernel), (parseDurationSecs_ofList _).trans (by decide +kernel)⟩

end LocP
