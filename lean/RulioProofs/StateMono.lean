import RulioProofs.StateCascade

/-! # Fuel monotonicity: a result that is not the fuel error does not change when the budget grows -/

theorem map_ne_fuel {α β} {r : Except LErr α} {g : α → β} (h : r.map g ≠ .error "fuel") : r ≠ .error "fuel" :=
  fun hr => h (hr ▸ rfl)

theorem IsRemAll.mono_step {rem : Nat → St → String → St × Except LErr Bool}
    {remAll : Nat → St → List String → St × Except LErr Unit} (h : IsRemAll rem remAll) {P : St → Prop} {f : Nat}
    (hP : ∀ s i, P s → P (rem f s i).1)
    (ih1 : ∀ s i, P s → (rem f s i).2 ≠ .error "fuel" → rem (f + 1) s i = rem f s i)
    (ih2 : ∀ s L, P s → (remAll f s L).2 ≠ .error "fuel" → remAll (f + 1) s L = remAll f s L) :
    ∀ s L, P s → (remAll (f + 1) s L).2 ≠ .error "fuel" → remAll (f + 1 + 1) s L = remAll (f + 1) s L
  | s, [], _ => fun _ => by rw [h.nil, h.nil]
  | s, i :: rest, hp => by
    rw [h.cons (f + 1), h.cons f]
    intro hne
    have hs : (rem f s i).2 ≠ .error "fuel" := fun hs => by rw [hs] at hne; exact hne rfl
    rw [ih1 s i hp hs]
    cases hr : (rem f s i).2 with
    | error e => rfl
    | ok b => rw [hr] at hne; exact ih2 _ rest (hP s i hp) hne

theorem isearch_mono {now : Int} {s : St} {p : Obj} (hne : NoneExpired s now) {f : Nat}
    (h : (St.isearch f s p now).2 ≠ .error "fuel") : ∀ g, f ≤ g → St.isearch g s p now = St.isearch f s p now := by
  intro g hg
  obtain ⟨d, rfl⟩ := Nat.exists_eq_add_of_le hg
  obtain ⟨c, hc⟩ := St.cands_ok s p
  have hspec := (isearch_spec hne hc.eq f).1.resolve_left fun e => h (by rw [e])
  exact (hspec d).trans (hspec 0).symm

/-- indexed state (needs "nothing expired": `isearchLoop` swallows the error of an expiry purge) -/
theorem imono (now : Int) : ∀ f : Nat,
    (∀ s i, NoneExpiredBut s i now → (St.irem f s i now).2 ≠ .error "fuel" →
      St.irem (f + 1) s i now = St.irem f s i now) ∧
    (∀ s i, NoneExpired s now → (St.ideps f s i now).2 ≠ .error "fuel" → St.ideps (f + 1) s i now = St.ideps f s i now) ∧
    (∀ s L, NoneExpired s now → (St.iremAll f s L now).2 ≠ .error "fuel" →
      St.iremAll (f + 1) s L now = St.iremAll f s L now) := by
  intro f
  induction f with
  | zero =>
    refine ⟨?_, ?_, ?_⟩ <;> intros <;> rename_i h <;> exact absurd rfl h
  | succ f ih =>
    obtain ⟨ih1, ih2, ih3⟩ := ih
    refine ⟨?_, ?_, ?_⟩
    · intro s i hne h
      obtain ⟨s0, h0, ⟨e, _, _, he⟩ | heq⟩ := irem_root s i now
      · rw [he, he]
      · rw [heq] at h
        rw [heq, heq, ih2 s0 i (St.All.of_but hne h0.facts) (map_ne_fuel h)]
    · intro s i hne
      rw [St.ideps_succ (f + 1), St.ideps_succ f]
      by_cases hv : isVar i = true
      · simp [hv]
      · simp only [hv, Bool.false_eq_true, ↓reduceIte]
        intro h
        have hs : (St.isearch f s (depPat i) now).2 ≠ .error "fuel" := fun hs => by rw [hs] at h; exact h rfl
        rw [isearch_mono hne hs (f + 1) (Nat.le_succ f)]
        cases hr : (St.isearch f s (depPat i) now).2 with
        | error e => rfl
        | ok found =>
          rw [hr] at h
          exact ih3 _ _ (St.All.purge hne (St.isearch_purge f s _ now)) h
    · exact (iremAll_isRemAll now).mono_step (P := fun s => NoneExpired s now)
        (fun s i h => St.All.purge h (St.irem_purge f s i now)) (fun s i h => ih1 s i (fun e he _ => h e he)) ih3

/-- linear state (unconditional: every error is propagated) -/
theorem lmono (now : Int) : ∀ f : Nat,
    (∀ s i, (St.lrem f s i now).2 ≠ .error "fuel" → St.lrem (f + 1) s i now = St.lrem f s i now) ∧
    (∀ s L, (St.lremAll f s L now).2 ≠ .error "fuel" → St.lremAll (f + 1) s L now = St.lremAll f s L now) ∧
    (∀ s p, (St.lsearch f s p now).2 ≠ .error "fuel" → St.lsearch (f + 1) s p now = St.lsearch f s p now) ∧
    (∀ s p ids acc, (St.lsearchLoop f s p ids now acc).2 ≠ .error "fuel" →
      St.lsearchLoop (f + 1) s p ids now acc = St.lsearchLoop f s p ids now acc) := by
  intro f
  induction f with
  | zero =>
    refine ⟨?_, ?_, ?_, ?_⟩ <;> intros <;> rename_i h <;> exact absurd rfl h
  | succ f ih =>
    obtain ⟨ih1, ih2, ih3, ih4⟩ := ih
    refine ⟨?_, ?_, fun s p => ih4 s p _ [], ?_⟩
    · intro s i
      rw [St.lrem_succ (f + 1), St.lrem_succ f]
      by_cases hv : isVar i = true
      · simp [hv]
      · simp only [hv, Bool.false_eq_true, ↓reduceIte]
        intro h
        have hs : (St.lsearch f (s.ldel i) (depPat i) now).2 ≠ .error "fuel" := fun hs => by rw [hs] at h; exact h rfl
        rw [ih3 _ _ hs]
        cases hr : (St.lsearch f (s.ldel i) (depPat i) now).2 with
        | error e => rfl
        | ok found =>
          rw [hr] at h
          simp only at h ⊢
          rw [ih2 _ _ (map_ne_fuel h)]
    · exact fun s L => (lremAll_isRemAll now).mono_step (P := fun _ => True) (fun _ _ _ => trivial)
        (fun s i _ => ih1 s i) (fun s L _ => ih2 s L) s L trivial
    · intro s p ids acc
      cases ids with
      | nil => exact fun _ => rfl
      | cons i rest =>
        rw [St.lsearchLoop_cons (f + 1), St.lsearchLoop_cons f]
        cases amGet s.facts i with
        | none => exact ih4 _ _ _ _
        | some fact =>
          simp only
          rcases checkExpiration fact now with e | b
          · exact fun _ => rfl
          · cases b with
            | false =>
              simp only
              cases matchesJ (.obj p) (.obj fact) with
              | error e => exact fun _ => rfl
              | ok bss => exact ih4 _ _ _ _
            | true =>
              simp only
              intro h
              have hs : (St.lrem f s i now).2 ≠ .error "fuel" := fun hs => by rw [hs] at h; exact h rfl
              rw [ih1 s i hs]
              cases hr : (St.lrem f s i now).2 with
              | error e => rfl
              | ok b => rw [hr] at h; exact ih4 _ _ _ _ h

theorem eq_of_le_of_succ {α β} {F : Nat → α × Except LErr β}
    (hs : ∀ g, (F g).2 ≠ .error "fuel" → F (g + 1) = F g) {f : Nat} (h : (F f).2 ≠ .error "fuel") :
    ∀ g, f ≤ g → F g = F f := by
  intro g hg
  induction hg with
  | refl => rfl
  | step _ ih => rw [hs _ (ih ▸ h), ih]

theorem irem_mono {now : Int} {s : St} {i : String} (hne : NoneExpiredBut s i now) {f : Nat}
    (h : (St.irem f s i now).2 ≠ .error "fuel") : ∀ g, f ≤ g → St.irem g s i now = St.irem f s i now :=
  eq_of_le_of_succ (F := fun g => St.irem g s i now) (fun g => (imono now g).1 s i hne) h

theorem lrem_mono {now : Int} {s : St} {i : String} {f : Nat}
    (h : (St.lrem f s i now).2 ≠ .error "fuel") : ∀ g, f ≤ g → St.lrem g s i now = St.lrem f s i now :=
  eq_of_le_of_succ (F := fun g => St.lrem g s i now) (fun g => (lmono now g).1 s i) h

theorem lsearch_mono {now : Int} {s : St} {p : Obj} {f : Nat}
    (h : (St.lsearch f s p now).2 ≠ .error "fuel") : ∀ g, f ≤ g → St.lsearch g s p now = St.lsearch f s p now :=
  eq_of_le_of_succ (F := fun g => St.lsearch g s p now) (fun g => (lmono now g).2.2.1 s p) h
