import RulioProofs.MatchBase
import RulioProofs.PmvEqns

/-! # Lemmas about the executable specification `pmv` (C05) that speak of permutations and pointwise relations
(Mathlib's `Subperm`, `Forall₂`; the bare equations are in `PmvEqns`): `pmA_iff` and the induction principle `pmv_induct`;
before them the fragments unpacked (`J.patInd`, `patOK*_iff`, `dataOK*_iff`) and `varsOfL` under append and permutation -/

open List

theorem J.patInd {P : J → Prop} (hconst : ∀ x, x.isScalar = true → isVarElem x = false → P x)
    (hvar : ∀ s, isVar s = true → P (.str s)) (harr : ∀ xs, (∀ x ∈ xs, P x) → P (.arr xs))
    (hobj : ∀ kvs : List (String × J), (∀ kv ∈ kvs, P kv.2) → P (.obj kvs)) : ∀ j, P j :=
  J.ind' (hconst _ rfl rfl) (fun _ => hconst _ rfl rfl) (fun _ => hconst _ rfl rfl)
    (fun s => by
      cases hs : isVar s with
      | true => exact hvar s hs
      | false => exact hconst _ rfl hs)
    harr hobj

theorem patOKL_iff {xs : List J} : patOKL xs = true ↔ ∀ x ∈ xs, patOK x = true :=
  listAll_iff (by rw [patOKL]) (fun _ _ => by rw [patOKL])
theorem patOKO_iff {kvs : List (String × J)} : patOKO kvs = true ↔ ∀ kv ∈ kvs, patOK kv.2 = true :=
  listAll_iff (f := fun kv : String × J => patOK kv.2) (by rw [patOKO]) (fun ⟨_, _⟩ _ => by rw [patOKO])
theorem dataOKL_iff {xs : List J} : dataOKL xs = true ↔ ∀ x ∈ xs, dataOK x = true :=
  listAll_iff (by rw [dataOKL]) (fun _ _ => by rw [dataOKL])
theorem dataOKO_iff {kvs : List (String × J)} :
    dataOKO kvs = true ↔ ∀ kv ∈ kvs, isVar kv.1 = false ∧ dataOK kv.2 = true :=
  keyedAll_iff (by rw [dataOKO]) (fun _ _ _ => by rw [dataOKO])
theorem lookupKey_dataOK {fm : List (String × J)} {k : String} {fv : J} (hd : dataOKO fm = true)
    (h : lookupKey k fm = some fv) : dataOK fv = true :=
  (dataOKO_iff.1 hd _ (lookupKey_mem h)).2

theorem patOK_obj_iff (kvs : List (String × J)) :
    patOK (.obj kvs) = true ↔ (∀ kv ∈ kvs, isVar kv.1 = false) ∧ (∀ kv ∈ kvs, patOK kv.2 = true) := by
  simp only [patOK, Bool.and_eq_true, List.all_eq_true, Bool.not_eq_true', patOKO_iff]

theorem patOK_arr_eq (xs : List J) :
    patOK (.arr xs) = (decide ((xs.filter isVarElem).length ≤ 1) && distinctJ (xs.filter J.isScalar) && patOKL xs) := by
  rw [patOK]; rfl
theorem patOK_arr_iff (xs : List J) :
    patOK (.arr xs) = true ↔ (xs.filter isVarElem).length ≤ 1 ∧ distinctJ (xs.filter J.isScalar) = true ∧
      (∀ x ∈ xs, patOK x = true) := by
  rw [patOK_arr_eq]
  simp only [Bool.and_eq_true, decide_eq_true_eq, patOKL_iff, and_assoc]

theorem varsOfL_append : ∀ (l1 l2 : List J), varsOfL (l1 ++ l2) = varsOfL l1 ++ varsOfL l2
  | [], l2 => by simp [varsOfL]
  | x :: l1, l2 => by simp [varsOfL, varsOfL_append l1 l2]

theorem mem_varsOfL {y : String} : ∀ {xs : List J}, y ∈ varsOfL xs ↔ ∃ x ∈ xs, y ∈ varsOf x
  | [] => by simp [varsOfL]
  | x :: xs => by simp [varsOfL, mem_varsOfL (xs := xs)]

theorem varsOfL_perm {l1 l2 : List J} (h : l1.Perm l2) : (varsOfL l1).Perm (varsOfL l2) := by
  induction h with
  | nil => exact .refl _
  | cons x _ ih => simp only [varsOfL]; exact ih.append_left _
  | swap x y l =>
    simp only [varsOfL, ← List.append_assoc]
    exact List.Perm.append_right _ List.perm_append_comm
  | trans _ _ ih1 ih2 => exact ih1.trans ih2

theorem pmA_iff (σ : Bs) : ∀ (xs ds : List J),
    pmA σ xs ds = true ↔ ∃ ds', Forall₂ (fun x d => pmv σ x d = true) xs ds' ∧ ds' <+~ ds
  | [], ds => by
      rw [pmA_nil]; simp only [true_iff]; exact ⟨[], .nil, nil_subperm⟩
  | x :: xs, ds => by
      rw [pmA_cons_iff]
      constructor
      · rintro ⟨d, p1, p2, rfl, h1, h2⟩
        obtain ⟨ds', hf, hs⟩ := (pmA_iff σ xs _).1 h2
        refine ⟨d :: ds', .cons h1 hf, ?_⟩
        have : (d :: (p1 ++ p2)).Perm (p1 ++ d :: p2) := (List.perm_middle).symm
        exact ((subperm_cons d).2 hs).trans this.subperm
      · rintro ⟨ds', hf, hs⟩
        cases hf with
        | cons h1 hf =>
          rename_i d ds''
          have hd : d ∈ ds := hs.subset List.mem_cons_self
          obtain ⟨p1, p2, rfl⟩ := List.append_of_mem hd
          refine ⟨d, p1, p2, rfl, h1, (pmA_iff σ xs _).2 ⟨ds'', hf, ?_⟩⟩
          have : (p1 ++ d :: p2).Perm (d :: (p1 ++ p2)) := List.perm_middle
          exact (subperm_cons d).1 (hs.trans this.subperm)

theorem pmA_cons_of {τ : Bs} {x d : J} {zs L L' : List J} (h : pmv τ x d = true) (hp : L.Perm (d :: L'))
    (hz : pmA τ zs L' = true) : pmA τ (x :: zs) L = true := by
  obtain ⟨ds', hf, hs⟩ := (pmA_iff τ zs L').1 hz
  exact (pmA_iff τ _ L).2 ⟨d :: ds', .cons h hf, ((subperm_cons d).2 hs).trans hp.symm.subperm⟩

theorem pmA_of_subperm {σ : Bs} {xs xs' ds ds' : List J} (hp : xs.Perm xs') (hd : ds <+~ ds') (h : pmA σ xs ds = true) :
    pmA σ xs' ds' = true := by
  obtain ⟨es, hf, hs⟩ := (pmA_iff σ xs ds).1 h
  obtain ⟨w, hw1, hw2⟩ := List.perm_comp_forall₂ hp.symm hf
  exact (pmA_iff σ xs' ds').2 ⟨w, hw1, (hw2.subperm.trans hs).trans hd⟩

theorem pmA_cons_elim {τ : Bs} {x : J} {zs L : List J} (h : pmA τ (x :: zs) L = true) :
    ∃ d ∈ L, pmv τ x d = true ∧ ∀ L', L.Perm (d :: L') → pmA τ zs L' = true := by
  obtain ⟨d, p1, p2, rfl, h1, h2⟩ := pmA_cons_iff.1 h
  exact ⟨d, by simp, h1, fun L' hp => pmA_of_subperm (.refl _) ((List.perm_middle.symm.trans hp).cons_inv).subperm h2⟩

theorem pmv_struct {σ : Bs} {x d : J} (hx : x.isScalar = false) (h : pmv σ x d = true) :
    d.isScalar = false := by
  cases x with
  | arr xs => rw [pmv_arr] at h; cases d <;> simp_all [J.isScalar]
  | obj kvs => rw [pmv_obj] at h; cases d <;> simp_all [J.isScalar]
  | _ => simp [J.isScalar] at hx

theorem pmStr_mono {σ σ' : Bs} (he : σ.Ext σ') {s : String} {d : J} (h : pmStr σ s d = true) :
    pmStr σ' s d = true := by
  cases hv : isVar s with
  | false => exact (pmStr_const hv d).2 ((pmStr_const hv d).1 h)
  | true =>
    by_cases hq : s = "?"
    · subst hq; rfl
    · exact (pmStr_var_iff hv hq).2 (he _ _ ((pmStr_var_iff hv hq).1 h))

/-- **How `pmv σ p d` can hold**, for a pattern whose map keys are constants: the induction principle of the
specification.  `K` is any hereditary predicate that says so (`patOK`, `noVarKeys`); a map pattern lies over a map with
every key present and its value laid, an array pattern over an array by an injective assignment of its elements. -/
theorem pmv_induct {σ : Bs} {K : J → Prop} {C : J → J → Prop}
    (kobj : ∀ {kvs}, K (.obj kvs) → ∀ kv ∈ kvs, isVar kv.1 = false ∧ K kv.2)
    (karr : ∀ {xs}, K (.arr xs) → ∀ x ∈ xs, K x)
    (hconst : ∀ x, x.isScalar = true → isVarElem x = false → C x x)
    (hvar : ∀ s d, isVar s = true → pmStr σ s d = true → C (.str s) d)
    (harr : ∀ xs ds ds', Forall₂ (fun x d => pmv σ x d = true ∧ C x d) xs ds' → ds' <+~ ds →
      C (.arr xs) (.arr ds))
    (hobj : ∀ kvs dm, K (.obj kvs) →
      (∀ kv ∈ kvs, ∃ dv, lookupKey kv.1 dm = some dv ∧ pmv σ kv.2 dv = true ∧ C kv.2 dv) → C (.obj kvs) (.obj dm)) :
    ∀ p, K p → ∀ d, pmv σ p d = true → C p d := by
  intro p
  induction p using J.patInd with
  | hconst x hx hv =>
    intro _ d h
    rw [(pmv_scalar_const hx (isVarElem_false hv) d).1 h]
    exact hconst x hx hv
  | hvar s hs => intro _ d h; rw [pmv_str] at h; exact hvar s d hs h
  | harr xs ih =>
    intro hk d h
    obtain ⟨ds, rfl, hA⟩ := pmv_arr_inv h
    obtain ⟨ds', hf, hs⟩ := (pmA_iff σ xs ds).1 hA
    exact harr xs ds ds' (((forall₂_and_left _ _).2 ⟨fun _ hx => hx, hf⟩).imp
      (fun x d ⟨hx, hd⟩ => ⟨hd, ih x hx (karr hk x hx) d hd⟩)) hs
  | hobj kvs ih =>
    intro hk d h
    obtain ⟨dm, rfl, hO⟩ := pmv_obj_inv h
    refine hobj kvs dm hk (fun kv hkv => ?_)
    obtain ⟨dv, hl, hdv⟩ := (pmO_const_iff σ dm kvs dm (fun kv hkv => (kobj hk kv hkv).1)).1 hO kv hkv
    exact ⟨dv, hl, hdv, ih kv hkv (kobj hk kv hkv).2 dv hdv⟩

theorem patOK_kobj {kvs : List (String × J)} (h : patOK (.obj kvs) = true) :
    ∀ kv ∈ kvs, isVar kv.1 = false ∧ patOK kv.2 = true :=
  fun kv hkv => ⟨((patOK_obj_iff kvs).1 h).1 kv hkv, ((patOK_obj_iff kvs).1 h).2 kv hkv⟩
theorem patOK_karr {xs : List J} (h : patOK (.arr xs) = true) : ∀ x ∈ xs, patOK x = true :=
  ((patOK_arr_iff xs).1 h).2.2

theorem pmv_mono {σ σ' : Bs} (he : σ.Ext σ') : ∀ (p : J), patOK p = true → ∀ d, pmv σ p d = true → pmv σ' p d = true :=
  pmv_induct (C := fun p d => pmv σ' p d = true) patOK_kobj patOK_karr
    (fun x hx hv => (pmv_scalar_const hx (isVarElem_false hv) x).2 rfl)
    (fun s d _ h => by rw [pmv_str]; exact pmStr_mono he h)
    (fun xs ds ds' hf hs => by rw [pmv_arr]; exact (pmA_iff σ' xs ds).2 ⟨ds', hf.imp (fun _ _ h => h.2), hs⟩)
    (fun kvs dm hk h => by
      rw [pmv_obj]
      exact (pmO_const_iff σ' dm kvs dm (fun kv hkv => (patOK_kobj hk kv hkv).1)).2
        (fun kv hkv => let ⟨dv, hl, _, hc⟩ := h kv hkv; ⟨dv, hl, hc⟩))
