import RulioProofs.SysLoop

open AM

/-! # Noninterference: the ancestor walk from `n` reads and writes only a parent-closed set of locations -/

/-! ## shrinking computations (`LM.Shr`): which methods shrink is read off as `(loc*_via …).shr` where a proof needs it;
`locGetFact_shr`, `locGetParents_shr` state it for two of them by name -/

namespace LM

theorem Shr.pure {α} (a : α) : (LM.pure a).Shr := fun _ => ⟨rfl, rfl, Shrinks.refl _⟩
theorem Shr.attempt {α} {m : LM α} (hm : m.Shr) : (LM.attempt m).Shr := by
  intro l; unfold LM.attempt; exact hm l

theorem Shr.keepsId {α} {m : LM α} (h : m.Shr) : m.KeepsId := fun l => ⟨(h l).1, (h l).2.1⟩

end LM

theorem locGetFact_shr (c : Ctx) (id : String) (now : Int) : (locGetFact c id now).Shr := (locGetFact_via c id now).shr

theorem locGetParents_shr (c : Ctx) (now : Int) : (locGetParents c now).Shr := (locGetParents_via c now).shr

theorem parentsIn_of_shrinks {S : String → Prop} {now : Int} {l l2 : Loc} (hs : Shrinks l.st l2.st)
    (h : ParentsIn S now l) : ParentsIn S now l2 := by
  intro l' ps hr p hp
  have hne : ps ≠ [] := by intro h0; subst h0; cases hp
  obtain ⟨f, v, hg, hc, hv, hpv⟩ := getParents_nonempty hr hne
  rcases hs.2.2.2.2 "!.parents" with ⟨hf, _⟩ | ⟨hf, _⟩
  · rw [hg] at hf
    exact h l ps (getParents_of_live hf.symm hc hv hpv) p hp
  · rw [hg] at hf; cases hf

theorem LM.Shr.parentMono {α} {m : LM α} (h : m.Shr) (now : Int) : m.ParentMono now :=
  fun _ l hl => parentsIn_of_shrinks (h l).2.2 hl

/-! ## lockstep simulation of two systems that agree on a parent-closed set -/

/-- both systems well-formed, the same locations under the names of `S`, and `S` parent-closed in the first -/
def SimR (S : String → Prop) (now : Int) (s1 s2 : Sys) : Prop :=
  SysWF s1 ∧ SysWF s2 ∧ AgreeOn S s1 s2 ∧ Closed S s1 now

theorem at_sim {α} {S : String → Prop} {now : Int} {sys1 sys2 : Sys} (hR : SimR S now sys1 sys2)
    {n : String} (hn : S n) {m : LM α} (hk : m.KeepsName) (hpm : m.ParentMono now) :
    WalkPost (SimR S now) (fun _ => True) (fun _ => True) (sys1.at n m) (sys2.at n m) := by
  obtain ⟨wf1, wf2, ha, hc⟩ := hR
  have hg := ha n hn
  obtain ⟨h2, hcomp⟩ := Sys.at_congr m hg
  refine ⟨h2, ⟨Sys.at_wf wf1 n m, Sys.at_wf wf2 n m, ?_, ?_⟩, fun _ _ => trivial, fun _ _ => trivial⟩
  · intro k hk'
    by_cases hkn : k = n
    · subst hkn; exact hcomp
    · rw [Sys.at_frame wf1 n hk hkn, Sys.at_frame wf2 n hk hkn]; exact ha k hk'
  · intro k hk' l hl
    by_cases hkn : k = n
    · subst hkn
      cases hg1 : sys1.get? k with
      | none => rw [Sys.at_none m hg1] at hl; rw [hg1] at hl; cases hl
      | some l0 =>
        rw [Sys.at_self wf1 hk hg1] at hl
        cases hl
        exact hpm S l0 (hc k hk' l0 hg1)
    · rw [Sys.at_frame wf1 n hk hkn] at hl
      exact hc k hk' l hl

theorem Closed.parents_of_at {S : String → Prop} {sys s1 : Sys} {now : Int} {n : String} {ps : List String}
    (hc : Closed S sys now) (hn : S n) (h1 : sys.at n (locGetParentsRaw now) = (s1, .ok ps)) : ∀ p ∈ ps, S p := by
  obtain ⟨l0, hl0, hr⟩ := Sys.at_ok_get? h1
  exact hc n hn l0 hl0 _ ps (Prod.ext rfl hr)

/-- **lockstep**: two well-formed systems that agree on a parent-closed set `S ∋ n` give the same outcome for the walk
from `n` and still agree on `S` afterwards; and every value returned was produced by `fn m` at some `m ∈ S` (`P` is any
property that `fn m` establishes for `m ∈ S`) -/
theorem doAncestors_lockstep {α} {S : String → Prop} {now : Int} {fn : String → LM α} (P : α → Prop)
    (hfnk : ∀ n, (fn n).KeepsName) (hfnm : ∀ n, (fn n).ParentMono now)
    (hP : ∀ m, S m → ∀ l a, (fn m l).2 = .ok a → P a) (fuel : Nat) (sys1 sys2 : Sys) (n : String) (acc : List α)
    (path : List String) (hR : SimR S now sys1 sys2) (hn : S n) (hacc : ∀ x ∈ acc, P x) :
    WalkPost (SimR S now) (fun ls => ∀ x ∈ ls, P x) (fun _ => True)
      (doAncestors fuel sys1 n now fn acc path) (doAncestors fuel sys2 n now fn acc path) :=
  doAncestors_rule (R := SimR S now) (V := S) (A := fun acc => ∀ x ∈ acc, P x) (E := fun _ => True)
    (d := 0) (G := fun _ _ => True)
    { loop := trivial, noProvider := trivial, notFound := trivial
      zero := fun _ _ => ⟨rfl, trivial⟩, down := fun _ _ _ _ _ _ _ _ _ => trivial
      agree := fun _ _ p hs hp => hs.2.2.1 p hp
      read := fun s1 s2 n hs hn =>
        have h := at_sim hs hn (locGetParentsRaw_via now).keepsId.keepsName ((locGetParentsRaw_via now).shr.parentMono now)
        ⟨h.out, h.rel, fun ps hps => hs.2.2.2.parents_of_at hn (Prod.ext rfl hps), fun _ _ => trivial⟩
      visit := fun s1 s2 n hs hn =>
        have h := at_sim hs hn (hfnk n) (hfnm n)
        ⟨h.out, h.rel, fun a ha acc hacc x hx => by
          rcases List.mem_append.1 hx with hx | hx
          · exact hacc x hx
          · obtain ⟨l0, _, ha⟩ := Sys.at_ok_get? (Prod.ext rfl ha : s1.at n (fn n) = (_, .ok a))
            rw [List.mem_singleton.1 hx]; exact hP n hn l0 a ha,
        fun _ _ => trivial⟩ }
    fuel sys1 sys2 n acc path hR hn hacc trivial

/-! ## the static ancestor set is parent-closed -/

theorem Sys.parentsAt_eq_some {sys : Sys} {now : Int} {n : String} {ps : List String} :
    sys.parentsAt now n = some ps ↔ ∃ l, sys.get? n = some l ∧ (locGetParentsRaw now l).2 = .ok ps := by
  unfold Sys.parentsAt
  cases sys.get? n with
  | none => simp
  | some l => cases h : (locGetParentsRaw now l).2 <;> simp [h]

theorem Anc.tail {sys : Sys} {now : Int} {n m p : String} (h : Anc sys now n m) (hp : Par sys now m p) :
    Anc sys now n p := by
  induction h with
  | refl n => exact .step hp (.refl p)
  | step hpar _ ih => exact .step hpar (ih hp)

theorem anc_closed (sys : Sys) (now : Int) (n : String) : Closed (Anc sys now n) sys now := by
  intro m hm l hl l' ps hr p hp
  exact hm.tail ⟨ps, Sys.parentsAt_eq_some.2 ⟨l, hl, congrArg Prod.snd hr⟩, hp⟩

theorem simR_of_agree {S : String → Prop} {now : Int} {sys1 sys2 : Sys} (wf1 : SysWF sys1) (wf2 : SysWF sys2)
    (ha : AgreeOn S sys1 sys2) (hc : Closed S sys1 now) : SimR S now sys1 sys2 := ⟨wf1, wf2, ha, hc⟩

/-- the walk with each system's own `ancestorFuel`, compared at a common (larger) fuel -/
theorem doAncestors_sim_own_fuel {α} {S : String → Prop} {now : Int} {fn : String → LM α}
    (hfnk : ∀ n, (fn n).KeepsName) (hfnm : ∀ n, (fn n).ParentMono now)
    {sys1 sys2 : Sys} (hR : SimR S now sys1 sys2) {n : String} (hn : S n) (acc : List α) :
    WalkPost (SimR S now) (fun _ => True) (fun _ => True) (doAncestors (ancestorFuel sys1) sys1 n now fn acc)
      (doAncestors (ancestorFuel sys2) sys2 n now fn acc) := by
  rw [← (doAncestors_fits_own hfnk hR.1 (Nat.le_max_left _ (ancestorFuel sys2)) n acc).1,
    ← (doAncestors_fits_own hfnk hR.2.1 (Nat.le_max_right (ancestorFuel sys1) _) n acc).1]
  have h := doAncestors_lockstep (fun _ => True) hfnk hfnm (fun _ _ _ _ _ => trivial)
    (max (ancestorFuel sys1) (ancestorFuel sys2)) sys1 sys2 n acc [] hR hn
    (fun _ _ => trivial)
  exact ⟨h.out, h.rel, fun _ _ => trivial, fun _ _ => trivial⟩

/-! ## inherited search: each location's answer tagged with its name -/

theorem tagged_fst {α} (fn : String → LM α) (n : String) (l : Loc) : (tagged fn n l).1 = (fn n l).1 := by
  unfold tagged LM.bind
  cases fn n l with
  | mk l1 r => cases r <;> rfl

theorem tagged_keeps {α} {fn : String → LM α} (h : ∀ n, (fn n).KeepsName) (n : String) : (tagged fn n).KeepsName :=
  fun l => by rw [tagged_fst]; exact h n l

theorem tagged_parentMono {α} {fn : String → LM α} {now : Int} (h : ∀ n, (fn n).ParentMono now) (n : String) :
    (tagged fn n).ParentMono now :=
  fun S l hl => by rw [tagged_fst]; exact h n S l hl

theorem tagged_ok {α} {fn : String → LM α} {m : String} {l : Loc} {x : String × α}
    (h : (tagged fn m l).2 = .ok x) : x.1 = m := by
  unfold tagged LM.bind at h
  cases hml : fn m l with
  | mk l1 r =>
    rw [hml] at h
    cases r with
    | error e => cases h
    | ok a => simp only [LM.pure] at h; cases h; rfl

/-- **noninterference** for `SearchFacts`: equal outcome on systems that agree on a parent-closed `S ∋ n` -/
theorem sysSearchFacts_sim {S : String → Prop} {now : Int} {sys1 sys2 : Sys} (hR : SimR S now sys1 sys2)
    {n : String} (hn : S n) (c : Ctx) (p : Obj) (inh : Bool) :
    WalkPost (SimR S now) (fun _ => True) (fun _ => True)
      (sysSearchFacts sys1 c n p inh now) (sysSearchFacts sys2 c n p inh now) := by
  unfold sysSearchFacts
  cases inh with
  | false =>
    simp only [Bool.false_eq_true, if_false]
    exact at_sim hR hn (locSearchFacts_via c p now).keepsId.keepsName ((locSearchFacts_via c p now).shr.parentMono now)
  | true =>
    simp only [if_true]
    obtain ⟨s1, s2, r, hd1, hd2, h2⟩ := WalkPost.cases
      (doAncestors_sim_own_fuel (fn := tagged (fun _ => locSearchFacts c p now))
        (tagged_keeps (fun _ => (locSearchFacts_via c p now).keepsId.keepsName))
        (tagged_parentMono (fun _ => (locSearchFacts_via c p now).shr.parentMono now)) hR hn [])
    rw [hd1, hd2]
    cases r <;> exact ⟨rfl, h2.rel, fun _ _ => trivial, fun _ _ => trivial⟩

/-- **noninterference** for `searchRulesAncestors` (event dispatch candidates) -/
theorem sysSearchRulesAnc_sim {S : String → Prop} {now : Int} {sys1 sys2 : Sys} (hR : SimR S now sys1 sys2)
    {n : String} (hn : S n) (c : Ctx) (ev : Obj) :
    WalkPost (SimR S now) (fun _ => True) (fun _ => True)
      (sysSearchRulesAnc sys1 c n ev now) (sysSearchRulesAnc sys2 c n ev now) := by
  unfold sysSearchRulesAnc
  obtain ⟨s1, s2, r, hd1, hd2, h2⟩ := WalkPost.cases
    (doAncestors_sim_own_fuel (fn := tagged (fun _ => locSearchRules c ev now))
      (tagged_keeps (fun _ => (locSearchRules_via c ev now).keepsId.keepsName))
      (tagged_parentMono (fun _ => (locSearchRules_via c ev now).shr.parentMono now)) hR hn [])
  rw [hd1, hd2]
  cases r with
  | error e => exact .error h2.rel trivial
  | ok ls =>
    simp only []
    split <;> exact ⟨rfl, h2.rel, fun _ _ => trivial, fun _ _ => trivial⟩

theorem agree_after_op_elsewhere {α} {sys : Sys} (wf : SysWF sys) {now : Int} {n d : String}
    (hd : ¬ Anc sys now n d) {m : LM α} (hm : m.KeepsName) :
    SimR (Anc sys now n) now sys (sys.at d m).1 := by
  refine ⟨wf, Sys.at_wf wf d m, ?_, anc_closed sys now n⟩
  intro k hk
  have : k ≠ d := by intro h; subst h; exact hd hk
  exact (Sys.at_frame wf d hm this).symm

/-! ## parent-closed sets -/
theorem closedB_sound {names : List String} {sys : Sys} {now : Int} (h : closedB names sys now = true) :
    Closed (· ∈ names) sys now := by
  intro m hm l hl l' ps hr p hp
  unfold closedB at h
  have := List.all_eq_true.1 h m hm
  rw [hl] at this
  simp only [hr] at this
  have := List.all_eq_true.1 this p hp
  simpa using this

theorem anc_subset_closed {S : String → Prop} {sys : Sys} {now : Int} (hc : Closed S sys now) {n a : String}
    (hn : S n) (h : Anc sys now n a) : S a := by
  induction h with
  | refl n => exact hn
  | @step n' p' a' hpar _ ih =>
    obtain ⟨ps, hpa, hp⟩ := hpar
    obtain ⟨l, hg, hr⟩ := Sys.parentsAt_eq_some.1 hpa
    exact ih (hc n' hn l hg _ ps (Prod.ext rfl hr) p' hp)

/-! ## the exported entry points `SearchRules` and `ListRules` -/

theorem sysSearchRules_sim {S : String → Prop} {now : Int} {sys1 sys2 : Sys} (hR : SimR S now sys1 sys2)
    {n : String} (hn : S n) (c : Ctx) (ev : Obj) (inh : Bool) :
    WalkPost (SimR S now) (fun _ => True) (fun _ => True)
      (sysSearchRules sys1 c n ev inh now) (sysSearchRules sys2 c n ev inh now) := by
  unfold sysSearchRules
  obtain ⟨s1, s2, r, hd1, hd2, h2⟩ := WalkPost.cases
    (at_sim hR hn (runGuards_via (w := false) c now (guardsOf "SearchRules")).keepsId.keepsName
      ((runGuards_via c now (guardsOf "SearchRules")).shr.parentMono now))
  rw [hd1, hd2]
  cases r with
  | error e => exact .error h2.rel trivial
  | ok u =>
    simp only []
    cases inh with
    | true => simp only [if_true]; exact sysSearchRulesAnc_sim h2.rel hn c ev
    | false =>
      simp only [Bool.false_eq_true, if_false]
      exact at_sim h2.rel hn (locSearchRules_via c ev now).keepsId.keepsName ((locSearchRules_via c ev now).shr.parentMono now)

theorem sysListRules_sim {S : String → Prop} {now : Int} {sys1 sys2 : Sys} (hR : SimR S now sys1 sys2)
    {n : String} (hn : S n) (c : Ctx) (inh : Bool) :
    WalkPost (SimR S now) (fun _ => True) (fun _ => True)
      (sysListRules sys1 c n inh now) (sysListRules sys2 c n inh now) := by
  unfold sysListRules
  obtain ⟨s1, s2, r, hd1, hd2, h2⟩ := WalkPost.cases
    (at_sim hR hn (runGuards_via (w := false) c now (guardsOf "ListRules")).keepsId.keepsName
      ((runGuards_via c now (guardsOf "ListRules")).shr.parentMono now))
  rw [hd1, hd2]
  cases r with
  | error e => exact .error h2.rel trivial
  | ok u =>
    simp only []
    obtain ⟨t1, t2, q, hf1, hf2, h4⟩ := (sysSearchFacts_sim h2.rel hn c [("rule", .str "?rule")] inh).cases
    rw [hf1, hf2]
    cases q with
    | error e => simp only []; cases inh <;> exact ⟨rfl, h4.rel, fun _ _ => trivial, fun _ _ => trivial⟩
    | ok found => exact .value h4.rel trivial
