import RulioProofs.StateSearchSpec
import RulioProofs.StateWF

/-! # C02 assembly: the public `search` against the specification, fresh ids -/

/-! ## search with the budget `St.fuelOK` (which is `St.fuel`) or any larger one -/

theorem isearch_eq_ispec {s : St} {now : Int} (hne : NoneExpired s now) (p : Obj) {g : Nat} (hg : s.fuelOK ≤ g) :
    St.isearch g s p now = (s, s.ispec p) := by
  obtain ⟨c, hc⟩ := St.cands_ok s p
  rw [St.ispec, hc.eq]
  apply (isearch_spec hne hc.eq g).2
  simp only [St.fuelOK] at hg
  have := hc.length
  omega

theorem lsearch_eq_lspec {s : St} {now : Int} (hne : NoneExpired s now) (p : Obj) {g : Nat} (hg : s.fuelOK ≤ g) :
    St.lsearch g s p now = (s, s.lspec p) := by
  apply (lsearch_spec hne p g).2
  simp only [St.fuelOK] at hg
  omega

theorem add_id_genId {s : St} {given : String} {x : Obj} {now : Int} {id : String}
    (h : (s.add given x now).2 = .ok id) : genId x given s.freshId = .ok id := by
  obtain ⟨m, ha⟩ := add_shape_of_eq (Prod.ext rfl h : s.add given x now = (_, .ok id))
  obtain ⟨x', hp⟩ := ha.prep
  exact (prepareFact_parts hp).1

theorem freshId_not_stored {s : St} (h : FreshOK s) : amGet s.facts s.freshId = none := by
  rw [AM.amGet_eq_none_iff]
  intro hk
  obtain ⟨e, he, hke⟩ := List.mem_map.1 hk
  exact h e he s.fresh (Nat.le_refl _) hke

theorem MatcherSound.on {p : Obj} (h : MatcherSound p) (F : List (String × Obj)) : MatcherSoundOn F p :=
  fun e _ bss hm hne => h e.2 bss hm hne

theorem specSearch_depPat_ok (F : List (String × Obj)) (id : String) (hid : isVar id = false) (now : Int) :
    ∃ R, specSearch F (depPat id) now = .ok R := by
  rw [specSearch_eq]
  obtain ⟨pers, hp⟩ := mapM_ok_of_forall (f := specStep (depPat id)) (l := F.filter fun f => unexpired f.2 now)
    fun ⟨i, f⟩ _ => ⟨_, by simp only [specStep, matchesJ_depPat id hid f]; rfl⟩
  rw [hp]; exact ⟨_, rfl⟩

theorem searchWith_linear {s : St} {now : Int} (hk : s.kind = .linear) (hwf : KeysNodup s) (hne : NoneExpired s now)
    (p : Obj) {g : Nat} (hg : s.fuelOK ≤ g) :
    ∃ r, s.searchWith g p now = (s, r) ∧ r.map projRes = specSearch s.facts p now := by
  refine ⟨s.lspec p, ?_, scan_keys_spec hwf hne p⟩
  simp only [St.searchWith, hk]
  exact lsearch_eq_lspec hne p hg

theorem searchWith_linear_ok {s : St} {now : Int} (hk : s.kind = .linear) (hwf : KeysNodup s) (hne : NoneExpired s now)
    {p : Obj} {R : List (String × List Bs)} (hspec : specSearch s.facts p now = .ok R) {g : Nat} (hg : s.fuelOK ≤ g) :
    ∃ Rl, s.searchWith g p now = (s, .ok Rl) ∧ projRes Rl = R := by
  obtain ⟨r, h1, h2⟩ := searchWith_linear hk hwf hne p hg
  rw [hspec] at h2
  cases r with
  | error e => cases h2
  | ok Rl => exact ⟨Rl, h1, Except.ok.inj h2⟩

theorem searchWith_indexed {s : St} {now : Int} (hk : s.kind = .indexed) (hwf : WF s) (hne : NoneExpired s now)
    {p : Obj} (hterm : TermOK p = true) (hsound : MatcherSoundOn s.facts p) {R : List (String × List Bs)}
    (hspec : specSearch s.facts p now = .ok R) {g : Nat} (hg : s.fuelOK ≤ g) :
    ∃ R', s.searchWith g p now = (s, .ok R') ∧ (projRes R').Perm R := by
  have hnv : noVarKeysO p = true := by
    simp only [TermOK, Bool.and_eq_true] at hterm; exact hterm.1
  obtain ⟨R', h1, h2⟩ := ispec_perm_spec hwf.keys (hwf.tiok hk) (hwf.tinodup hk) hne hnv hsound hspec
  refine ⟨R', ?_, h2⟩
  simp only [St.searchWith, hk]
  rw [isearch_eq_ispec hne p hg, h1]

theorem searchWith_indexed_err {s : St} {now : Int} (hk : s.kind = .indexed) (hwf : WF s) (hne : NoneExpired s now)
    {p : Obj} (hterm : TermOK p = true) (hsound : MatcherSoundOn s.facts p) {g : Nat} (hg : s.fuelOK ≤ g)
    {e : LErr} (herr : (s.searchWith g p now).2 = .error e) : ∃ e', specSearch s.facts p now = .error e' := by
  cases hspec : specSearch s.facts p now with
  | error e' => exact ⟨e', rfl⟩
  | ok R =>
    obtain ⟨R', h1, _⟩ := searchWith_indexed hk hwf hne hterm hsound hspec hg
    rw [h1] at herr; cases herr
