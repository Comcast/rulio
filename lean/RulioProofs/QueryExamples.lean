import RulioProofs.Query
import RulioProofs.JsonBase
import RulioProofs.MatchRun

/-! # Concrete instances for C03, used by the `example`s of `Props/C03.lean`: the matcher is run by the kernel on the
matcher of `MatchRun` (`exSrch_eval`), `subst` is evaluated by `simp`, closed terms over structurally recursive functions
by `rfl` -/

namespace QueryEx
open QSpec
open QueryProofs

/-- three stored facts `{"a":1}`, `{"a":2}`, `{"b":1}` -/
def exFacts : List J := [.obj [("a", .num 1)], .obj [("a", .num 2)], .obj [("b", .num 1)]]

/-- fact search over `exFacts` with the real matcher model -/
def exSrch : Srch := fun p =>
  match exFacts.mapM (fun f => matchJ (.obj p) f []) with
  | .ok r => .ok r.flatten
  | .error _ => .error "match"

def x1 : Bs := [("?x", .num 1)]
def x2 : Bs := [("?x", .num 2)]

/-- `{"pattern":{"a":"?x"}}` -/
def qA : Q := .pattern [("a", .str "?x")] []
/-- `{"pattern":{"b":"?x"}}` -/
def qB : Q := .pattern [("b", .str "?x")] []
/-- code term "x == 2" of the template family -/
def tEq2 : J := .obj [("t", .str "eqvar"), ("x", .str "x"), ("v", .num 2)]
/-- code term returning the object `{"y": x}` -/
def tBind : J := .obj [("t", .str "bindvar"), ("x", .str "x"), ("k", .str "y")]
/-- code term that throws -/
def tThrow : J := .obj [("t", .str "throw")]

theorem exSrch_eval (p : Obj) : exSrch p =
    match exFacts.mapM (fun f => evalJ evalStr (.obj p) f []) with
    | .ok r => .ok r.flatten
    | .error _ => .error "match" := by
  simp only [exSrch, matchJ_eq_eval]

attribute [local instance] J.decEq in
theorem srch_a_var : exSrch [("a", .str "?x")] = .ok [x1, x2] := (exSrch_eval _).trans (by decide +kernel)
attribute [local instance] J.decEq in
theorem srch_b_var : exSrch [("b", .str "?x")] = .ok [x1] := (exSrch_eval _).trans (by decide +kernel)
attribute [local instance] J.decEq in
theorem srch_b_1 : exSrch [("b", .num 1)] = .ok [[]] := (exSrch_eval _).trans (by decide +kernel)
attribute [local instance] J.decEq in
theorem srch_b_2 : exSrch [("b", .num 2)] = .ok [] := (exSrch_eval _).trans (by decide +kernel)

theorem subst_a_nil : substO [] [("a", .str "?x")] = [("a", .str "?x")] := by
  simp [substO, subst, isVar_qx, Bs.get?]
theorem subst_b_nil : substO [] [("b", .str "?x")] = [("b", .str "?x")] := by
  simp [substO, subst, isVar_qx, Bs.get?]
theorem subst_b_x1 : substO x1 [("b", .str "?x")] = [("b", .num 1)] := by
  simp [x1, substO, subst, isVar_qx, Bs.get?]
theorem subst_b_x2 : substO x2 [("b", .str "?x")] = [("b", .num 2)] := by
  simp [x2, substO, subst, isVar_qx, Bs.get?]

theorem strip_x1 : stripQ x1 = [("x", .num 1)] := stripQ_map_var [("x", .num 1)]
theorem strip_x2 : stripQ x2 = [("x", .num 2)] := stripQ_map_var [("x", .num 2)]

theorem J.beq_def (a b : J) : (a == b) = J.beq a b := rfl

theorem eq2_x1 : evalTmpl tEq2 (stripQ x1) = .ok (.bool false) := by
  rw [strip_x1]; rfl
theorem eq2_x2 : evalTmpl tEq2 (stripQ x2) = .ok (.bool true) := by
  rw [strip_x2]; rfl
theorem bind_x1 : evalTmpl tBind (stripQ x1) = .ok (.obj [("y", .num 1)]) := by
  rw [strip_x1]; rfl

theorem qA_nil : execQ exSrch qA [[]] = .ok [x1, x2] := by
  rw [qA, exec_pattern_one exSrch _ [] [] _ (subst_a_nil ▸ srch_a_var)]; rfl
theorem qB_nil : execQ exSrch qB [[]] = .ok [x1] := by
  rw [qB, exec_pattern_one exSrch _ [] [] _ (subst_b_nil ▸ srch_b_var)]; rfl
theorem qB_x1 : execQ exSrch qB [x1] = .ok [x1] := by
  rw [qB, exec_pattern_one exSrch _ [] x1 _ (subst_b_x1 ▸ srch_b_1)]; rfl
theorem qB_x2 : execQ exSrch qB [x2] = .ok [] := by
  rw [qB, exec_pattern_one exSrch _ [] x2 _ (subst_b_x2 ▸ srch_b_2)]; rfl

/-- the result of `qB` on the singleton of a binding of `?x` -/
def resB : Bs → List Bs
  | [(_, .num 1)] => [x1]
  | _ => []

theorem qB_res (bs : Bs) (hm : bs = x1 ∨ bs = x2) : execQ exSrch qB [bs] = .ok (resB bs) := by
  rcases hm with rfl | rfl
  · exact qB_x1
  · exact qB_x2

theorem throw_any (bs : Bs) : evalTmpl tThrow bs = .error "script" := evalTmpl_throw _ bs rfl

theorem throw_nil : execQ exSrch (.code tThrow) [[]] = .error "script" := by
  rw [exec_code_eq, bindEach_single]; unfold codeOne; rw [bind_of_err _ _ _ (throw_any _)]

theorem not_empty_nil : execQ exSrch (.not .empty) [[]] = .ok [] := by
  rw [exec_not_filter exSrch .empty (fun bs => [bs]) [[]] fun bs _ => exec_empty_eq exSrch [bs]]; rfl

/-- `{"and":[{"pattern":{"a":"?x"}},{"not":{"pattern":{"b":"?x"}}}], "or":[], "not":{}}` -/
def exDoc : J := .obj [("not", .obj []), ("or", .arr []),
  ("and", .arr [.obj [("pattern", .obj [("a", .str "?x")])], .obj [("not", .obj [("pattern", .obj [("b", .str "?x")])])]])]

/-- `{"or":[{}], "ShortCircuit":true, "short_circuit":false}` -/
def exDocOr : J := .obj [("or", .arr [.obj []]), ("short_circuit", .bool false), ("ShortCircuit", .bool true)]

theorem exDoc_parse : parseQuery 9 exDoc = .ok (.and [qA, .not qB]) := by
  rfl
theorem exDocOr_parse : parseQuery 9 exDocOr = .ok (.or [.empty] true) := by
  rfl

theorem not_qB : execQ exSrch (.not qB) [x1, x2] = .ok [x2] := by
  rw [exec_not_filter exSrch qB resB [x1, x2] fun bs hm => qB_res bs (by simpa using hm)]
  rfl

theorem ex_and : execQ exSrch (.and [qA, .not qB]) [[]] = .ok [x2] := by
  rw [exec_and_execAnd, execAnd_cons, bind_of_ok _ _ _ qA_nil, execAnd_cons, bind_of_ok _ _ _ not_qB, execAnd_nil]

end QueryEx
