import RulioModel.PatIndexSpec
import RulioProofs.Lookup

/-! # Pattern index: trie lemmas, `path` equations, what `PI.mod` does to the id lists (C01) -/

namespace PI

theorem path_nil : path [] = some [] := by rw [path]

/-- `path` on a pair, with a plain `match` that rewriting sees through -/
theorem path_cons (k : String) (v : J) (rest : List (String × J)) :
    path ((k, v) :: rest) =
      match picast v with
      | .s x => (path rest).map (fun π => .str (if isVar k then "?" else k) :: .str x :: π)
      | .v => (path rest).map (fun π => .str (if isVar k then "?" else k) :: .var :: π)
      | .m kvs => (path (mapToPairs kvs ++ rest)).map (fun π => .str (if isVar k then "?" else k) :: .map :: π)
      | .a xs =>
        match sortValues xs with
        | .error _ => none
        | .ok sorted => path (sorted.map (fun x => (k, x)) ++ rest) := by
  rw [path]
  split
  · next h => rw [h]
  · next h => rw [h]
  · next h => rw [h]
  · next h =>
    rw [h]
    split
    · next hs => simp only [hs]
    · next hs => simp only [hs]

theorem path_cons_s {k : String} {v : J} {x : String} (rest) (h : picast v = .s x) :
    path ((k, v) :: rest) =
      (path rest).map (fun π => .str (if isVar k then "?" else k) :: .str x :: π) := by
  rw [path_cons, h]

theorem path_cons_v {k : String} {v : J} (rest) (h : picast v = .v) :
    path ((k, v) :: rest) =
      (path rest).map (fun π => .str (if isVar k then "?" else k) :: .var :: π) := by
  rw [path_cons, h]

theorem path_cons_m {k : String} {v : J} {kvs} (rest) (h : picast v = .m kvs) :
    path ((k, v) :: rest) =
      (path (mapToPairs kvs ++ rest)).map (fun π => .str (if isVar k then "?" else k) :: .map :: π) := by
  rw [path_cons, h]

theorem path_cons_a_err {k : String} {v : J} {xs e} (rest) (h : picast v = .a xs)
    (hs : sortValues xs = .error e) : path ((k, v) :: rest) = none := by
  rw [path_cons, h]; simp only [hs]

theorem path_cons_a_ok {k : String} {v : J} {xs sorted} (rest) (h : picast v = .a xs)
    (hs : sortValues xs = .ok sorted) :
    path ((k, v) :: rest) = path (sorted.map (fun x => (k, x)) ++ rest) := by
  rw [path_cons, h]; simp only [hs]

theorem ids_setChild (n : PI) (e : Edge) (c : PI) : (n.setChild e c).ids = n.ids := by
  unfold setChild; split <;> rfl

theorem child_eq_lookup (n : PI) (e : Edge) : n.child e = n.children.lookup e := List.find?_key_eq_lookup _ e

theorem child_setChild (n : PI) (e e' : Edge) (c : PI) :
    (n.setChild e c).child e' = if e' = e then some c else n.child e' := by
  rw [child_eq_lookup, child_eq_lookup, ← List.lookup_upsert, setChild]; split <;> rfl

theorem childD_setChild (n : PI) (e e' : Edge) (c : PI) :
    (n.setChild e c).childD e' = if e' = e then c else n.childD e' := by
  unfold childD; rw [child_setChild]; split <;> rfl

theorem childD_node (n : PI) (i : List String) (e : Edge) : (PI.node n.children i).childD e = n.childD e := rfl

theorem childD_empty (e : Edge) : empty.childD e = empty := rfl

theorem idsAt_empty : ∀ π, idsAt empty π = []
  | [] => rfl
  | e :: π => by rw [idsAt, childD_empty]; exact idsAt_empty π

theorem idsAt_nil (n : PI) : idsAt n [] = n.ids := rfl
theorem idsAt_cons (n : PI) (e) (π) : idsAt n (e :: π) = idsAt (n.childD e) π := rfl

theorem idsAt_setChild_cons (n : PI) (e e' : Edge) (c : PI) (π) :
    idsAt (n.setChild e c) (e' :: π) = if e' = e then idsAt c π else idsAt n (e' :: π) := by
  rw [idsAt, childD_setChild]; split <;> rfl

/-- materialising a child that is not there yet changes no id list -/
theorem idsAt_setChild_self (n : PI) (e : Edge) : ∀ ρ, idsAt (n.setChild e (n.childD e)) ρ = idsAt n ρ
  | [] => ids_setChild _ _ _
  | e' :: ρ => by
    rw [idsAt_setChild_cons]; split
    · next h => subst h; rfl
    · rfl

theorem child_of_mem {n : PI} {e : Edge} {π : List Edge} {id : String} (h : id ∈ idsAt (n.childD e) π) :
    n.child e = some (n.childD e) := by
  unfold childD at h ⊢
  cases hc : n.child e with
  | some c => rfl
  | none => rw [hc] at h; simp [Option.getD, idsAt_empty] at h

theorem idsAt_child {n : PI} {e : Edge} {π : List Edge} {id : String} (h : id ∈ idsAt n (e :: π)) :
    ∃ c, n.child e = some c ∧ id ∈ idsAt c π := ⟨_, child_of_mem h, h⟩

theorem idsAt_of_child {n c : PI} {e : Edge} (h : n.child e = some c) (π : List Edge) : idsAt n (e :: π) = idsAt c π := by
  rw [idsAt_cons, childD, h]; rfl

/-! ## what `mod` does -/

/-- `idx'` has the id lists of `idx`, but for the node at the end of the path `π?`, where `U` has been applied to the list
(`none`: nowhere) -/
def ModSpec (idx idx' : PI) (π? : Option (List Edge)) (U : List String → List String) : Prop :=
  ∀ ρ, idsAt idx' ρ = if π? = some ρ then U (idsAt idx ρ) else idsAt idx ρ

theorem ModSpec.one_step {idx sub : PI} {e : Edge} {π? U} (h : ModSpec (idx.childD e) sub π? U) :
    ModSpec idx (idx.setChild e sub) (π?.map (e :: ·)) U := by
  intro ρ
  match ρ with
  | [] => rw [idsAt_nil, idsAt_nil, ids_setChild]; cases π? <;> simp
  | a :: ρ =>
    rw [idsAt_setChild_cons]
    by_cases h1 : a = e
    · subst h1; rw [if_pos rfl, h ρ, idsAt_cons]; cases π? <;> simp
    · rw [if_neg h1, if_neg]; cases π? <;> simp [Ne.symm h1]

theorem ModSpec.two_step {idx sub : PI} {e1 e2 : Edge} {π? U}
    (h : ModSpec ((idx.childD e1).childD e2) sub π? U) :
    ModSpec idx (idx.setChild e1 ((idx.childD e1).setChild e2 sub)) (π?.map (fun π => e1 :: e2 :: π)) U := by
  have := h.one_step.one_step
  rwa [Option.map_map] at this

theorem ModSpec.of_same {idx idx1 idx' : PI} {π? U} (hs : ∀ ρ, idsAt idx1 ρ = idsAt idx ρ)
    (h : ModSpec idx1 idx' π? U) : ModSpec idx idx' π? U := by
  intro ρ; rw [h ρ, hs ρ]

theorem szO_cons_lt {k : String} {v : J} {rest : List (String × J)} : szO rest < szO ((k, v) :: rest) := by
  have := sz_pos v; simp [szO]; omega

theorem szO_map_lt {k : String} {kvs rest : List (String × J)} :
    szO (mapToPairs kvs ++ rest) < szO ((k, .obj kvs) :: rest) := by
  simp [szO, szO_append, szO_mapToPairs, sz]

theorem szO_arr_lt {k : String} {xs sorted : List J} {rest : List (String × J)} (hs : sortValues xs = .ok sorted) :
    szO (sorted.map (fun x => (k, x)) ++ rest) < szO ((k, .arr xs) :: rest) := by
  simp [szO, szO_append, szO_elems, szL_sortValues _ _ hs, sz]

theorem modW_nil (idx : PI) (id : String) (add : Bool) :
    modW idx [] id add = (.node idx.children (updIds id add idx.ids), none) := by
  rw [modW]; rfl

theorem modW_cons (idx : PI) (k : String) (v : J) (rest : List (String × J)) (id : String) (add : Bool) :
    modW idx ((k, v) :: rest) id add =
      let k' := if isVar k then "?" else k
      let ki := idx.childD (.str k')
      match picast v with
      | .s x => (idx.setChild (.str k') (ki.setChild (.str x) (modW (ki.childD (.str x)) rest id add).1),
                 (modW (ki.childD (.str x)) rest id add).2)
      | .v => (idx.setChild (.str k') (ki.setChild .var (modW (ki.childD .var) rest id add).1),
               (modW (ki.childD .var) rest id add).2)
      | .m kvs => (idx.setChild (.str k') (ki.setChild .map (modW (ki.childD .map) (mapToPairs kvs ++ rest) id add).1),
                   (modW (ki.childD .map) (mapToPairs kvs ++ rest) id add).2)
      | .a xs =>
        match sortValues xs with
        | .error e => (idx.setChild (.str k') ki, some e)
        | .ok sorted => modW (idx.setChild (.str k') ki) (sorted.map (fun x => (k, x)) ++ rest) id add := by
  rw [modW]
  split
  · next h => rw [h]
  · next h => rw [h]
  · next h => rw [h]
  · next h =>
    rw [h]
    generalize (if isVar k = true then "?" else k) = k'
    split
    · next hs => simp only [hs]
    · next hs => simp only [hs]

/-- the fuel is a proof device: above the size of the pairs, `mod` is the well-founded `modW` -/
theorem mod_eq_modW (id : String) (add : Bool) : ∀ (fuel : Nat) (idx : PI) (pairs : List (String × J)),
    szO pairs < fuel → mod fuel idx pairs id add = modW idx pairs id add := by
  intro fuel
  induction fuel with
  | zero => intro idx pairs h; omega
  | succ fuel ih =>
    intro idx pairs hf
    match pairs with
    | [] => rw [modW_nil]; simp only [mod, updIds]
    | (k, v) :: rest =>
      have hlt : szO rest < fuel := by have := @szO_cons_lt k v rest; omega
      rw [modW_cons]
      cases hc : picast v with
      | s x => simp only [mod, hc]; rw [ih _ _ hlt]
      | v => simp only [mod, hc]; rw [ih _ _ hlt]
      | m kvs =>
        have hv := picast_m v kvs hc
        subst hv
        have hlt' : szO (mapToPairs kvs ++ rest) < fuel := by have := @szO_map_lt k kvs rest; omega
        simp only [mod, hc]; rw [ih _ _ hlt']
      | a xs =>
        have hv := picast_a v xs hc
        subst hv
        cases hs : sortValues xs with
        | error e => simp only [mod, hc, hs]
        | ok sorted =>
          have hlt' : szO (sorted.map (fun x => (k, x)) ++ rest) < fuel := by
            have := @szO_arr_lt k xs sorted rest hs; omega
          simp only [mod, hc, hs]; rw [ih _ _ hlt']

/-- **what `modW` does**: it fails iff `path` is undefined, and the id lists of the result differ from those of
the argument at most at the end of the path.  The cases of `path.induct`: no pair, a constant, a variable, a map, an
array that does not sort, an array that does. -/
theorem modW_spec (id : String) (add : Bool) (pairs : List (String × J)) : ∀ idx : PI,
    ((modW idx pairs id add).2 = none ↔ (path pairs).isSome = true) ∧
    ModSpec idx (modW idx pairs id add).1 (path pairs) (updIds id add) := by
  induction pairs using path.induct with
  | case1 =>
    intro idx
    rw [modW_nil, path_nil]
    refine ⟨by simp, fun ρ => ?_⟩
    match ρ with
    | [] => simp [idsAt_nil, ids]
    | e :: ρ => simp [idsAt_cons, childD_node]
  | case2 k v rest x hc ih =>
    intro idx
    rw [modW_cons, path_cons_s rest hc]; simp only [hc]
    obtain ⟨ih1, ih2⟩ := ih ((idx.childD (.str (if isVar k then "?" else k))).childD (.str x))
    exact ⟨by simpa using ih1, ih2.two_step⟩
  | case3 k v rest hc ih =>
    intro idx
    rw [modW_cons, path_cons_v rest hc]; simp only [hc]
    obtain ⟨ih1, ih2⟩ := ih ((idx.childD (.str (if isVar k then "?" else k))).childD .var)
    exact ⟨by simpa using ih1, ih2.two_step⟩
  | case4 k v rest kvs hc ih =>
    intro idx
    rw [modW_cons, path_cons_m rest hc]; simp only [hc]
    obtain ⟨ih1, ih2⟩ := ih ((idx.childD (.str (if isVar k then "?" else k))).childD .map)
    exact ⟨by simpa using ih1, ih2.two_step⟩
  | case5 k v rest xs hc e hs =>
    intro idx
    rw [modW_cons, path_cons_a_err rest hc hs]; simp only [hc, hs]
    exact ⟨by simp, fun ρ => by simp [idsAt_setChild_self]⟩
  | case6 k v rest xs hc sorted hs ih =>
    intro idx
    rw [modW_cons, path_cons_a_ok rest hc hs]; simp only [hc, hs]
    obtain ⟨ih1, ih2⟩ := ih (idx.setChild (.str (if isVar k then "?" else k))
      (idx.childD (.str (if isVar k then "?" else k))))
    exact ⟨ih1, ih2.of_same (idsAt_setChild_self _ _)⟩

theorem searchFuel_gt (pairs : List (String × J)) : szO pairs < searchFuel pairs := by
  unfold searchFuel; omega

theorem mod_spec (id : String) (add : Bool) (fuel : Nat) (idx : PI) (pairs : List (String × J))
    (h : searchFuel pairs ≤ fuel) :
    ((mod fuel idx pairs id add).2 = none ↔ (path pairs).isSome = true) ∧
    ModSpec idx (mod fuel idx pairs id add).1 (path pairs) (updIds id add) := by
  rw [mod_eq_modW id add fuel idx pairs (Nat.lt_of_lt_of_le (searchFuel_gt pairs) h)]; exact modW_spec id add pairs idx

theorem picast_var {s : String} (h : isVar s = true) : picast (.str s) = .v := by
  have : hasPre s "?" = true := h
  simp [picast, this]

theorem picast_scalar {x : J} (hs : x.isScalar = true) (hv : isVarJ x = false) : ∃ c, picast x = .s c := by
  cases x with
  | null => exact ⟨_, rfl⟩
  | bool b => exact ⟨_, rfl⟩
  | num n => exact ⟨_, rfl⟩
  | str s =>
    have : hasPre s "?" = false := hv
    simp only [picast, this, Bool.false_eq_true, if_false]
    split <;> exact ⟨_, rfl⟩
  | arr xs => simp [J.isScalar] at hs
  | obj kvs => simp [J.isScalar] at hs

theorem picast_v_inv {v : J} (h : picast v = .v) : ∃ s, v = .str s ∧ isVar s = true := by
  cases v with
  | str s =>
    refine ⟨s, rfl, ?_⟩
    by_cases hs : hasPre s "?" = true
    · exact hs
    · simp only [picast, hs, Bool.false_eq_true, if_false] at h
      split at h <;> cases h
  | _ => simp [picast] at h

theorem afterPair_prepends (k : String) (v : J) (E : List (String × J)) :
    afterPair k v E = (afterPair k v []).map (· ++ E) := by
  unfold afterPair
  cases picast v with
  | a xs => simp only []; split <;> simp
  | _ => rfl

theorem mem_updIds_add {id x : String} {l : List String} : x ∈ updIds id true l ↔ x ∈ l ∨ x = id := by
  unfold updIds
  simp only [if_true]
  split
  · next h =>
    have : id ∈ l := by simpa using h
    constructor
    · exact Or.inl
    · rintro (h | rfl)
      · exact h
      · exact this
  · simp

theorem mem_updIds_rem {id x : String} {l : List String} (hl : l.Nodup) :
    x ∈ updIds id false l ↔ x ∈ l ∧ x ≠ id := by
  unfold updIds
  simp only [Bool.false_eq_true, if_false]
  rw [hl.mem_erase_iff]; exact and_comm

theorem nodup_updIds {id : String} {add : Bool} {l : List String} (hl : l.Nodup) : (updIds id add l).Nodup := by
  unfold updIds
  cases add
  · simp only [Bool.false_eq_true, if_false]; exact hl.erase _
  · simp only [if_true]
    split
    · exact hl
    · next h =>
      have : id ∉ l := by simpa using h
      rw [List.nodup_append]
      refine ⟨hl, by simp, ?_⟩
      intro a ha b hb
      simp at hb; subst hb
      exact fun h' => this (h' ▸ ha)

theorem nodupIds_empty : NodupIds empty := fun π => by rw [idsAt_empty]; exact List.nodup_nil

theorem ModSpec.refl (idx : PI) (U : List String → List String) : ModSpec idx idx none U := fun ρ => by simp

/-! The trie read as a relation between paths and ids: an add enters the pair (path, id), a removal takes it out, and
nothing else moves.  These two equivalences are all that the state-level proofs know of an update. -/

theorem ModSpec.mem_add {idx idx' : PI} {k : Option (List Edge)} {id x : String} {ρ : List Edge}
    (h : ModSpec idx idx' k (updIds id true)) : x ∈ idsAt idx' ρ ↔ x ∈ idsAt idx ρ ∨ (x = id ∧ k = some ρ) := by
  rw [h ρ]
  split
  · next hk => rw [mem_updIds_add]; simp [hk]
  · next hk => simp [hk]

theorem ModSpec.mem_rem {idx idx' : PI} {k : Option (List Edge)} {id x : String} {ρ : List Edge}
    (h : ModSpec idx idx' k (updIds id false)) (hn : NodupIds idx) :
    x ∈ idsAt idx' ρ ↔ x ∈ idsAt idx ρ ∧ ¬ (x = id ∧ k = some ρ) := by
  rw [h ρ]
  split
  · next hk => rw [mem_updIds_rem (hn ρ)]; simp [hk]
  · next hk => simp [hk]

theorem ModSpec.nodup {idx idx' : PI} {π? id add} (h : ModSpec idx idx' π? (updIds id add)) (hn : NodupIds idx) :
    NodupIds idx' := by
  intro ρ; rw [h ρ]; split
  · exact nodup_updIds (hn ρ)
  · exact hn ρ

theorem piAdd_spec (ri : PI) (p : Obj) (id : String) :
    ((piAdd ri p id).2 = none ↔ (path (mapToPairs p)).isSome = true) ∧
    ModSpec ri (piAdd ri p id).1 (path (mapToPairs p)) (updIds id true) :=
  mod_spec id true _ ri _ (Nat.le_refl _)

theorem piRem_spec (ri : PI) (p : Obj) (id : String) :
    ((piRem ri p id).2 = none ↔ (path (mapToPairs p)).isSome = true) ∧
    ModSpec ri (piRem ri p id).1 (path (mapToPairs p)) (updIds id false) :=
  mod_spec id false _ ri _ (Nat.le_refl _)

end PI
