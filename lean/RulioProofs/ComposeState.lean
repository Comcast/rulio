import RulioProofs.ComposeMatch
import RulioProofs.StateScan

/-! # Composition, state side: what `findRules` returns when nothing is expired -/

open PI

theorem lFindRules_eq {s : St} {now : Int} (hk : KeysNodup s) (hne : NoneExpired s now) (ev : Obj) :
    s.lFindRules ev now = (s, (s.facts.mapM (linCand ev)).map (fun os => os.filterMap id)) := by
  unfold St.lFindRules
  rw [lFindRules_go_eq, (St.readLoop_quiet (fun id fact hl => ?_) _ _ []).2 (by simp), pureScan_eq_mapM, List.mapM_map]
  · congr 2
    -- a stored fact without a `rule` is no candidate, and `linCand` skips it as well
    refine mapM_congr _ _ _ fun e he => ?_
    simp only [Function.comp, ReadOps.testAt, lFindOps, AM.amGet_of_mem_nodup hk he, Option.filter]
    by_cases hr : (e.2.get? "rule").isSome = true
    · rw [if_pos hr]
    · rw [if_neg hr, linCand, Option.not_isSome_iff_eq_none.1 hr]
  · simp only [lFindOps] at hl ⊢
    cases hg : amGet s.facts id with
    | none => rw [hg] at hl; cases hl
    | some f =>
      rw [hg] at hl
      simp only [Option.filter] at hl
      split at hl <;> cases hl
      exact hne (id, fact) (AM.amGet_mem hg)

/-- the candidates of `findRules` when nothing has to be purged, either kind -/
def St.candsPure (s : St) (ev : Obj) : Except LErr (List (String × Obj)) :=
  match s.kind with
  | .indexed => (match piSearch s.ri ev with
    | .error e => .error (perr e)
    | .ok ids => ids.mapM (ruleBodyAt s))
  | .linear => (s.facts.mapM (linCand ev)).map (fun os => os.filterMap id)

theorem St.findRules_quiet {s : St} {now : Int} (hk : KeysNodup s) (hne : NoneExpired s now) (ev : Obj) :
    s.findRules ev now = (s, s.candsPure ev) := by
  unfold St.findRules St.candsPure
  cases s.kind
  · exact iFindRules_eq hne ev
  · exact lFindRules_eq hk hne ev
