import RulioProofs.ReloadStore
import RulioProofs.PrepareFact
import RulioProofs.StateAll
import RulioProofs.LocMonad

open AM

/-! # The property fact `propFact id prop v`, for every property name

`SetProp id prop v` adds `{id, !prop: v, deleteWith: [id]}`; `PrepareFact` gives it the canonical id `!id.prop` and
leaves it as it is, it is no rule and carries no expiry. What is decided by evaluation is only that `prop` is a property
name (`PropName`), once per name. -/

/-- `prop` is a property name: `"!" ++ prop` is recognised as a property key and gives `prop` back -/
structure PropName (prop : String) : Prop where
  key : idProperty ("!" ++ prop) = true
  drop : (("!" ++ prop).drop 1).toString = prop

namespace PropName
variable {prop : String} (hp : PropName prop)
include hp

theorem prepare (fresh id : String) (v : J) (now : Int) :
    prepareFact "" fresh (propFact id prop v) now = .ok (genPropId id prop, propFact id prop v, propFact id prop v) := by
  have := prepareFact_prop fresh id ("!" ++ prop) v (.arr [.str id]) now hp.key
  rw [hp.drop] at this
  exact this

theorem extractRule (id : String) (v : J) : extractRule (propFact id prop v) false = .ok (none, propFact id prop v) :=
  extractRule_prop id ("!" ++ prop) v _ hp.key

theorem memForm (k : Kind) (id : String) (v : J) : memForm k (propFact id prop v) = propFact id prop v :=
  memForm_eq_self (hp.extractRule id v)

/-- a property fact carries no expiry -/
theorem live (id : String) (v : J) (now : Int) : checkExpiration (propFact id prop v) now = .ok false :=
  checkExpiration_none (propFact_get?_none id v _ (idProperty_ne hp.key (by decide +kernel)) (by decide) (by decide)) now

theorem value (id : String) (v : J) : (propFact id prop v).get? ("!" ++ prop) = some v := by
  have h : ("!" ++ prop) ≠ "id" := idProperty_ne hp.key (by decide +kernel)
  simp [propFact, Obj.get?, lookupKey, h]

/-- **what `SetProp` stores**: an `Add` of the property fact that goes through has set it, under its canonical id,
in memory and in storage -/
theorem add_ok {s s' : St} {id : String} {v : J} {now : Int} {r : String}
    (h : s.add "" (propFact id prop v) now = (s', .ok r)) :
    r = genPropId id prop ∧ s'.facts = amSet s.facts r (propFact id prop v) ∧
      s'.store = amSet s.store r (.obj (propFact id prop v)) := by
  obtain ⟨m, ha⟩ := add_shape_of_eq h
  obtain ⟨x', hprep⟩ := ha.prep
  have hf := ha.facts
  have hs := ha.store
  rw [hp.prepare] at hprep
  simp only [Except.ok.injEq, Prod.mk.injEq] at hprep
  obtain ⟨rfl, rfl, _⟩ := hprep
  rw [hp.memForm] at hf hs
  exact ⟨rfl, hf, hs⟩

theorem setProp_ok {id : String} {v : J} {now : Int} {l l' : Loc} {r : String}
    (h : setProp id prop v now l = (l', .ok r)) :
    r = genPropId id prop ∧ l'.st.facts = amSet l.st.facts r (propFact id prop v) ∧
      l'.st.store = amSet l.st.store r (.obj (propFact id prop v)) :=
  hp.add_ok (LocP.liftSt_ok (f := fun s => s.add "" (propFact id prop v) now) h)

/-- the linear `Add` of a property fact (in a state of either kind) -/
theorem lAdd_facts (s : St) (id : String) (v : J) (now : Int) :
    (s.lAdd "" (propFact id prop v) now).1.facts = amSet s.facts (genPropId id prop) (propFact id prop v) := by
  unfold St.lAdd
  rw [hp.prepare]
  simp only
  split <;> rfl

/-- the in-memory `add` of a property fact goes through when every stored rule can leave the pattern index: the
fact is no rule, so once the rule stored under its id is out nothing can fail -/
theorem iadd_goes {s : St} (hun : UnindexOK s) (id : String) (v : J) (now : Int) :
    ∃ s1, s.iadd "" (propFact id prop v) now = (s1, .ok (genPropId id prop, propFact id prop v)) := by
  have hun' : UnindexOK (s.bump "" (genPropId id prop)) := St.All.congr hun (s.bump_same "" _).1
  obtain ⟨s2, rep, h2⟩ := unindexPrevious_ok hun' (genPropId id prop)
  rw [St.unindexPrevious_eq_riRem] at h2
  rw [St.iadd_unfold, hp.prepare]
  simp only [hp.extractRule, iaddCore, PI.swap, PI.riOpt]
  cases hr : PI.riRemOpt (s.bump "" (genPropId id prop)).ri (genPropId id prop)
      (prevRule (s.bump "" (genPropId id prop)).facts (genPropId id prop)) with
  | error e => rw [hr] at h2; cases h2
  | ok ri1 => exact ⟨_, rfl⟩

/-- `SetProp` goes through: always in the linear state, and in the indexed one when every stored rule can leave the
pattern index -/
theorem add_goes {s : St} (hun : s.kind = .indexed → UnindexOK s) (id : String) (v : J) (now : Int) :
    ∃ s', s.add "" (propFact id prop v) now = (s', .ok (genPropId id prop)) := by
  unfold St.add
  cases hk : s.kind with
  | indexed =>
    obtain ⟨s1, h1⟩ := hp.iadd_goes (hun hk) id v now
    simp only [St.iAdd, h1]
    exact ⟨_, rfl⟩
  | linear =>
    simp only [St.lAdd, hp.prepare]
    exact ⟨_, rfl⟩

end PropName
