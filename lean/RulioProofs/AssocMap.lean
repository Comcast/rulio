import RulioModel.Fact
import RulioProofs.Lookup

/-! # Association lists as finite maps

`amGet`/`amSet`/`amErase`/`amHas` carry the State's `facts` and `store` and the System's locations; a JSON object
(`Obj.get?`/`set`/`erase`/`has`) is the same structure at `α := J`. Lookup after each operation, keys, and what
unique keys give. Core Lean only. -/

namespace AM

def amKeys {α} (m : List (String × α)) : List String := m.map (·.1)

theorem amGet_eq_lookup {α} (m : List (String × α)) (k : String) : amGet m k = m.lookup k := by
  induction m with
  | nil => rfl
  | cons p r ih => obtain ⟨k', v⟩ := p; rw [amGet, List.lookup_cons, ih]; cases k == k' <;> rfl

theorem amGet_cons {α} (m : List (String × α)) (k k' : String) (v : α) :
    amGet ((k', v) :: m) k = if k = k' then some v else amGet m k := by
  simp only [amGet, beq_iff_eq]

theorem amGet_eq_none_iff {α} (m : List (String × α)) (k : String) :
    amGet m k = none ↔ k ∉ amKeys m := by
  rw [amGet_eq_lookup, List.lookup_eq_none_iff, amKeys, List.mem_map]
  exact ⟨fun h ⟨p, hp, e⟩ => bne_iff_ne.1 (h p hp) e.symm, fun h p hp => bne_iff_ne.2 fun e => h ⟨p, hp, e.symm⟩⟩

theorem amGet_isSome_iff {α} (m : List (String × α)) (k : String) :
    (amGet m k).isSome ↔ k ∈ amKeys m := by
  rw [Option.isSome_iff_ne_none, Ne, amGet_eq_none_iff, Classical.not_not]

theorem amGet_mem {α} {m : List (String × α)} {k : String} {v : α} (h : amGet m k = some v) : (k, v) ∈ m :=
  List.mem_of_lookup_eq_some ((amGet_eq_lookup m k).symm.trans h)

theorem amGet_mem_keys {α} {m : List (String × α)} {k : String} {v : α} (h : amGet m k = some v) :
    k ∈ amKeys m :=
  List.mem_map.2 ⟨_, amGet_mem h, rfl⟩

theorem amGet_of_mem_nodup {α} {m : List (String × α)} (h : (amKeys m).Nodup) {k : String} {v : α}
    (hm : (k, v) ∈ m) : amGet m k = some v :=
  (amGet_eq_lookup m k).trans (List.lookup_eq_some_of_mem h hm)

theorem amHas_eq {α} (m : List (String × α)) (k : String) : amHas m k = (amGet m k).isSome := by
  rw [Bool.eq_iff_iff, amGet_eq_lookup, List.lookup_isSome_iff, amHas, List.any_eq_true]
  exact exists_congr fun p => and_congr_right fun _ => by rw [beq_iff_eq, beq_iff_eq, eq_comm]

theorem any_key_eq {α} (m : List (String × α)) (k : String) : m.any (fun p => p.1 == k) = (amGet m k).isSome :=
  amHas_eq m k

theorem amGet_filter {α} (f : String → Bool) (m : List (String × α)) (k : String) :
    amGet (m.filter (fun p => f p.1)) k = if f k then amGet m k else none := by
  rw [amGet_eq_lookup, amGet_eq_lookup]; exact List.lookup_filter_key f m k

theorem amGet_append {α} (m l : List (String × α)) (k : String) :
    amGet (m ++ l) k = (amGet m k).or (amGet l k) := by
  simp only [amGet_eq_lookup]; exact List.lookup_append

theorem amSet_of_none {α} {m : List (String × α)} {k : String} (h : amGet m k = none) (v : α) :
    amSet m k v = m ++ [(k, v)] := by
  rw [amSet, any_key_eq, h]; rfl

theorem amSet_of_isSome {α} {m : List (String × α)} {k : String} (h : (amGet m k).isSome) (v : α) :
    amSet m k v = m.map (fun p => if p.1 == k then (k, v) else p) := by
  rw [amSet, any_key_eq, h]; rfl

theorem amGet_amSet {α} (m : List (String × α)) (k k' : String) (v : α) :
    amGet (amSet m k v) k' = if k' = k then some v else amGet m k' := by
  rw [amGet_eq_lookup, amGet_eq_lookup, amSet]; exact List.lookup_upsert m k k' v

theorem amGet_amSet_self {α} (m : List (String × α)) (k : String) (v : α) :
    amGet (amSet m k v) k = some v := by rw [amGet_amSet, if_pos rfl]

theorem amGet_amSet_ne {α} (m : List (String × α)) {k k' : String} (v : α) (h : k' ≠ k) :
    amGet (amSet m k v) k' = amGet m k' := by rw [amGet_amSet, if_neg h]

theorem mem_amSet {α} {m : List (String × α)} {k : String} {v : α} {e : String × α} (h : e ∈ amSet m k v) :
    e = (k, v) ∨ (e ∈ m ∧ e.1 ≠ k) := by
  cases hg : amGet m k with
  | none =>
    rw [amSet_of_none hg] at h
    rcases List.mem_append.1 h with h | h
    · exact .inr ⟨h, fun hk => (amGet_eq_none_iff m k).1 hg (List.mem_map.2 ⟨e, h, hk⟩)⟩
    · exact .inl (List.mem_singleton.1 h)
  | some x =>
    rw [amSet_of_isSome (by rw [hg]; rfl)] at h
    obtain ⟨p, hp, rfl⟩ := List.mem_map.1 h
    by_cases hk : p.1 = k
    · simp [hk]
    · simp [hk, hp]

/-- a Go map assignment leaves nothing of the old value -/
theorem amSet_entries {α} (m : List (String × α)) (k : String) (v : α) :
    ∀ p ∈ amSet m k v, p.1 = k → p.2 = v := by
  intro p hp hk
  rcases mem_amSet hp with rfl | ⟨_, hne⟩
  · rfl
  · exact absurd hk hne

theorem amSet_eq_self {α} {m : List (String × α)} {k : String} {v : α} (hs : (amGet m k).isSome)
    (hall : ∀ p ∈ m, p.1 = k → p.2 = v) : amSet m k v = m := by
  rw [amSet_of_isSome hs]
  refine (List.map_congr_left fun p hp => ?_).trans (List.map_id m)
  by_cases hk : p.1 = k
  · rw [if_pos (beq_iff_eq.2 hk), ← hk, ← hall p hp hk]; rfl
  · rw [if_neg (fun h => hk (beq_iff_eq.1 h))]; rfl

theorem amSet_amSet_same {α} (m : List (String × α)) (k : String) (v : α) :
    amSet (amSet m k v) k v = amSet m k v :=
  amSet_eq_self (by rw [amGet_amSet_self]; rfl) (amSet_entries m k v)

theorem amSet_same {α} (m : List (String × α)) (hn : (amKeys m).Nodup) {k : String} {v : α}
    (hg : amGet m k = some v) : amSet m k v = m := by
  refine amSet_eq_self (by rw [hg]; rfl) fun p hp hk => ?_
  have := amGet_of_mem_nodup hn (show (k, p.2) ∈ m from hk ▸ hp)
  rw [hg] at this; exact (Option.some.inj this).symm

theorem amGet_amErase {α} (m : List (String × α)) (k k' : String) :
    amGet (amErase m k) k' = if k' = k then none else amGet m k' := by
  rw [amErase, amGet_filter (· != k)]
  by_cases h : k' = k <;> simp [h]

theorem amGet_amErase_self {α} (m : List (String × α)) (k : String) :
    amGet (amErase m k) k = none := by rw [amGet_amErase, if_pos rfl]

theorem amGet_amErase_ne {α} (m : List (String × α)) {k k' : String} (h : k' ≠ k) :
    amGet (amErase m k) k' = amGet m k' := by rw [amGet_amErase, if_neg h]

theorem amKeys_amSet {α} (m : List (String × α)) (k : String) (v : α) :
    amKeys (amSet m k v) = if k ∈ amKeys m then amKeys m else amKeys m ++ [k] := by
  by_cases h : k ∈ amKeys m
  · rw [if_pos h, amSet_of_isSome ((amGet_isSome_iff m k).2 h), amKeys, List.map_map]
    apply List.map_congr_left
    intro p _
    by_cases hp : p.1 = k <;> simp [hp]
  · rw [if_neg h, amSet_of_none ((amGet_eq_none_iff m k).2 h)]
    simp [amKeys]

theorem amKeys_amSet_of_mem {α} (m : List (String × α)) (k : String) (v : α) (h : k ∈ amKeys m) :
    amKeys (amSet m k v) = amKeys m := by rw [amKeys_amSet, if_pos h]

theorem length_amSet_of_mem {α} (m : List (String × α)) (k : String) (v : α) (h : k ∈ amKeys m) :
    (amSet m k v).length = m.length := by
  have := congrArg List.length (amKeys_amSet_of_mem m k v h)
  simpa [amKeys] using this

theorem mem_amKeys_amSet {α} (m : List (String × α)) (k k' : String) (v : α) :
    k' ∈ amKeys (amSet m k v) ↔ k' = k ∨ k' ∈ amKeys m := by
  rw [← amGet_isSome_iff, ← amGet_isSome_iff, amGet_amSet]
  by_cases h : k' = k <;> simp [h]

theorem amKeys_amSet_nodup {α} (m : List (String × α)) (k : String) (v : α) (h : (amKeys m).Nodup) :
    (amKeys (amSet m k v)).Nodup := by
  rw [amKeys_amSet]
  split
  · exact h
  · next hk =>
    rw [List.nodup_append]
    refine ⟨h, List.nodup_cons.2 ⟨List.not_mem_nil, List.nodup_nil⟩, fun a ha b hb hab => hk ?_⟩
    rw [← List.mem_singleton.1 hb, ← hab]; exact ha

theorem amKeys_amErase {α} (m : List (String × α)) (k : String) :
    amKeys (amErase m k) = (amKeys m).filter (· != k) := by
  unfold amKeys amErase
  rw [List.filter_map]; rfl

theorem amKeys_amErase_nodup {α} (m : List (String × α)) (k : String) (h : (amKeys m).Nodup) :
    (amKeys (amErase m k)).Nodup := by
  rw [amKeys_amErase]; exact h.filter _

theorem mem_amKeys_amErase {α} (m : List (String × α)) (k k' : String) :
    k' ∈ amKeys (amErase m k) ↔ k' ≠ k ∧ k' ∈ amKeys m := by
  rw [amKeys_amErase]; simp [List.mem_filter, and_comm]

end AM

theorem lookupKey_eq_amGet (o : List (String × J)) (k : String) : lookupKey k o = amGet o k := by
  induction o with
  | nil => rfl
  | cons p o ih => obtain ⟨k', v⟩ := p; simp only [lookupKey, amGet, ih]

theorem Obj.get?_eq (o : Obj) (k : String) : o.get? k = amGet o k := lookupKey_eq_amGet o k
theorem Obj.set_eq (o : Obj) (k : String) (v : J) : o.set k v = amSet o k v := rfl
theorem Obj.erase_eq (o : Obj) (k : String) : o.erase k = amErase o k := rfl

theorem Obj.get?_set (o : Obj) (k k' : String) (v : J) :
    (o.set k v).get? k' = if k' = k then some v else o.get? k' := by
  rw [Obj.get?_eq, Obj.get?_eq, Obj.set_eq, AM.amGet_amSet]

theorem Obj.get?_set_self (o : Obj) (k : String) (v : J) : (o.set k v).get? k = some v := by
  rw [Obj.get?_set, if_pos rfl]

theorem Obj.get?_set_ne (o : Obj) {k k' : String} (v : J) (h : k' ≠ k) : (o.set k v).get? k' = o.get? k' := by
  rw [Obj.get?_set, if_neg h]

theorem Obj.get?_erase (o : Obj) (k k' : String) :
    (o.erase k).get? k' = if k' = k then none else o.get? k' := by
  rw [Obj.get?_eq, Obj.get?_eq, Obj.erase_eq, AM.amGet_amErase]

theorem Obj.get?_erase_self (o : Obj) (k : String) : (o.erase k).get? k = none := by
  rw [Obj.get?_erase, if_pos rfl]

theorem Obj.set_set_same (o : Obj) (k : String) (v : J) : (o.set k v).set k v = o.set k v :=
  AM.amSet_amSet_same o k v

theorem filter_map_replace (P : String → Bool) (o : Obj) {k : String} (v : J) (hk : P k = false) :
    (o.map (fun p => if p.1 == k then (k, v) else p)).filter (fun kv => P kv.1) = o.filter (fun kv => P kv.1) := by
  induction o with
  | nil => rfl
  | cons p r ih =>
    by_cases hp : p.1 = k
    · simp only [List.map_cons, hp, beq_self_eq_true, if_true, List.filter_cons, hk, Bool.false_eq_true, if_false]
      exact ih
    · have hb : (p.1 == k) = false := by simp [hp]
      simp only [List.map_cons, hb, Bool.false_eq_true, if_false, List.filter_cons]
      rw [ih]

theorem Obj.filter_set (P : String → Bool) (o : Obj) {k : String} (v : J) (hk : P k = false) :
    (o.set k v).filter (fun kv => P kv.1) = o.filter (fun kv => P kv.1) := by
  unfold Obj.set
  split
  · exact filter_map_replace P o v hk
  · simp [List.filter_append, hk]

theorem Obj.filter_erase (P : String → Bool) (o : Obj) {k : String} (hk : P k = false) :
    (o.erase k).filter (fun kv => P kv.1) = o.filter (fun kv => P kv.1) := by
  unfold Obj.erase
  rw [List.filter_filter]
  apply List.filter_congr
  intro p _
  by_cases hp : p.1 = k
  · simp [hp, hk]
  · simp [hp]

/-! ## bindings: the same lookup; `Bs.set` puts the new entry in front -/

theorem Bs.get?_eq (bs : Bs) (k : String) : bs.get? k = amGet bs k := by
  induction bs with
  | nil => rfl
  | cons p r ih => obtain ⟨k', v⟩ := p; simp only [Bs.get?, amGet, ih]

theorem Bs.get?_append (a b : Bs) (k : String) : Bs.get? (a ++ b) k = (Bs.get? a k).or (Bs.get? b k) := by
  simp only [Bs.get?_eq]; exact AM.amGet_append a b k

theorem Bs.get?_set (bs : Bs) (k k' : String) (v : J) :
    (bs.set k v).get? k' = if k' = k then some v else bs.get? k' := by
  simp only [Bs.get?_eq, Bs.set]
  rw [AM.amGet_cons, ← amErase, AM.amGet_amErase]
  split <;> rfl

theorem Bs.get?_mem {bs : Bs} {k : String} {v : J} (h : bs.get? k = some v) : (k, v) ∈ bs :=
  AM.amGet_mem ((Bs.get?_eq bs k).symm.trans h)

theorem Bs.mem_get? {bs : Bs} {k : String} {v : J} (h : (k, v) ∈ bs) : bs.get? k ≠ none :=
  fun hn => (AM.amGet_eq_none_iff bs k).1 ((Bs.get?_eq bs k).symm.trans hn) (List.mem_map.2 ⟨_, h, rfl⟩)

theorem Bs.get?_eq_some_iff (bs : Bs) (k : String) (v : J) (hn : (bs.map (·.1)).Nodup) :
    Bs.get? bs k = some v ↔ (k, v) ∈ bs :=
  ⟨Bs.get?_mem, fun h => (Bs.get?_eq bs k).trans (AM.amGet_of_mem_nodup hn h)⟩
