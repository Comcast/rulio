import RulioModel.Loc

/-! # The location monad `LM`: how a bind after a known step, a test, and a lifted `State` operation run; what a
successful bind consists of -/

namespace LocP

theorem LM.bind_of_ok {α β} {m : LM α} {f : α → LM β} {l l1 : Loc} {a : α} (h : m l = (l1, .ok a)) :
    (m >>= f) l = f a l1 := by
  simp only [bind, LM.bind, h]

theorem LM.test_eq (b : Bool) (e : LErr) (l : Loc) :
    (if b then pure () else LM.fail e : LM Unit) l = (l, if b then .ok () else .error e) := by
  cases b <;> rfl

theorem liftSt_eq {α} (f : St → St × Except LErr α) (l : Loc) :
    LM.liftSt f l = ({ l with st := (f l.st).1 }, (f l.st).2) := rfl

theorem liftSt_ok {α} {f : St → St × Except LErr α} {l l' : Loc} {a : α} (h : LM.liftSt f l = (l', .ok a)) :
    f l.st = (l'.st, .ok a) := by
  rw [liftSt_eq, Prod.mk.injEq] at h
  rw [← h.1, ← h.2]

end LocP

theorem LM.bind_eq_ok {α β} {m : LM α} {f : α → LM β} {l l' : Loc} {b : β}
    (h : (m >>= f) l = (l', .ok b)) : ∃ l1 a, m l = (l1, .ok a) ∧ f a l1 = (l', .ok b) := by
  replace h : LM.bind m f l = (l', .ok b) := h
  unfold LM.bind at h
  cases hm : m l with
  | mk l1 r =>
    rw [hm] at h
    cases r with
    | error e => cases h
    | ok a => exact ⟨l1, a, rfl, h⟩
