import RulioProofs.Watchdog

/-! # C14: the reachable control states, by evaluation

For a configuration `c` the control states a call can be in are few (at most 46 of the 2400). `reach c e` computes
them by a search from `Ctl.init`; `Holds c e P` says, decidably, that the result contains `Ctl.init`, is closed
under every step, and that `P` is true of each of its members. Nothing is proved about the search: closure is
checked on its result. `Holds.of_run` lifts `P` to the state after any schedule. -/

namespace Watchdog

/-! ## an injective numbering of the control states, for a cheap membership test

In the kernel a comparison of two control states by the derived `DecidableEq Ctl` costs about as much as a step of the
protocol; a bit test on a `Nat` costs next to nothing. So the visited set is a `Nat` with one bit per code. -/

def Pending.code : Pending → Nat | .fin => 0 | .halt => 1 | .nilcall => 2

def Ret.code : Ret → Nat | .own => 0 | .nilOk => 1 | .timeoutErr => 2

def MPc.code : MPc → Nat
  | .start => 0 | .run => 1 | .dSend p => 2 + p.code | .dClose p => 5 + p.code | .dRecover p => 8 + p.code
  | .ret r => 11 + r.code | .panicked => 14

def WPc.code : WPc → Nat | .idle => 0 | .sel => 1 | .send => 2 | .close => 3 | .done => 4

/-- mixed radix: 15 · 5 · 2⁵ codes (one `match` on the whole state: projections of a state that is not yet evaluated
are dear in the kernel) -/
def Ctl.code : Ctl → Nat
  | ⟨m, w, f, i, j, d, e⟩ =>
    (((((m.code * 5 + w.code) * 2 + f.toNat) * 2 + i.toNat) * 2 + j.toNat) * 2 + d.toNat) * 2 + e.toNat

theorem MPc.code_inj : ∀ a b : MPc, a.code = b.code → a = b := by decide +kernel

theorem WPc.code_inj : ∀ a b : WPc, a.code = b.code → a = b := by decide +kernel

theorem WPc.code_lt (w : WPc) : w.code < 5 := by cases w <;> decide

theorem mul_add_inj {n a b x y : Nat} (hx : x < n) (hy : y < n) (h : a * n + x = b * n + y) : a = b ∧ x = y := by
  have hm := congrArg (· % n) h
  simp only [Nat.mul_add_mod_self_right, Nat.mod_eq_of_lt hx, Nat.mod_eq_of_lt hy] at hm
  subst hm
  exact ⟨Nat.eq_of_mul_eq_mul_right (Nat.zero_lt_of_lt hx) (Nat.add_right_cancel h), rfl⟩

theorem bit_inj {a b : Nat} {x y : Bool} (h : a * 2 + x.toNat = b * 2 + y.toNat) : a = b ∧ x = y :=
  (mul_add_inj x.toNat_lt y.toNat_lt h).imp id (by cases x <;> cases y <;> simp)

theorem Ctl.code_inj {a b : Ctl} (h : a.code = b.code) : a = b := by
  obtain ⟨m, w, f, i, j, d, e⟩ := a
  obtain ⟨m', w', f', i', j', d', e'⟩ := b
  obtain ⟨h, he⟩ := bit_inj h
  obtain ⟨h, hd⟩ := bit_inj h
  obtain ⟨h, hj⟩ := bit_inj h
  obtain ⟨h, hi⟩ := bit_inj h
  obtain ⟨h, hf⟩ := bit_inj h
  obtain ⟨hm, hw⟩ := mul_add_inj w.code_lt w'.code_lt h
  rw [MPc.code_inj m m' hm, WPc.code_inj w w' hw, he, hd, hj, hi, hf]

def maskOf (l : List Ctl) : Nat := l.foldl (fun m k => m ||| 2 ^ k.code) 0

theorem mem_of_testBit_foldl (l : List Ctl) (m : Nat) (k : Ctl)
    (h : (l.foldl (fun m k => m ||| 2 ^ k.code) m).testBit k.code = true) : m.testBit k.code = true ∨ k ∈ l := by
  induction l generalizing m with
  | nil => exact .inl h
  | cons a l ih =>
    rcases ih _ h with h | h
    · rw [Nat.testBit_or, Bool.or_eq_true, Nat.testBit_two_pow, decide_eq_true_eq] at h
      exact h.imp id fun h => by rw [Ctl.code_inj h]; exact List.mem_cons_self
    · exact .inr (List.mem_cons_of_mem _ h)

theorem mem_of_testBit_maskOf {l : List Ctl} {k : Ctl} (h : (maskOf l).testBit k.code = true) : k ∈ l :=
  (mem_of_testBit_foldl l 0 k h).resolve_left (by simp)

/-- the states one step away from `k`; `e`: the script may end by itself, so that `runtime.Run`'s "nothing left"
test can read true. (That test matters to the caller's step only.) -/
def succs (c : KCfg) (e : Bool) (k : Ctl) : List Ctl :=
  ((if e then [stepCtl c true .main k] else []) ++
    [stepCtl c false .main k, stepCtl c false .wd k, stepCtl c false .wdc k, stepCtl c false .timer k]).filterMap
    (·.map (·.1))

theorem mem_succs {c : KCfg} {e z : Bool} {t : Tid} {k : Ctl} {r : Ctl × Bool} (hz : z = true → e = true)
    (h : stepCtl c z t k = some r) : r.1 ∈ succs c e k := by
  refine List.mem_filterMap.mpr ⟨some r, ?_, rfl⟩
  rw [← h]
  cases t
  · cases z
    · exact List.mem_append_right _ List.mem_cons_self
    · rw [hz rfl]; exact List.mem_append_left _ List.mem_cons_self
  all_goals exact List.mem_append_right _ (by simp [stepCtl])

/-- depth-first search: `todo` the states still to visit, `done` those visited, `seen` the set of their codes -/
def explore (c : KCfg) (e : Bool) : Nat → List Ctl → List Ctl → Nat → List Ctl
  | fuel + 1, k :: todo, done, seen =>
    if seen.testBit k.code then explore c e fuel todo done seen
    else explore c e fuel (succs c e k ++ todo) (k :: done) (seen ||| 2 ^ k.code)
  | _, _, done, _ => done

/-- the control states reachable from `Ctl.init` in configuration `c` (if 256 steps of the search suffice, which
`Holds` checks) -/
def reach (c : KCfg) (e : Bool) : List Ctl := explore c e 256 [Ctl.init] [] 0

def inReach (c : KCfg) (e : Bool) (k : Ctl) : Bool := (maskOf (reach c e)).testBit k.code

def Holds (c : KCfg) (e : Bool) (P : Ctl → Prop) [DecidablePred P] : Prop :=
  inReach c e Ctl.init = true ∧
  (reach c e).all (fun k => decide (P k) && (succs c e k).all (inReach c e)) = true

instance (c : KCfg) (e : Bool) (P : Ctl → Prop) [DecidablePred P] : Decidable (Holds c e P) := by
  unfold Holds; infer_instance

variable {e : Bool} {P : Ctl → Prop} [DecidablePred P]

theorem Holds.of_mem {c : KCfg} (h : Holds c e P) {k : Ctl} (hk : inReach c e k = true) :
    P k ∧ ∀ k' ∈ succs c e k, inReach c e k' = true := by
  simpa using List.all_eq_true.mp h.2 k (mem_of_testBit_maskOf hk)

theorem Holds.preservedAt {c : KCfg} (h : Holds c e P) (z : Bool) (hz : z = true → e = true) :
    PreservedAt c z (inReach c e) := by
  intro k hk t
  cases hs : stepCtl c z t k with
  | none => rfl
  | some r => exact (h.of_mem hk).2 _ (mem_succs hz hs)

/-- `e` may be true for a script that never ends by itself: more states are reachable then -/
theorem Holds.of_run {c : Cfg} (h : Holds c.toKCfg e P) (he : c.polls.isSome = true → e = true)
    (sched : List Tid) : P (run c sched (init c)).k :=
  have hi : inReach c.toKCfg e (run c sched (init c)).k = true :=
    run_inv c (fun s => inReach c.toKCfg e s.k = true)
      (fun s t hi => next_inv_at c _ s t (h.preservedAt _ fun hz => he (isSome_of_atEnd hz)) hi) sched _ h.1
  (h.of_mem hi).1

end Watchdog
