import RulioProofs.LocGuards
import RulioProofs.ExceptBind
import RulioProofs.PropFact

namespace LocP

/-! # Rule lifecycle (C10): the disabled flag, removal, re-adding, and who is in the dispatch specification -/

theorem propName_disabled : PropName "disabled" := ⟨by decide +kernel, by decide +kernel⟩

theorem setProp_disabled_ok {id : String} {now : Int} {l l' : Loc} {r : String}
    (h : setProp id "disabled" (.bool true) now l = (l', .ok r)) :
    r = genPropId id "disabled" ∧
    l'.st.facts = amSet l.st.facts (genPropId id "disabled") (flagFact id) ∧
    l'.st.store = amSet l.st.store (genPropId id "disabled") (.obj (flagFact id)) := by
  obtain ⟨rfl, hf, hs⟩ := propName_disabled.setProp_ok h
  exact ⟨rfl, hf, hs⟩

theorem stRem_ok {id : String} {now : Int} {l l' : Loc} {b : Bool} (h : stRem id now l = (l', .ok b)) :
    l.st.rem id now = (l'.st, .ok b) ∧ Shrinks l.st l'.st ∧ amGet l'.st.facts id = none := by
  have hrem : l.st.rem id now = (l'.st, .ok b) := liftSt_ok h
  exact ⟨hrem, ((St.rem_purge l.st id now).of_eq hrem).shrinks, (St.rem_ok_gone hrem).1⟩

/-- what `getProp id "disabled"` computes from a pure `Get`, against `ruleDisabled`, whatever is stored: an answer
decides `ruleDisabled` (and "not found" means that the flag fact is absent or expired); an error is never `"disabled"`,
and unless it is the expiry check's own error the rule is not disabled -/
theorem disabled_read (s : St) (id : String) (now : Int) :
    match getPropPure (getPure s (genPropId id "disabled") now) "disabled" (.bool false) with
    | .ok (v, found) => ruleDisabled s.facts id now = (v == J.bool true) ∧
        (found = false → FreshAt s (genPropId id "disabled") now → amGet s.facts (genPropId id "disabled") = none)
    | .error e => e ≠ "disabled" ∧ ((∃ f, amGet s.facts (genPropId id "disabled") = some f ∧
        checkExpiration f now = .error e) ∨ ruleDisabled s.facts id now = false) := by
  simp only [getPropPure, getPure, ruleDisabled]
  cases hg : amGet s.facts (genPropId id "disabled") with
  | none => exact ⟨rfl, fun _ _ => rfl⟩
  | some f =>
    dsimp only
    cases hc : checkExpiration f now with
    | error e =>
      have he := checkExpiration_err hc
      subst he
      exact ⟨by decide, .inl ⟨f, rfl, hc⟩⟩
    | ok x =>
      cases x with
      | true => exact ⟨by simp only [unexpired, hc, Bool.false_and]; rfl, fun _ hf => absurd hc (hf f hg)⟩
      | false =>
        dsimp only
        have hv' : f.get? ("!" ++ "disabled") = f.get? "!disabled" := rfl
        cases hv : f.get? "!disabled" with
        | none => rw [hv', hv]; exact ⟨by decide, .inr (by simp [unexpired, hc])⟩
        | some w =>
          rw [hv', hv]
          exact ⟨by simp [unexpired, hc], nofun⟩

/-- the answer on an unexpired flag fact: absent means enabled; otherwise the stored value decides -/
theorem getProp_disabled {id : String} {now : Int} {l : Loc} (hfresh : FreshAt l.st (genPropId id "disabled") now)
    {v : J} {found : Bool}
    (h : getPropPure (getPure l.st (genPropId id "disabled") now) "disabled" (.bool false) = .ok (v, found)) :
    (found = false → amGet l.st.facts (genPropId id "disabled") = none) ∧
    ruleDisabled l.st.facts id now = (v == J.bool true) := by
  have := disabled_read l.st id now
  rw [h] at this
  exact ⟨fun hf => this.2 hf hfresh, this.1⟩

/-- `RuleEnabled`'s body reads the flag: with the flag fact unexpired (flags carry no expiry) it answers the
negation of `ruleDisabled` and leaves the location alone -/
theorem ruleEnabled_body {id : String} {now : Int} {l : Loc}
    (hfresh : FreshAt l.st (genPropId id "disabled") now) :
    ∃ r, Body.ruleEnabled id now l = (l, r) ∧ ∀ b, r = .ok b → b = !ruleDisabled l.st.facts id now := by
  simp only [Body.ruleEnabled, bind, LM.bind, getProp_eq hfresh]
  cases hp : getPropPure (getPure l.st (genPropId id "disabled") now) "disabled" (.bool false) with
  | error e => exact ⟨_, rfl, fun b hb => by cases hb⟩
  | ok vf =>
    obtain ⟨v, found⟩ := vf
    rw [(getProp_disabled hfresh hp).2]
    cases v with
    | bool d => exact ⟨_, rfl, fun b hb => by cases hb; cases d <;> rfl⟩
    | _ => exact ⟨_, rfl, fun b hb => by cases hb; rfl⟩

theorem FreshAt.of_shrinks {s s' : St} {id : String} {now : Int} (h : FreshAt s id now) (hk : Shrinks s s') :
    FreshAt s' id now := fun f hf => h f (hk.facts_sub hf)

theorem remRule_body_ok {id : String} {now : Int} {l l' : Loc} {r : String}
    (hflag : FreshAt l.st (genPropId id "disabled") now) (h : Body.remRule id now l = (l', .ok r)) :
    amGet l'.st.facts (genPropId id "disabled") = none ∧ amGet l'.st.facts id = none ∧ Shrinks l.st l'.st := by
  obtain ⟨l2, b, h1, h⟩ := LM.bind_eq_ok h
  obtain ⟨_, hk, habs⟩ := stRem_ok h1
  obtain ⟨l3, ⟨v, found⟩, h2, h⟩ := LM.bind_eq_ok h
  have hfl2 : FreshAt l2.st (genPropId id "disabled") now := hflag.of_shrinks hk
  rw [getProp_eq hfl2, Prod.mk.injEq] at h2
  obtain ⟨rfl, h2⟩ := h2
  dsimp only at h
  cases found with
  | false =>
    obtain rfl : l2 = l' := congrArg Prod.fst h
    exact ⟨(getProp_disabled hfl2 h2).1 rfl, habs, hk⟩
  | true =>
    obtain ⟨l3, b3, h3, h⟩ := LM.bind_eq_ok h
    obtain rfl : l3 = l' := congrArg Prod.fst h
    obtain ⟨_, hk3, habs3⟩ := stRem_ok (show stRem (genPropId id "disabled") now l2 = (l3, .ok b3) from h3)
    exact ⟨habs3, hk3.facts_none habs, hk.trans hk3⟩

theorem ruleWrapper_keys {rule w : Obj} {now : Int} (h : ruleWrapper rule now = .ok w) :
    w.filter (fun kv => idProperty kv.1) = [] := by
  have h1 : idProperty "rule" = false := by simp [idProperty]
  have h2 : idProperty "expires" = false := by simp [idProperty]
  have h3 : idProperty "deleteWith" = false := by simp [idProperty]
  unfold ruleWrapper at h
  split at h
  · cases h
  · rename_i rule' expiring expires _
    simp only [Except.ok.injEq] at h
    subst h
    cases expiring <;> cases rule'.get? "deleteWith" <;> simp [List.filter, h1, h2, h3]

theorem genId_plain {w : Obj} {given fresh id2 : String} (hk : w.filter (fun kv => idProperty kv.1) = [])
    (h : genId w given fresh = .ok id2) : id2 = (if given == "" then fresh else given) := by
  have hp : parseProp w = .ok none := by simp [parseProp, hk]
  rcases genId_ok h with ⟨_, _, _, hp', _⟩ | ⟨_, hid, _⟩
  · rw [hp] at hp'; cases hp'
  · exact hid

theorem addRule_body_ok {id : String} {rule : Obj} {now : Int} {l l' : Loc} {id2 : String}
    (h : Body.addRule id rule now l = (l', .ok id2)) :
    ∃ w m x', ruleWrapper rule now = .ok w ∧ prepareFact id l.st.freshId w now = .ok (id2, m, x') ∧
      l'.st.facts = amSet l.st.facts id2 (memForm l.st.kind m) ∧
      l'.st.store = amSet l.st.store id2 (.obj (memForm l.st.kind m)) ∧
      (id ≠ "" → id2 = id) ∧ l'.st.kind = l.st.kind := by
  unfold Body.addRule at h
  cases hrm : ruleFromMap rule with
  | error e => rw [hrm] at h; cases h
  | ok rm =>
    rw [hrm] at h
    dsimp only at h
    cases hs : setExpires rule now with
    | error e => rw [hs] at h; cases h
    | ok t =>
      obtain ⟨rule', expiring, expires⟩ := t
      rw [hs] at h
      dsimp only at h
      obtain ⟨w, hw, h⟩ : ∃ w, ruleWrapper rule now = .ok w ∧ stAdd id w now l = (l', .ok id2) := by
        refine ⟨_, ?_, h⟩
        simp only [ruleWrapper, hs]
      have hadd : l.st.add id w now = (l'.st, .ok id2) := liftSt_ok h
      obtain ⟨m, ha⟩ := add_shape_of_eq hadd
      obtain ⟨x', hp⟩ := ha.prep
      refine ⟨w, m, x', hw, hp, ha.facts, ha.store, fun hne => ?_, ha.kind⟩
      have := genId_plain (ruleWrapper_keys hw) (prepareFact_parts hp).1
      rw [this]
      have : (id == "") = false := by simpa using hne
      simp [this]

end LocP

/-- what one stored fact contributes to `specDispatchLocal`; a root name like that specification (Spec.lean), and so are
its three lemmas -/
def specEntry (ev : Obj) (e : String × Obj) : Except LErr (List (String × List Bs)) :=
  match whenOf e.2 with
  | none => pure []
  | some pat => do
    let bss ← matchesJ (.obj pat) (.obj ev)
    pure (if bss.isEmpty then [] else [(e.1, bss)])

theorem specDispatchLocal_ok {facts : List (String × Obj)} {ev : Obj} {now : Int} {out : List (String × List Bs)} :
    specDispatchLocal facts ev now = .ok out ↔
      ∃ per, (facts.filter (fun f => unexpired f.2 now)).mapM (specEntry ev) = .ok per ∧ per.flatten = out := by
  show ((facts.filter (fun f => unexpired f.2 now)).mapM (specEntry ev) >>= fun per => pure per.flatten) = _ ↔ _
  rw [Except.bind_eq_ok]
  exact exists_congr fun per => and_congr_right fun _ => ⟨Except.ok.inj, congrArg _⟩

theorem specEntry_ok {ev : Obj} {e : String × Obj} {r : List (String × List Bs)} (h : specEntry ev e = .ok r) :
    (whenOf e.2 = none ∧ r = []) ∨ ∃ pat bss, whenOf e.2 = some pat ∧ matchesJ (.obj pat) (.obj ev) = .ok bss ∧
      r = if bss.isEmpty then [] else [(e.1, bss)] := by
  unfold specEntry at h
  split at h
  · next hw => cases h; exact .inl ⟨hw, rfl⟩
  · next pat hw =>
    obtain ⟨bss, hb, h⟩ := Except.bind_eq_ok.1 h
    cases h
    exact .inr ⟨pat, bss, hw, hb, rfl⟩

theorem specEntry_some {ev : Obj} {e : String × Obj} {pat : Obj} {bss : List Bs} (hw : whenOf e.2 = some pat)
    (hm : matchesJ (.obj pat) (.obj ev) = .ok bss) :
    specEntry ev e = .ok (if bss.isEmpty then [] else [(e.1, bss)]) := by
  unfold specEntry
  simp only [hw, hm]
  rfl

namespace LocP

/-- membership in the dispatch specification: exactly the stored, unexpired, non-scheduled rules whose
`when` pattern matches the event, with the matcher's bindings -/
theorem specDispatchLocal_mem {facts : List (String × Obj)} {ev : Obj} {now : Int} {out : List (String × List Bs)}
    (h : specDispatchLocal facts ev now = .ok out) (id : String) (bss : List Bs) :
    (id, bss) ∈ out ↔ ∃ f pat, (id, f) ∈ facts ∧ unexpired f now = true ∧ whenOf f = some pat ∧
      matchesJ (.obj pat) (.obj ev) = .ok bss ∧ bss ≠ [] := by
  obtain ⟨per, hper, rfl⟩ := specDispatchLocal_ok.1 h
  rw [← List.flatMap_id, mem_flat_mapM hper]
  constructor
  · rintro ⟨⟨id', f⟩, hmem, r, hr, hy⟩
    obtain ⟨hmem', hun⟩ := List.mem_filter.1 hmem
    rcases specEntry_ok hr with ⟨_, rfl⟩ | ⟨pat, bss', hw, hm, rfl⟩
    · cases hy
    · by_cases he : bss'.isEmpty = true
      · rw [if_pos he] at hy; cases hy
      · rw [if_neg he] at hy
        cases List.mem_singleton.1 hy
        exact ⟨f, pat, hmem', hun, hw, hm, fun hnil => he (hnil ▸ rfl)⟩
  · rintro ⟨f, pat, hmem, hun, hw, hm, hne⟩
    have he : bss.isEmpty = false := by cases bss with | nil => exact absurd rfl hne | cons _ _ => rfl
    refine ⟨(id, f), List.mem_filter.2 ⟨hmem, hun⟩, [(id, bss)], ?_, List.mem_singleton.2 rfl⟩
    rw [specEntry_some hw hm, he]
    rfl

end LocP
