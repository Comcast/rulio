import RulioProofs.PatIndexBase
import RulioProofs.PatIndexSort
import RulioProofs.ExceptBind

/-! # Pattern index: the search follows every embedded path and never fails on events of the fragment (C01) -/

namespace PI

theorem mem_union_left {a b : List String} {x : String} (h : x ∈ a) : x ∈ union a b := by
  unfold union; exact List.mem_append_left _ h

theorem mem_union_right {a b : List String} {x : String} (h : x ∈ b) : x ∈ union a b := by
  unfold union
  by_cases hx : x ∈ a
  · exact List.mem_append_left _ hx
  · apply List.mem_append_right
    simp [List.mem_filter, h, hx]

theorem mem_union_iff {a b : List String} {x : String} : x ∈ union a b ↔ x ∈ a ∨ x ∈ b := by
  constructor
  · unfold union; intro h
    rcases List.mem_append.1 h with h | h
    · exact Or.inl h
    · exact Or.inr (List.mem_filter.1 h).1
  · rintro (h | h)
    · exact mem_union_left h
    · exact mem_union_right h

theorem union_nil (a : List String) : union a [] = a := by simp [union]

theorem mem_foldl_union {x : String} : ∀ (ms : List (List String)) (init : List String),
    x ∈ ms.foldl union init ↔ x ∈ init ∨ ∃ m ∈ ms, x ∈ m
  | [], init => by simp
  | m :: ms, init => by
    rw [List.foldl_cons, mem_foldl_union ms, mem_union_iff]
    simp only [List.mem_cons, exists_eq_or_imp]
    exact or_assoc

/-! ## one step of the search

At a node with key child `ki`, looking at the pair `(k, v)`, the search does four independent things: it fixes the pairs
it goes on with (`afterPair`, in the specification), the nodes it goes on from (`conts`), the ids it collects on arrival
(`optIds` of the variable child and of the value's child), and it descends into an event map (`inner`).  `search_succ`
is `PI.search` on a pair in these terms; everything below reads its part off it. -/

/-- the child for the pair's key; the property-variable child `?` only when there is none -/
def keyChild (idx : PI) (k : String) : Option PI := (idx.child (.str k)).orElse (fun _ => idx.child (.str "?"))

/-- the child of the key node that the value selects: the constant's for a scalar, the map child for a map -/
def valChild (ki : PI) (v : J) : Option PI :=
  match picast v with
  | .s x => ki.child (.str x)
  | .m _ => ki.child .map
  | _ => none

/-- the ids collected on stepping onto a child, if it is there -/
def optIds : Option PI → List String
  | some n => n.ids
  | none => []

/-- the nodes the search goes on from: the node itself, the variable child, the value's child -/
def conts (idx ki : PI) (v : J) : List PI := idx :: ((ki.child .var).toList ++ (valChild ki v).toList)

/-- the descent into an event map, with the map's own pairs in front -/
def inner (fuel : Nat) (ki : PI) (v : J) (rest : List (String × J)) : Except PErr (List String) :=
  match picast v, ki.child .map with
  | .m kvs, some mi => search fuel mi (mapToPairs kvs ++ rest)
  | _, _ => .ok []

/-- `afterPair` with the error the search reports -/
def afterPairE (k : String) (v : J) (rest : List (String × J)) : Except PErr (List (String × J)) :=
  match picast v with
  | .v => .error .varInEvent
  | .s _ => .ok rest
  | .m _ => .ok rest
  | .a xs => (sortValues xs).map (fun sorted => sorted.map (fun x => (k, x)) ++ rest)

theorem afterPairE_ok {k : String} {v : J} {rest r : List (String × J)} :
    afterPairE k v rest = .ok r ↔ afterPair k v rest = some r := by
  unfold afterPairE afterPair
  cases picast v with
  | a xs => simp only []; cases sortValues xs <;> simp [Except.map]
  | _ => simp

theorem search_zero (idx : PI) (pairs) : search 0 idx pairs = .ok [] := by simp [search]
theorem search_nil (fuel : Nat) (idx : PI) : search fuel idx [] = .ok [] := by
  cases fuel <;> simp [search]

theorem search_succ (fuel : Nat) (idx : PI) (k : String) (v : J) (rest : List (String × J)) :
    search (fuel + 1) idx ((k, v) :: rest) =
      if isVar k && !rest.isEmpty then .error .varKeyWithOthers else
      match keyChild idx k with
      | none => search fuel idx rest
      | some ki => (do
        let rest1 ← afterPairE k v rest
        let more ← inner fuel ki v rest
        let mores ← (conts idx ki v).mapM (fun n => search fuel n rest1)
        pure (mores.foldl union (union (union (optIds (ki.child .var)) more) (optIds (valChild ki v))))) := by
  simp only [search, keyChild]
  split
  · rfl
  · cases (idx.child (.str k)).orElse (fun _ => idx.child (.str "?")) with
    | none => rfl
    | some ki =>
      simp only [afterPairE, inner, conts, valChild]
      cases picast v with
      | v => rfl
      | s x =>
        simp only []
        cases ki.child .var <;> cases ki.child (.str x) <;>
          simp only [optIds, bind, Except.bind, pure, Except.pure, union_nil] <;> rfl
      | m kvs =>
        simp only []
        cases ki.child .map with
        | none => cases ki.child .var <;> simp only [optIds, bind, Except.bind, pure, Except.pure, union_nil] <;> rfl
        | some mi =>
          simp only []
          cases ki.child .var <;> cases search fuel mi (mapToPairs kvs ++ rest) <;>
            simp only [optIds, bind, Except.bind, pure, Except.pure] <;> rfl
      | a xs =>
        simp only []
        cases ki.child .var <;> cases sortValues xs <;>
          simp only [optIds, bind, Except.bind, pure, Except.pure, union_nil, Except.map] <;> rfl

theorem afterPair_lt {k : String} {v : J} {rest rest1 : List (String × J)} (h : afterPair k v rest = some rest1) :
    szO rest1 < szO ((k, v) :: rest) := by
  unfold afterPair at h
  cases hc : picast v with
  | v => simp [hc] at h
  | s x => simp [hc] at h; subst h; exact szO_cons_lt
  | m kvs => simp [hc] at h; subst h; exact szO_cons_lt
  | a xs =>
    have hv := picast_a v xs hc
    subst hv
    cases hs : sortValues xs with
    | error e => simp [hc, hs] at h
    | ok sorted => simp [hc, hs] at h; subst h; exact szO_arr_lt hs

/-- the children of the key node that the value leads to -/
def Leads (ki : PI) (v : J) (n : PI) : Prop := ki.child .var = some n ∨ valChild ki v = some n

theorem mem_conts {idx ki n : PI} {v : J} : n ∈ conts idx ki v ↔ n = idx ∨ Leads ki v n := by
  simp [conts, Leads, eq_comm]

theorem Leads.const {ki n : PI} {v : J} {x : String} (hc : picast v = .s x) (h : ki.child (.str x) = some n) :
    Leads ki v n := .inr (by rw [valChild, hc]; exact h)

theorem Leads.map {ki n : PI} {kvs : List (String × J)} (h : ki.child .map = some n) : Leads ki (.obj kvs) n :=
  .inr h

theorem Leads.child {ki n : PI} {v : J} (h : Leads ki v n) : ∃ e, ki.child e = some n := by
  rcases h with h | h
  · exact ⟨_, h⟩
  · unfold valChild at h; split at h
    · exact ⟨_, h⟩
    · exact ⟨_, h⟩
    · cases h

theorem keyChild_child {idx ki : PI} {k : String} (h : keyChild idx k = some ki) : ∃ e, idx.child e = some ki := by
  unfold keyChild at h
  cases h1 : idx.child (.str k) with
  | some c => rw [h1] at h; exact ⟨_, h1.trans h⟩
  | none => rw [h1] at h; exact ⟨_, h⟩

theorem inner_obj {fuel : Nat} {ki mi : PI} {kvs rest : List (String × J)} (h : ki.child .map = some mi) :
    inner fuel ki (.obj kvs) rest = search fuel mi (mapToPairs kvs ++ rest) := by
  simp only [inner, picast, h]

theorem search_step {fuel : Nat} {idx ki : PI} {k : String} {v : J} {rest : List (String × J)} {ids : List String}
    (hki : keyChild idx k = some ki) (h : search (fuel + 1) idx ((k, v) :: rest) = .ok ids) :
    ∃ rest1, afterPair k v rest = some rest1 ∧
      (∀ n, n = idx ∨ Leads ki v n → ∃ r, search fuel n rest1 = .ok r ∧ ∀ y ∈ r, y ∈ ids) ∧
      (∀ n, Leads ki v n → ∀ y ∈ n.ids, y ∈ ids) ∧
      (∃ more, inner fuel ki v rest = .ok more ∧ ∀ y ∈ more, y ∈ ids) := by
  rw [search_succ, hki] at h
  split at h
  · cases h
  · obtain ⟨rest1, hr, h⟩ := Except.bind_eq_ok.1 h
    obtain ⟨more, hm, h⟩ := Except.bind_eq_ok.1 h
    obtain ⟨mores, hms, h⟩ := Except.bind_eq_ok.1 h
    cases Except.ok.inj h
    refine ⟨rest1, afterPairE_ok.1 hr, fun n hn => ?_, fun n hn y hy => (mem_foldl_union _ _).2 (.inl ?_),
      more, hm, fun y hy => (mem_foldl_union _ _).2 (.inl (mem_union_left (mem_union_right hy)))⟩
    · obtain ⟨r, hr, hfr⟩ := mapM_ok_mem_left hms (mem_conts.2 hn)
      exact ⟨r, hfr, fun y hy => (mem_foldl_union _ _).2 (.inr ⟨r, hr, hy⟩)⟩
    · rcases hn with hn | hn
      · exact mem_union_left (mem_union_left (by rw [hn]; exact hy))
      · exact mem_union_right (by rw [hn]; exact hy)

/-! ## the embedding theorem -/

/-- every successful search from `idx` on the pairs `E`, with any fuel above their size, returns `id` -/
def Found (id : String) (idx : PI) (E : List (String × J)) : Prop :=
  ∀ fuel ids, szO E < fuel → search fuel idx E = .ok ids → id ∈ ids

theorem keyChild_of_child {idx ki : PI} {k : String} (h : idx.child (.str k) = some ki) : keyChild idx k = some ki := by
  rw [keyChild, h]; rfl

section found
variable {id : String} {idx ki n : PI} {k : String} {v : J} {rest rest1 : List (String × J)}

theorem found_cons_ids (hki : idx.child (.str k) = some ki) (hn : Leads ki v n) (hid : id ∈ n.ids) :
    Found id idx ((k, v) :: rest) := by
  intro fuel ids hf hs
  cases fuel with
  | zero => omega
  | succ fuel =>
    obtain ⟨_, _, _, hids, _⟩ := search_step (keyChild_of_child hki) hs
    exact hids n hn id hid

theorem found_cons_next (hki : idx.child (.str k) = some ki) (hap : afterPair k v rest = some rest1)
    (hn : n = idx ∨ Leads ki v n) (h : Found id n rest1) : Found id idx ((k, v) :: rest) := by
  intro fuel ids hf hs
  cases fuel with
  | zero => omega
  | succ fuel =>
    obtain ⟨rest1', hap', hnext, _, _⟩ := search_step (keyChild_of_child hki) hs
    rw [hap] at hap'; cases hap'
    obtain ⟨r, hr, hsub⟩ := hnext n hn
    exact hsub id (h fuel r (by have := afterPair_lt hap; omega) hr)

theorem found_cons_mapIn {kvs : List (String × J)} (hki : idx.child (.str k) = some ki)
    (hn : ki.child .map = some n) (h : Found id n (mapToPairs kvs ++ rest)) :
    Found id idx ((k, .obj kvs) :: rest) := by
  intro fuel ids hf hs
  cases fuel with
  | zero => omega
  | succ fuel =>
    obtain ⟨_, _, _, _, more, hmore, hsub⟩ := search_step (keyChild_of_child hki) hs
    rw [inner_obj hn] at hmore
    exact hsub id (h fuel more (by have := @szO_map_lt k kvs rest; omega) hmore)

end found

theorem found_skip {id : String} {idx : PI} {rest : List (String × J)} (h : Found id idx rest) :
    ∀ A, Found id idx (A ++ rest) := by
  intro A fuel
  induction fuel generalizing A with
  | zero => intro ids hf; omega
  | succ fuel ih =>
    intro ids hf hs
    match A with
    | [] => exact h _ _ hf hs
    | (k, v) :: A =>
      rw [List.cons_append] at hs hf
      cases hki : keyChild idx k with
      | none =>
        rw [search_succ, hki] at hs
        split at hs
        · cases hs
        · exact ih A ids (by have := @szO_cons_lt k v (A ++ rest); omega) hs
      | some ki =>
        obtain ⟨rest1, hap, hnext, _, _⟩ := search_step hki hs
        obtain ⟨r, hr, hsub⟩ := hnext idx (.inl rfl)
        have hlt : szO rest1 < fuel := by have := afterPair_lt hap; omega
        -- `rest1` is `A ++ rest` with possibly an expanded array in front
        rw [afterPair_prepends] at hap
        obtain ⟨B, _, rfl⟩ := Option.map_eq_some_iff.1 hap
        rw [← List.append_assoc] at hr hlt
        exact hsub _ (ih _ r hlt hr)

/-- at the end of the path the id is on the node; before the end the search goes on -/
theorem arrived_or_found {id : String} {idx : PI} {e1 e2 : Edge} {π : List Edge} {E : List (String × J)}
    (hid : id ∈ idsAt idx (e1 :: e2 :: π)) (ih : ∀ n : PI, π ≠ [] → id ∈ idsAt n π → Found id n E) :
    ∃ ki n, idx.child e1 = some ki ∧ ki.child e2 = some n ∧ (id ∈ n.ids ∨ Found id n E) := by
  obtain ⟨ki, hki, hid⟩ := idsAt_child hid
  obtain ⟨n, hn, hid⟩ := idsAt_child hid
  refine ⟨ki, n, hki, hn, ?_⟩
  cases π with
  | nil => exact .inl hid
  | cons e π => exact .inr (ih n (List.cons_ne_nil _ _) hid)

/-- **search follows embeddings**: if `id` sits at the end of the non-empty path `π` below `idx` and `π`
embeds in the event pairs `E`, every successful search from `idx` on `E` returns `id`. -/
theorem found_of_emb {id : String} {π : List Edge} {E : List (String × J)} (hemb : Emb π E) :
    ∀ idx : PI, π ≠ [] → id ∈ idsAt idx π → Found id idx E := by
  induction hemb with
  | done E => intro idx h; exact absurd rfl h
  | skip π kv E _ ih =>
    intro idx hne hid
    exact found_skip (ih idx hne hid) [kv]
  | const k v x π E hc _ ih =>
    intro idx _ hid
    obtain ⟨ki, n, hki, hn, h | h⟩ := arrived_or_found hid ih
    · exact found_cons_ids hki (.const hc hn) h
    · exact found_cons_next hki (by simp [afterPair, hc]) (.inr (.const hc hn)) h
  | var k v π E E' hap _ ih =>
    intro idx _ hid
    obtain ⟨ki, n, hki, hn, h | h⟩ := arrived_or_found hid ih
    · exact found_cons_ids hki (.inl hn) h
    · exact found_cons_next hki hap (.inr (.inl hn)) h
  | mapIn k kvs π E _ ih =>
    intro idx _ hid
    obtain ⟨ki, n, hki, hn, h | h⟩ := arrived_or_found hid ih
    · exact found_cons_ids hki (.map hn) h
    · exact found_cons_mapIn hki hn h
  | mapStay k kvs π E _ ih =>
    intro idx _ hid
    obtain ⟨ki, n, hki, hn, h | h⟩ := arrived_or_found hid ih
    · exact found_cons_ids hki (.map hn) h
    · exact found_cons_next hki rfl (.inr (.map hn)) h
  | expand k xs sorted π E hsv _ ih =>
    intro idx hne hid
    obtain ⟨ki, hki, _⟩ := idsAt_child hid
    exact found_cons_next hki (by simp [afterPair, picast, hsv]) (.inl rfl) (ih idx hne hid)

/-! ## totality of the search on `EvOK` events -/

theorem afterPair_ev {k : String} (hk : isVar k = false) {dv : J} (h : evOKv dv = true) :
    ∃ A, evOKO A = true ∧ ∀ E, afterPair k dv E = some (A ++ E) := by
  cases dv with
  | null => exact ⟨[], rfl, fun _ => rfl⟩
  | bool b => exact ⟨[], rfl, fun _ => rfl⟩
  | num n => exact ⟨[], rfl, fun _ => rfl⟩
  | str s =>
    have hv : isVarJ (.str s) = false := by simpa [evOKv, isVarJ] using h
    obtain ⟨c, hc⟩ := picast_scalar (x := .str s) rfl hv
    exact ⟨[], rfl, fun _ => by simp [afterPair, hc]⟩
  | obj em => exact ⟨[], rfl, fun _ => rfl⟩
  | arr ys =>
    have hys : evOKA ys = true := by simpa [evOKv] using h
    obtain ⟨ys', hs⟩ := evOKA_sortValues hys
    exact ⟨ys'.map (fun x => (k, x)), evOKO_elems hk hys hs, fun _ => by simp [afterPair, picast, hs]⟩

theorem search_total : ∀ (fuel : Nat) (idx : PI) (E : List (String × J)), evOKO E = true →
    ∃ ids, search fuel idx E = .ok ids := by
  intro fuel
  induction fuel with
  | zero => intro idx E _; exact ⟨[], search_zero idx E⟩
  | succ fuel ih =>
    intro idx E hE
    match E, hE with
    | [], _ => exact ⟨[], search_nil _ idx⟩
    | (k, v) :: rest, hE =>
      simp only [evOKO, Bool.and_eq_true, Bool.not_eq_true'] at hE
      obtain ⟨⟨hk, hv⟩, hrest⟩ := hE
      rw [search_succ]
      simp only [hk, Bool.false_and, Bool.false_eq_true, if_false]
      cases keyChild idx k with
      | none => exact ih idx rest hrest
      | some ki =>
        obtain ⟨A, hA, hap⟩ := afterPair_ev hk hv
        obtain ⟨more, hm⟩ : ∃ more, inner fuel ki v rest = .ok more := by
          unfold inner
          split
          · next kvs mi hc _ =>
            cases picast_m v kvs hc
            exact ih mi _ (evOKO_append (evOKO_mapToPairs (by simpa [evOKv] using hv)) hrest)
          · exact ⟨_, rfl⟩
        obtain ⟨mores, hms⟩ := mapM_ok_of_forall (f := fun n => search fuel n (A ++ rest)) (l := conts idx ki v)
          (fun n _ => ih n _ (evOKO_append hA hrest))
        exact ⟨_, by simp only [afterPairE_ok.2 (hap rest), hm]; simp only [bind, Except.bind, hms]; rfl⟩

/-! ## completeness of the candidates -/

/-- `SearchPatternsMap` answers what the walk answers, with the ids on the root added -/
theorem piSearch_eq_ok {ri : PI} {ev : Obj} {ids : List String} : piSearch ri ev = .ok ids ↔
    ∃ ids0, search (searchFuel (mapToPairs ev)) ri (mapToPairs ev) = .ok ids0 ∧ ids = union ids0 ri.ids := by
  show (search (searchFuel (mapToPairs ev)) ri (mapToPairs ev)).map _ = _ ↔ _
  cases search (searchFuel (mapToPairs ev)) ri (mapToPairs ev) <;> simp [Except.map, eq_comm]

theorem piSearch_of_emb {ri : PI} {ev : Obj} {π : List Edge} {id : String} (hid : id ∈ idsAt ri π)
    (hemb : Emb π (mapToPairs ev)) {ids : List String} (hs : piSearch ri ev = .ok ids) : id ∈ ids := by
  obtain ⟨ids0, hr, rfl⟩ := piSearch_eq_ok.1 hs
  match π, hid, hemb with
  | [], hid, _ => exact mem_union_right hid
  | e :: π, hid, hemb => exact mem_union_left (found_of_emb hemb ri (by simp) hid _ _ (searchFuel_gt _) hr)

theorem piSearch_total (ri : PI) {ev : Obj} (hev : EvOK ev = true) : ∃ ids, piSearch ri ev = .ok ids := by
  obtain ⟨ids0, h⟩ := search_total (searchFuel (mapToPairs ev)) ri (mapToPairs ev) (evOKO_mapToPairs hev)
  exact ⟨_, piSearch_eq_ok.2 ⟨ids0, h, rfl⟩⟩

end PI
