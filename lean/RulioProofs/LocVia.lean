import RulioProofs.StateND
import RulioProofs.ReloadStore
import RulioModel.ComposeFrag

/-! # A Location method acts on its location as a history of State operations

Every `LM` computation of the model reads `name`, `readOnly`, `maxFacts`, `hasProvider` and writes none of them: all it
does to a location is to run `st` through `State.Get/Add/Rem/Search/FindRules/Clear`. `LM.Via w m` says so in the
vocabulary of C06 (`ROp`, `St.runOps`) and adds that `m` never answers `"diverge"`. It is closed under the constructs
the methods are written with, so each method's `do` block is walked once (`loc*_via`); that a method keeps name and
provider flag (`KeepsId`) and never diverges (`NoDiv`) is read off (`Via.keepsId`, `.noDiv`); a method that may not
write purges (`Via.purge`), so it only erases (`Via.shr`); a history of Location operations is a history of State
operations (`Loc.run_eq`), and keeps whatever every State operation keeps (`St.runOps_inv`). (C09, C10) -/

/-! ## the pure functions the methods call never answer `"diverge"` -/

theorem parentsOfJ_nd (v : J) : ND (parentsOfJ v) := by
  unfold parentsOfJ
  split
  · next xs =>
    induction xs with
    | nil => exact ND.ok _
    | cons x xs ih =>
      rw [List.mapM_cons]
      refine ND.bind ?_ fun s => ND.bind ih fun ss => ND.ok _
      split
      · exact ND.ok _
      · exact ND.lit (by simp)
  · exact ND.lit (by simp)

/-- every error of the rule validation is the literal `"syntax"`; the `do` block is taken statement by statement,
the continuation of each guard statement first -/
theorem ruleFromMap_nd (r : Obj) : ND (ruleFromMap r) := by
  have syn : ∀ {α}, ND (.error "syntax" : Except LErr α) := ND.lit (by simp)
  unfold ruleFromMap
  refine ND.bind ?_ fun when? => ND.bind ?_ fun schedule => ?_
  · split
    · exact ND.ok _
    · exact ND.ok _
    · split
      · exact ND.ok _
      · exact ND.ok _
      · exact ND.ok _
      · exact syn
    · exact syn
  · split
    · exact ND.ok _
    · exact ND.ok _
    · exact ND.ok _
    · exact syn
  · extract_lets action? actions? serial afterCondition afterExpires
    clear_value action? actions? serial
    have hcond : ∀ u, ND (afterCondition u) := by
      intro u
      refine ND.ite syn (ND.ite syn (ND.ite syn (ND.bind ?_ fun acts => ND.ite syn (ND.ite syn (ND.ok _)))))
      split
      · exact ND.ok _
      · exact ND.ok _
      · exact syn
      · exact ND.ok _
    have hexp : ∀ u, ND (afterExpires u) := by
      intro u
      unfold afterExpires
      split
      · exact hcond ()
      · exact hcond ()
      · exact ND.ite (hcond ()) (ND.bind syn hcond)
    split
    · exact hexp ()
    · exact hexp ()
    · exact hexp ()
    · exact ND.bind syn hexp

theorem locSearchRules_go_nd : ∀ (cands : List (String × Obj)), ND (locSearchRules.go cands) := by
  intro cands
  induction cands with
  | nil => exact ND.ok _
  | cons x rest ih =>
    obtain ⟨id, body⟩ := x
    exact ND.bind (ruleFromMap_nd body) fun r => ND.bind ih fun rs => ND.ok _

/-! ## the predicate and its closure -/

/-- a single-location computation that never answers `"diverge"` -/
def LM.NoDiv {α} (m : LM α) : Prop := ∀ l, ND (m l).2

namespace LM
theorem NoDiv.attempt {α} (m : LM α) : (LM.attempt m).NoDiv := fun _ => ND.ok _

theorem attempt_val {α} {m : LM α} (hm : m.NoDiv) : ∀ l r, (LM.attempt m l).2 = .ok r → ND r := by
  intro l r h
  cases h
  exact hm l

end LM

/-- whatever `m` answers, the location afterwards is the location before with its state run through a history of
State operations, none of them `Add` or `Clear` (`ROp.Purges`, StateAll) unless `w` ("may write"); and `m` never answers
`"diverge"` -/
def LM.Via (w : Bool) {α} (m : LM α) : Prop :=
  ∀ l, (∃ ops, (∀ op ∈ ops, w = true ∨ op.Purges) ∧ (m l).1 = { l with st := l.st.runOps ops }) ∧ ND (m l).2

namespace LM
variable {w : Bool}

theorem Via.const {α} {m : LM α} (h1 : ∀ l, (m l).1 = l) (h2 : ∀ l, ND (m l).2) : m.Via w :=
  fun l => ⟨⟨[], nofun, h1 l⟩, h2 l⟩

theorem Via.pure {α} (a : α) : (LM.pure a).Via w := .const (fun _ => rfl) fun _ => ND.ok a
theorem Via.fail {α} {e : LErr} (h : e ≠ "diverge") : (LM.fail e : LM α).Via w := .const (fun _ => rfl) fun _ => ND.lit h
theorem Via.get : LM.get.Via w := .const (fun _ => rfl) fun l => ND.ok l

theorem Via.op {α} {f : St → St × Except LErr α} (op : ROp) (hw : w = true ∨ op.Purges)
    (h1 : ∀ s, (s.stepOp op).1 = (f s).1) (h2 : ∀ s, ND (f s).2) : (LM.liftSt f).Via w :=
  fun l => ⟨⟨[op], by simpa using hw, by simp only [St.runOps, h1]; rfl⟩, h2 l.st⟩

theorem Via.attempt {α} {m : LM α} (hm : m.Via w) : (LM.attempt m).Via w :=
  fun l => ⟨(hm l).1, ND.ok _⟩

/-- `P` is what is known of the value bound: `getProp` re-raises the error it caught with `attempt` -/
theorem Via.bindP {α β} {m : LM α} {f : α → LM β} (P : α → Prop) (hm : m.Via w)
    (hP : ∀ l a, (m l).2 = .ok a → P a) (hf : ∀ a, P a → (f a).Via w) : (m >>= f).Via w := by
  intro l
  show (∃ ops, _ ∧ (LM.bind m f l).1 = _) ∧ ND (LM.bind m f l).2
  unfold LM.bind
  obtain ⟨⟨ops1, hw1, h1⟩, hn1⟩ := hm l
  have h2 := hP l
  cases hml : m l with
  | mk l1 r =>
    rw [hml] at h1 hn1 h2
    cases r with
    | error e => exact ⟨⟨ops1, hw1, h1⟩, hn1.err rfl⟩
    | ok a =>
      obtain ⟨⟨ops2, hw2, h3⟩, hn2⟩ := hf a (h2 a rfl) l1
      refine ⟨⟨ops1 ++ ops2, fun op h => (List.mem_append.1 h).elim (hw1 op) (hw2 op), ?_⟩, hn2⟩
      simp only at h1
      rw [h3, h1, St.runOps_append]

theorem Via.bind {α β} {m : LM α} {f : α → LM β} (hm : m.Via w) (hf : ∀ a, (f a).Via w) : (m >>= f).Via w :=
  .bindP (fun _ => True) hm (fun _ _ _ => trivial) fun a _ => hf a

theorem Via.ite {α} {c : Prop} [Decidable c] {a b : LM α} (ha : a.Via w) (hb : b.Via w) :
    (if c then a else b).Via w := by
  split <;> assumption

/-! ### what is read off -/

theorem Via.keepsId {α} {m : LM α} (h : m.Via w) : m.KeepsId :=
  fun l => let ⟨⟨_, _, e⟩, _⟩ := h l; by rw [e]; exact ⟨rfl, rfl⟩

theorem Via.noDiv {α} {m : LM α} (h : m.Via w) : m.NoDiv := fun l => (h l).2

theorem Via.purge {α} {m : LM α} (h : m.Via false) (l : Loc) : St.Purge l.st.kind l.st (m l).1.st := by
  obtain ⟨⟨ops, hw, e⟩, _⟩ := h l
  rw [e]
  exact St.runOps_purge ops l.st fun op ho => (hw op ho).resolve_left nofun

theorem Via.shr {α} {m : LM α} (h : m.Via false) : m.Shr := fun l =>
  ⟨(h.keepsId l).1, (h.keepsId l).2, (h.purge l).shrinks⟩

end LM

/-! ## the model's computations, each walked once -/

section
open LM
variable {w : Bool}

theorem stGet_via (id : String) (now : Int) : (stGet id now).Via w :=
  .op (.get id now) (.inr trivial) (fun s => St.stepOp_fst s _) fun s => St.get_nd s id now
theorem stAdd_via (id : String) (x : Obj) (now : Int) : (stAdd id x now).Via true :=
  .op (.add id x now) (.inl rfl) (fun s => St.stepOp_fst s _) fun s => St.add_nd s id x now
theorem stRem_via (id : String) (now : Int) : (stRem id now).Via w :=
  .op (.rem id now) (.inr trivial) (fun s => St.stepOp_fst s _) fun s => St.rem_nd s id now
theorem stSearch_via (p : Obj) (now : Int) : (stSearch p now).Via w :=
  .op (.search p now) (.inr trivial) (fun s => St.stepOp_fst s _) fun s => St.search_nd s p now
theorem stFindRules_via (ev : Obj) (now : Int) : (stFindRules ev now).Via w :=
  .op (.findRules ev now) (.inr trivial) (fun s => St.stepOp_fst s _) fun s => St.findRules_nd s ev now

theorem getProp_via (id prop : String) (d : J) (now : Int) : (getProp id prop d now).Via w := by
  refine .bindP ND (stGet_via _ _).attempt (attempt_val (stGet_via (w := w) _ _).noDiv) fun r hr => ?_
  split
  · exact .pure _
  · exact .fail (hr _ rfl)
  · split
    · exact .pure _
    · exact .fail (by simp)

theorem getPropStringD_via (prop : String) (now : Int) : (getPropStringD prop now).Via w := by
  refine .bind (getProp_via _ _ _ _).attempt fun r => ?_
  split <;> exact .pure _

theorem runGuards_via (c : Ctx) (now : Int) : ∀ gs : List Guard, (runGuards c now gs).Via w
  | [] => .pure _
  | g :: gs => by
    refine .bind ?_ fun _ => runGuards_via c now gs
    have key := fun p => getPropStringD_via (w := w) p now
    cases g
    · exact .bind (key _) fun _ => .ite (.pure _) (.fail (by simp))
    · exact .bind (key _) fun _ => .ite (.pure _) (.fail (by simp))
    · exact .bind .get fun _ => .ite (.fail (by simp)) (.bind (key _) fun _ => .ite (.pure _) (.fail (by simp)))
    · exact .bind .get fun _ => .ite (.fail (by simp)) (.pure _)

theorem locGetParentsRaw_via (now : Int) : (locGetParentsRaw now).Via false := by
  refine .bind (getProp_via _ _ _ _) fun x => ?_
  split
  refine .ite (.pure _) ?_
  split
  · exact .pure _
  · next h => exact .fail (parentsOfJ_nd _ _ h)

theorem locGetParents_via (c : Ctx) (now : Int) : (locGetParents c now).Via false :=
  .bind (runGuards_via _ _ _) fun _ => locGetParentsRaw_via _

theorem locSetParents_via (c : Ctx) (ps : List String) (now : Int) : (locSetParents c ps now).Via true :=
  .bind (runGuards_via _ _ _) fun _ => stAdd_via _ _ _

theorem locAddFact_via (c : Ctx) (id : String) (f : Obj) (now : Int) : (locAddFact c id f now).Via true :=
  .bind (runGuards_via _ _ _) fun _ => stAdd_via _ _ _

theorem locRemFact_via (c : Ctx) (id : String) (now : Int) : (locRemFact c id now).Via false :=
  .bind (runGuards_via _ _ _) fun _ => .bind (stRem_via _ _) fun _ => .pure _

theorem locGetFact_via (c : Ctx) (id : String) (now : Int) : (locGetFact c id now).Via false :=
  .bind (runGuards_via _ _ _) fun _ => stGet_via _ _

theorem locAddRule_via (c : Ctx) (id : String) (r : Obj) (now : Int) : (locAddRule c id r now).Via true := by
  refine .bind (runGuards_via _ _ _) fun _ => ?_
  split
  · next h => exact .fail (ruleFromMap_nd _ _ h)
  · split
    · next h => exact .fail (setExpires_nd _ _ _ h)
    · exact stAdd_via _ _ _

theorem locRemRule_via (c : Ctx) (id : String) (now : Int) : (locRemRule c id now).Via false :=
  .bind (runGuards_via _ _ _) fun _ => .bind (stRem_via _ _) fun _ =>
    .bind (getProp_via _ _ _ _) fun _ => .ite (.bind (stRem_via _ _) fun _ => .pure _) (.pure _)

theorem locEnableRule_via (c : Ctx) (id : String) (b : Bool) (now : Int) : (locEnableRule c id b now).Via true :=
  .bind (runGuards_via _ _ _) fun _ =>
    .ite (.bind (stRem_via _ _) fun _ => .pure _) (.bind (stAdd_via _ _ _) fun _ => .pure _)

theorem locRuleEnabled_via (c : Ctx) (id : String) (now : Int) : (locRuleEnabled c id now).Via false := by
  refine .bind (runGuards_via _ _ _) fun _ => .bind (getProp_via _ _ _ _) fun x => ?_
  split
  split <;> exact .pure _

theorem locGetRule_via (c : Ctx) (id : String) (now : Int) : (locGetRule c id now).Via false := by
  refine .bind (runGuards_via _ _ _) fun _ => .bind (stGet_via _ _) fun f => ?_
  split
  · exact .pure _
  · exact .fail (by simp)
  · next h => exact .fail (extractRule_nd _ _ _ h)

theorem locSearchFacts_via (c : Ctx) (p : Obj) (now : Int) : (locSearchFacts c p now).Via false :=
  .bind (runGuards_via _ _ _) fun _ => stSearch_via _ _

theorem locSearchRules_via (c : Ctx) (ev : Obj) (now : Int) : (locSearchRules c ev now).Via false := by
  refine .bind (runGuards_via _ _ _) fun _ => .bind (stFindRules_via _ _) fun cands => ?_
  split
  · exact .pure _
  · next h => exact .fail (locSearchRules_go_nd _ _ h)

theorem locClear_via (c : Ctx) (now : Int) : (locClear c now).Via true :=
  .bind (runGuards_via _ _ _) fun _ _ => ⟨⟨[.clear], fun _ _ => .inl rfl, rfl⟩, ND.ok _⟩

theorem locStateSize_via (c : Ctx) (now : Int) : (locStateSize c now).Via false :=
  .bind (runGuards_via _ _ _) fun _ => .bind .get fun _ => .pure _

end

/-! ## a history of Location operations is a history of State operations -/

theorem LocOp.step_eq (l : Loc) (op : LocOp) : ∃ rops, op.step l = { l with st := l.st.runOps rops } := by
  have key {α} {w} {m : LM α} (hm : m.Via w) : ∃ rops, (m l).1 = { l with st := l.st.runOps rops } :=
    let ⟨⟨rops, _, e⟩, _⟩ := hm l; ⟨rops, e⟩
  cases op
  · exact key (locAddRule_via _ _ _ _)
  · exact key (locRemRule_via _ _ _)
  · exact key (locEnableRule_via _ _ _ _)
  · exact key (locAddFact_via _ _ _ _)
  · exact key (locRemFact_via _ _ _)
  · exact key (locGetFact_via _ _ _)
  · exact key (locSearchFacts_via _ _ _)
  · exact key (locSearchRules_via _ _ _)
  · exact key (locClear_via _ _)

theorem Loc.run_eq (ops : List LocOp) (l : Loc) : ∃ rops, l.run ops = { l with st := l.st.runOps rops } := by
  induction ops generalizing l with
  | nil => exact ⟨[], rfl⟩
  | cons op ops ih =>
    obtain ⟨r1, e1⟩ := LocOp.step_eq l op
    obtain ⟨r2, e2⟩ := ih (op.step l)
    refine ⟨r1 ++ r2, ?_⟩
    rw [show l.run (op :: ops) = (op.step l).run ops from rfl, e2, e1, St.runOps_append]
