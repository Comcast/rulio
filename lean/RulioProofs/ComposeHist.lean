import RulioProofs.CloseReload
import RulioProofs.LocVia

/-! # Composition, histories: every state reached by Location operations is well-formed (and, if indexed, reachable
in the sense of `IReach`), whatever the operations answer. A history with one more operation at its end: `Loc.run_snoc`. -/

/-- well-formed, and reachable in the sense of C01 when indexed -/
def StGood (s : St) : Prop := WF s ∧ (s.kind = .indexed → IReach s)

theorem StGood.stepOp {s : St} (h : StGood s) (op : ROp) : StGood (s.stepOp op).1 :=
  ⟨h.1.stepOp op, fun hk' =>
    have hk : s.kind = .indexed := St.stepOp_kind s op ▸ hk'
    (h.2 hk).stepOp hk op⟩

theorem stGood_step {l : Loc} (h : StGood l.st) (op : LocOp) : StGood (op.step l).st := by
  obtain ⟨rops, e⟩ := LocOp.step_eq l op
  rw [e]
  exact St.runOps_inv (fun _ op h => h.stepOp op) rops h

theorem stGood_history (name : String) (k : Kind) (ops : List LocOp) : StGood ((Loc.fresh name k).run ops).st := by
  obtain ⟨rops, e⟩ := Loc.run_eq ops (Loc.fresh name k)
  rw [e]
  exact St.runOps_inv (fun _ op h => h.stepOp op) rops
    ⟨wf_empty k, fun hk => by cases k with | indexed => exact IReach.init | linear => cases hk⟩

theorem Loc.run_snoc (l : Loc) (ops : List LocOp) (op : LocOp) : l.run (ops ++ [op]) = LocOp.step (l.run ops) op := by
  simp only [Loc.run, List.foldl_append, List.foldl_cons, List.foldl_nil]
