import RulioModel.Breaker

/-! # C20: the `counts` array of the real breaker refines the ghost model `G`

Bucket `i` of `counts` holds the number of ghost admissions that have been shifted `i` ticks (`countsOf`); the copy
and the zeroing loop of `slide` are a right shift (`shiftL`), which is what the ghost's `slide` does to the shifts.
So every run of the real breaker admits exactly the calls the ghost admits (`admittedEv_ghost`, `call_after_ghost`),
and the window and recovery theorems of `BreakerGhost.lean` carry over. -/

open Gen.C20

/-! ## Go slices -/

theorem getD_range_map (n : Nat) (f : Nat → Nat) (i : Nat) (h : i < n) :
    ((List.range n).map f).getD i 0 = f i := by
  simp [List.getD, h]

/-- the net effect of the copy and the zeroing loop of `slide`: shift right by `k`, zero-fill -/
def shiftL (k : Nat) (cs : List Nat) : List Nat :=
  (List.range cs.length).map fun i => if i < k then 0 else cs.getD (i - k) 0

/-- **tie to the generated offsets**: with the extracted `copyDst`, `copySrc`, `zeroLo`, `zeroCond` the two
statements of `slide` are a right shift by `k` -/
theorem slide_counts_eq (cs : List Nat) (k : Nat) :
    goZeroWhile (goCopySelf cs (copyDst k) (copySrc k)) (zeroLo k) (fun i => zeroCond i k) = shiftL k cs := by
  unfold goZeroWhile shiftL
  rw [show (goCopySelf cs (copyDst k) (copySrc k)).length = cs.length by simp [goCopySelf]]
  refine List.map_congr_left fun i hi => ?_
  rw [List.mem_range] at hi
  simp only [zeroLo, zeroCond, copyDst, copySrc, Nat.zero_le, true_and, decide_eq_true_eq]
  by_cases hk : i < k
  · rw [if_pos hk, if_pos hk]
  · rw [if_neg hk, if_neg hk, goCopySelf, getD_range_map _ _ _ hi, if_pos (by omega)]
    rfl

/-! ## per-bucket counts of the ghost admissions -/

def countsOf (all : List (Nat × Nat)) (n : Nat) : List Nat :=
  (List.range n).map fun i => all.countP (fun p => p.2 == i)

theorem countsOf_length (all : List (Nat × Nat)) (n : Nat) : (countsOf all n).length = n := by
  simp [countsOf]

theorem shiftL_countsOf (all : List (Nat × Nat)) (n k : Nat) :
    shiftL k (countsOf all n) = countsOf (all.map (fun p => (p.1, p.2 + k))) n := by
  unfold shiftL
  rw [countsOf_length]
  unfold countsOf
  refine List.map_congr_left fun i hi => ?_
  rw [List.mem_range] at hi
  rw [List.countP_map]
  by_cases hk : i < k
  · rw [if_pos hk, eq_comm, List.countP_eq_zero]
    intro p _
    simp only [Function.comp_apply, beq_iff_eq]
    omega
  · rw [if_neg hk, getD_range_map _ _ _ (by omega)]
    apply List.countP_congr
    intro p _
    simp only [Function.comp_apply, beq_iff_eq]
    omega

theorem goIncrAt_countsOf (all : List (Nat × Nat)) (n now : Nat) :
    goIncrAt (countsOf all n) 0 = countsOf ((now, 0) :: all) n := by
  unfold goIncrAt
  rw [countsOf_length]
  unfold countsOf
  refine List.map_congr_left fun i hi => ?_
  rw [List.mem_range] at hi
  rw [getD_range_map _ _ _ hi, List.countP_cons]
  by_cases h : i = 0
  · simp [h]
  · simp [h, Ne.symm h]

theorem countP_lt_succ (all : List (Nat × Nat)) (n : Nat) :
    all.countP (fun p => decide (p.2 < n)) + all.countP (fun p => p.2 == n) =
      all.countP (fun p => decide (p.2 < n + 1)) := by
  induction all with
  | nil => rfl
  | cons p all ih =>
    have key : (if p.2 < n then 1 else 0) + (if p.2 = n then 1 else 0) = (if p.2 < n + 1 then 1 else 0) := by
      rcases Nat.lt_trichotomy p.2 n with h | h | h
      · rw [if_pos h, if_neg (Nat.ne_of_lt h), if_pos (Nat.lt_succ_of_lt h)]
      · rw [if_neg (h ▸ Nat.lt_irrefl _), if_pos h, if_pos (h ▸ Nat.lt_succ_self _)]
      · rw [if_neg (Nat.lt_asymm h), if_neg (Nat.ne_of_gt h), if_neg (Nat.not_lt.mpr h)]
    simp only [List.countP_cons, decide_eq_true_eq, beq_iff_eq]
    omega

theorem countsOf_sum (all : List (Nat × Nat)) (n : Nat) :
    (countsOf all n).sum = all.countP (fun p => decide (p.2 < n)) := by
  induction n with
  | zero => simp [countsOf]
  | succ n ih =>
    rw [countsOf, List.range_succ, List.map_append, List.sum_append, ← countsOf, ih]
    exact countP_lt_succ all n

/-- **tie to the generated clamp**: `if len(b.counts) < ticks { ticks = len(b.counts) … }` is `min` -/
theorem clampTicks_eq_min (len r : Nat) : clampTicks len r = min r len := by
  unfold clampTicks
  by_cases h1 : len < r
  · simp [h1]; omega
  · simp [h1]; omega

/-- **tie to the generated assignments of `b.updated` in `slide`**: `now` when more than `len(b.counts)` ticks have
passed (everything has aged out), else `updated + ticks·resolution` — never `now` otherwise -/
theorem slideUpdated_eq (updated now len raw res : Nat) :
    slideUpdated updated now len raw res = if len < raw then now else updated + raw * res := by
  unfold slideUpdated
  by_cases h : len < raw <;> simp [h]

/-- **tie to the generated assignment of `b.updated` in `Do`**: an admission sets `updated := now` -/
theorem admitUpdated_eq (updated now : Nat) : admitUpdated updated now = now := rfl

theorem OB.slide_counts (b : OB) (now : Nat) : (b.slide now).counts = shiftL (b.shiftBy now) b.counts :=
  slide_counts_eq _ _

theorem OB.slide_updated (b : OB) (now : Nat) :
    (b.slide now).updated = if b.counts.length < b.rawAt now then now else b.updated + b.rawAt now * b.res :=
  slideUpdated_eq _ _ _ _ _

theorem OB.call_admit {b : OB} {now : Nat} (h : (b.call now).2 = true) :
    (b.call now).1 = { b.slide now with counts := goIncrAt (b.slide now).counts incrIndex,
                                        updated := admitUpdated (b.slide now).updated now } := if_pos h

theorem OB.call_refuse {b : OB} {now : Nat} (h : (b.call now).2 = false) : (b.call now).1 = b.slide now :=
  if_neg (ne_true_of_eq_false h)

/-! ## the simulation relation -/

structure Refines (b : OB) (g : G) : Prop where
  counts : b.counts = countsOf g.all g.ticks
  res : b.res = g.res
  limit : b.limit = g.limit
  updated : b.updated = g.updated
  tpos : 0 < g.ticks

theorem rawAt_eq (b : OB) (g : G) (h : Refines b g) (now : Nat) : b.rawAt now = (now - g.updated) / g.res := by
  unfold OB.rawAt
  rw [h.res, h.updated]
  rfl

theorem shiftBy_eq (b : OB) (g : G) (h : Refines b g) (now : Nat) : b.shiftBy now = g.shift now := by
  unfold OB.shiftBy
  rw [rawAt_eq b g h, h.counts, countsOf_length, clampTicks_eq_min]
  rfl

theorem slide_refines (b : OB) (g : G) (h : Refines b g) (now : Nat) : Refines (b.slide now) (g.slide now) := by
  refine ⟨?_, h.res, h.limit, ?_, h.tpos⟩
  · rw [OB.slide_counts, shiftBy_eq b g h, h.counts, shiftL_countsOf]
    rfl
  · rw [OB.slide_updated, rawAt_eq b g h, h.counts, countsOf_length, h.res, h.updated]
    rfl

theorem total_refines (b : OB) (g : G) (h : b.counts = countsOf g.all g.ticks) : b.total = g.total := by
  unfold OB.total G.total
  rw [h, countsOf_sum, List.countP_eq_length_filter]

theorem Refines.admission {b : OB} {g : G} (h : Refines b g) (now : Nat) :
    Refines { b with counts := goIncrAt b.counts incrIndex, updated := admitUpdated b.updated now }
      { g with all := (now, 0) :: g.all, updated := now } :=
  ⟨(congrArg (goIncrAt · incrIndex) h.counts).trans (goIncrAt_countsOf g.all g.ticks now), h.res, h.limit,
    admitUpdated_eq b.updated now, h.tpos⟩

theorem call_refines (b : OB) (g : G) (h : Refines b g) (now : Nat) :
    Refines (b.call now).1 (g.call now) ∧ (b.call now).2 = decide ((g.slide now).total < g.limit) := by
  have hs := slide_refines b g h now
  have hdec : (b.call now).2 = decide ((g.slide now).total < g.limit) := by
    show admitTest (b.slide now).total (b.slide now).limit = _
    rw [total_refines _ _ hs.counts, hs.limit]
    rfl
  refine ⟨?_, hdec⟩
  by_cases hc : (g.slide now).total < g.limit
  · rw [OB.call_admit (hdec.trans (decide_eq_true hc)), G.call_of_lt hc]
    exact hs.admission now
  · rw [OB.call_refuse (hdec.trans (decide_eq_false hc)), G.call_of_not_lt hc]
    exact hs

theorem stepEv_refines (b : OB) (g : G) (h : Refines b g) (e : BEv) :
    Refines (b.stepEv e).1 (g.step e) ∧
    (b.stepEv e).2 = (match e with
      | .call t => decide ((g.slide t).total < g.limit)
      | .status _ => false) := by
  cases e with
  | call t => exact call_refines b g h t
  | status t => exact ⟨slide_refines b g h t, rfl⟩

/-- the loop of `admittedEv`, started with the ghost's admissions so far as its accumulator, ends with the ghost's admissions -/
theorem admitted_refines (b : OB) (g : G) (h : Refines b g) (es : List BEv) :
    OB.admittedEv.go b es g.adm = (g.run es).adm := by
  induction es generalizing b g with
  | nil => rfl
  | cons e es ih =>
    have hc := stepEv_refines b g h e
    rw [OB.admittedEv.go, G.run, ← ih _ _ hc.1, hc.2]
    cases e with
    | call t =>
      rw [G.step, G.call_adm]
      by_cases hlt : (g.slide t).total < g.limit <;> simp [hlt, BEv.time]
    | status t =>
      rw [G.step, G.slide_adm]
      rfl

theorem after_refines (b : OB) (g : G) (h : Refines b g) (es : List BEv) : Refines (b.afterEv es) (g.run es) := by
  induction es generalizing b g with
  | nil => exact h
  | cons e es ih => exact ih _ _ (stepEv_refines b g h e).1

/-! ## a breaker whose counts are all zero -/

def ghost0 (b : OB) : G := { limit := b.limit, res := b.res, ticks := b.ticks, all := [], updated := b.updated }

theorem refines_zero (b : OB) (hz : b.counts = List.replicate b.ticks 0) (ht : 0 < b.ticks) : Refines b (ghost0 b) := by
  refine ⟨?_, rfl, rfl, rfl, ht⟩
  rw [hz]
  simp only [ghost0, countsOf, List.countP_nil]
  apply List.ext_getElem <;> simp

theorem binv_ghost0 (b : OB) (hr : 0 < b.res) : BInv (ghost0 b) := by
  refine ⟨hr, fun _ hp => (List.not_mem_nil hp).elim, List.Pairwise.nil, ?_⟩
  intro newer t older he
  cases newer <;> cases he

theorem linv_ghost0 (b : OB) : LInv (ghost0 b) :=
  ⟨List.Pairwise.nil, fun _ _ hp => nomatch hp⟩

theorem admittedEv_ghost (b : OB) (hz : b.counts = List.replicate b.ticks 0) (ht : 0 < b.ticks) (es : List BEv) :
    b.admittedEv es = ((ghost0 b).run es).adm :=
  admitted_refines b (ghost0 b) (refines_zero b hz ht) es

theorem call_after_ghost (b : OB) (hz : b.counts = List.replicate b.ticks 0) (ht : 0 < b.ticks) (pre : List BEv)
    (now : Nat) :
    ((b.afterEv pre).call now).2 = decide ((((ghost0 b).run pre).slide now).total < b.limit) := by
  rw [(call_refines _ _ (after_refines b _ (refines_zero b hz ht) pre) now).2, (G.run_fields (ghost0 b) pre).2.2]
  rfl

theorem map_call_time (ts : List Nat) : (ts.map BEv.call).map BEv.time = ts := by
  induction ts with
  | nil => rfl
  | cons t ts ih => rw [List.map_cons, List.map_cons, ih]; rfl

/-! ## no panic -/

/-- with a positive resolution (so `ticks ≠ 0`: `interval / 0 = 0`) and a non-empty `counts`, `Do` cannot panic -/
theorem callE_ok (b : OB) (hr : 0 < b.res) (hl : 0 < b.counts.length) (now : Nat) :
    b.callE now = .ok (b.call now) := by
  have ht : b.ticks ≠ 0 := fun h0 => by
    rw [OB.res, resolution, h0, Nat.div_zero] at hr
    exact Nat.lt_irrefl 0 hr
  have h1 : ¬ (b.ticks = 0 ∨ b.res = 0) := by omega
  have h2 : incrIndex < b.counts.length := hl
  simp [OB.callE, h1, h2]

/-- a breaker that starts with all-zero counts and a positive resolution never panics in `Do`, after any calls and
polls: the ghost it is related to keeps `res` and `ticks` -/
theorem never_panics (b : OB) (hz : b.counts = List.replicate b.ticks 0) (ht : 0 < b.ticks) (hr : 0 < b.res)
    (pre : List BEv) (now : Nat) : (b.afterEv pre).callE now = .ok ((b.afterEv pre).call now) := by
  have hR := after_refines b _ (refines_zero b hz ht) pre
  obtain ⟨e1, e2, _⟩ := G.run_fields (ghost0 b) pre
  apply callE_ok
  · rw [hR.res, e1]
    exact hr
  · rw [hR.counts, countsOf_length, e2]
    exact ht

/-! ## concurrent callers: every schedule is a sequential run of `call` at the lock-acquisition clock readings -/

/-- **tie to the generated lock structure** of `Do`: one critical section holds clock reading, slide, sum, test and
increment; running `f` is outside -/
theorem do_segments_shape : doSegments = [[.readClock, .slide, .sum, .test, .incr], [.runF]] := rfl

theorem seg_runF (clk : Nat) (st : OB × DoLocal × List (Nat × Bool)) : runSeg clk [DoStep.runF] st = st := rfl

/-- every thread is between two `Do` calls or has only `f` left to run: nobody is inside the critical section -/
def ThreadsOK (s : DoSys) : Prop := ∀ th ∈ s.threads, th.todo = [] ∨ th.todo = [[DoStep.runF]]

theorem threadsOK_set (s : DoSys) (h : ThreadsOK s) (tid : Nat) (th : DoThread) (b : OB) (log : List (Nat × Bool))
    (hth : th.todo = [] ∨ th.todo = [[DoStep.runF]]) :
    ThreadsOK { b := b, threads := s.threads.set tid th, log := log } := by
  intro x hx
  rcases List.mem_or_eq_of_mem_set hx with hx | hx
  · exact h x hx
  · rw [hx]; exact hth

/-- a scheduling decision changes neither breaker nor log, or it is one `call` at the scheduled clock reading, logged -/
theorem step_cases (s : DoSys) (h : ThreadsOK s) (tid clk : Nat) :
    ThreadsOK (s.step tid clk) ∧
    (((s.step tid clk).b = s.b ∧ (s.step tid clk).log = s.log) ∨
     ((s.step tid clk).b = (s.b.call clk).1 ∧ (s.step tid clk).log = (clk, (s.b.call clk).2) :: s.log)) := by
  unfold DoSys.step
  cases hg : s.threads[tid]? with
  | none => exact ⟨h, Or.inl ⟨rfl, rfl⟩⟩
  | some th =>
    simp only []
    rcases h th (List.mem_of_getElem? hg) with h0 | h1
    · cases hm : th.more with
      | zero =>
        have hn : th.next = th := by simp [DoThread.next, h0, hm]
        simp only [hn, h0]
        exact ⟨h, by simp⟩
      | succ n =>
        have hn : th.next = { th with todo := doSegments, more := n } := by simp [DoThread.next, h0, hm]
        -- the critical section is one `call` at the scheduled clock reading
        have hseg : runSeg clk [DoStep.readClock, .slide, .sum, .test, .incr] (s.b, th.regs, s.log) =
            ((s.b.call clk).1, _, (clk, (s.b.call clk).2) :: s.log) := rfl
        simp only [hn, do_segments_shape, hseg]
        exact ⟨threadsOK_set s h tid _ _ _ (Or.inr rfl), by simp⟩
    · have hn : th.next = th := by simp [DoThread.next, h1]
      simp only [hn, h1, seg_runF]
      exact ⟨threadsOK_set s h tid _ _ _ (Or.inl rfl), by simp⟩

/-- every schedule is a sequential run of `call` over a subsequence `ts` of its clock readings; the admissions accumulate as in
the loop of `admittedEv` -/
theorem exec_sequential (s : DoSys) (h : ThreadsOK s) (sch : List (Nat × Nat)) :
    ∃ ts, ts.Sublist (sch.map (·.2)) ∧ (s.exec sch).b = s.b.after ts ∧
      (s.exec sch).admitted = OB.admittedEv.go s.b (ts.map .call) s.admitted := by
  induction sch generalizing s with
  | nil => exact ⟨[], List.Sublist.refl _, rfl, rfl⟩
  | cons e sch ih =>
    obtain ⟨tid, clk⟩ := e
    obtain ⟨hok, hcase⟩ := step_cases s h tid clk
    obtain ⟨ts, hsub, hb, hadm⟩ := ih (s.step tid clk) hok
    rw [DoSys.exec, List.map_cons, hb, hadm]
    rcases hcase with ⟨e1, e2⟩ | ⟨e1, e2⟩
    · refine ⟨ts, List.Sublist.cons _ hsub, by rw [e1], ?_⟩
      rw [e1, DoSys.admitted, e2]
      rfl
    · refine ⟨clk :: ts, List.Sublist.cons_cons _ hsub, by rw [e1]; rfl, ?_⟩
      rw [e1, DoSys.admitted, e2, List.filter_cons]
      show _ = OB.admittedEv.go (s.b.call clk).1 (ts.map .call)
        (if (s.b.call clk).2 = true then clk :: s.admitted else s.admitted)
      cases (s.b.call clk).2 <;> rfl

theorem start_ok (b : OB) (calls : List Nat) : ThreadsOK (DoSys.start b calls) := by
  intro th hth
  obtain ⟨n, _, rfl⟩ := List.mem_map.mp hth
  exact Or.inl rfl

/-! ## arrival patterns -/

theorem pollEvery_length (t0 δ n : Nat) : (pollEvery t0 δ n).length = n := by
  induction n generalizing t0 with
  | zero => rfl
  | succ n ih => simp [pollEvery, ih]

theorem pollEvery_mono (t0 δ n : Nat) : (t0 :: pollEvery t0 δ n).Pairwise (· ≤ ·) := by
  induction n generalizing t0 with
  | zero => simp [pollEvery]
  | succ n ih =>
    have := ih (t0 + δ)
    simp only [pollEvery, List.pairwise_cons] at this ⊢
    refine ⟨?_, this⟩
    intro a ha
    rcases List.mem_cons.mp ha with rfl | ha
    · omega
    · have := this.1 a ha; omega

theorem pairwise_zero_cons (l : List Nat) (h : l.Pairwise (· ≤ ·)) : ((0 : Nat) :: l).Pairwise (· ≤ ·) :=
  List.pairwise_cons.mpr ⟨fun _ _ => Nat.zero_le _, h⟩

/-! ## breakers made by `NewOutboundBreaker`

`OB.init limit interval` has `breakerTicks` zero counts, `res = interval / breakerTicks`, `updated = 0`: each by `rfl`. -/

theorem OB.init_ticks_pos (limit interval : Nat) : 0 < (OB.init limit interval).ticks :=
  (by decide : 0 < breakerTicks)

theorem OB.init_res_pos (limit : Nat) {interval : Nat} (hi : breakerTicks ≤ interval) :
    0 < (OB.init limit interval).res :=
  Nat.div_pos hi (by decide : 0 < breakerTicks)

theorem window_le_interval (limit interval : Nat) :
    (OB.init limit interval).ticks * (OB.init limit interval).res ≤ interval :=
  Nat.mul_div_le interval breakerTicks

/-- a breaker fresh from `init` is simulated by the empty ghost: its admissions can be computed there -/
theorem init_admittedEv_ghost (limit interval : Nat) (es : List BEv) :
    (OB.init limit interval).admittedEv es = ((ghost0 (OB.init limit interval)).run es).adm :=
  admittedEv_ghost _ rfl (OB.init_ticks_pos limit interval) es

/-- what `NewOutboundBreaker` accepts: `limit ≥ 1` and `interval ≥ breakerTicks` nanoseconds -/
theorem initE_some (limit interval : Int) (b : OB) (h : OB.initE limit interval = some b) :
    ∃ l i, 0 < l ∧ breakerTicks ≤ i ∧ b = OB.init l i := by
  unfold OB.initE at h
  split at h
  · cases h
  · rename_i hrej
    simp only [initRejects, Bool.or_eq_true, decide_eq_true_eq, not_or, Int.not_lt] at hrej
    refine ⟨limit.toNat, interval.toNat, by omega, ?_, (Option.some.inj h).symm⟩
    have := hrej.2
    unfold breakerTicks at this ⊢
    omega
