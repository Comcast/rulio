import RulioProofs.StateSearch
import RulioProofs.ExceptBind

/-! # Search of both states against the brute-force specification `specSearch`; `scan_*` and `hit_*` speak of `stScan` and
`stHit` (StateSearch) -/

theorem unexpired_of_noneExpired {F : List (String × Obj)} {now : Int}
    (h : ∀ e, e ∈ F → checkExpiration e.2 now = .ok false) : F.filter (fun f => unexpired f.2 now) = F := by
  apply List.filter_eq_self.2
  intro e he
  simp only [unexpired, h e he]

/-- what one stored fact contributes to `specSearch` -/
def specStep (p : Obj) : String × Obj → Except LErr (List (String × List Bs)) := fun (id, f) => do
  let bss ← matchesJ (.obj p) (.obj f)
  pure (if bss.isEmpty then [] else [(id, bss)])

theorem specSearch_eq (F : List (String × Obj)) (p : Obj) (now : Int) :
    specSearch F p now = ((F.filter (fun f => unexpired f.2 now)).mapM (specStep p)).map List.flatten := by
  simp only [specSearch, bind, Except.bind, pure, Except.pure, Except.map]
  rfl

theorem projRes_append (a b : List (String × Obj × List Bs)) : projRes (a ++ b) = projRes a ++ projRes b := by
  simp [projRes]

theorem scan_eq_mapM (F : List (String × Obj)) (p : Obj) :
    ∀ (l : List (String × Obj)), (∀ e, e ∈ l → amGet F e.1 = some e.2) → ∀ acc,
    (stScan F p (l.map (·.1)) acc).map projRes = (l.mapM (specStep p)).map (fun per => projRes acc ++ per.flatten) := by
  intro l
  induction l with
  | nil => intro _ acc; simp [stScan, Except.map, pure, Except.pure]
  | cons e r ih =>
    intro hl acc
    obtain ⟨i, f⟩ := e
    have hi : amGet F i = some f := hl (i, f) (by simp)
    have hr : ∀ e, e ∈ r → amGet F e.1 = some e.2 := fun e he => hl e (List.mem_cons_of_mem _ he)
    simp only [List.map_cons, stScan, hi, List.mapM_cons, specStep, bind, Except.bind]
    cases hm : matchesJ (.obj p) (.obj f) with
    | error e => simp [Except.map]
    | ok bss =>
      simp only [pure, Except.pure]
      rw [ih hr]
      cases r.mapM (specStep p) with
      | error e => simp [Except.map]
      | ok pers =>
        simp only [Except.map]
        by_cases hb : bss.isEmpty = true
        · simp [hb]
        · simp [hb, projRes]

/-- the specification is the scan over all keys: the linear search, literally -/
theorem scan_keys_spec {F : List (String × Obj)} {now : Int} (hk : (F.map (·.1)).Nodup)
    (hq : ∀ e, e ∈ F → checkExpiration e.2 now = .ok false) (p : Obj) :
    (stScan F p (F.map (·.1)) []).map projRes = specSearch F p now := by
  rw [specSearch_eq, unexpired_of_noneExpired hq, scan_eq_mapM F p F (fun e he => AM.amGet_of_mem_nodup hk he) []]
  cases F.mapM (specStep p) with
  | error e => rfl
  | ok pers => simp [Except.map, projRes]

theorem hit_some_iff {F : List (String × Obj)} {p : Obj} {i : String} {x : String × Obj × List Bs} :
    stHit F p i = some x ↔ ∃ fact bss, amGet F i = some fact ∧ matchesJ (.obj p) (.obj fact) = .ok bss ∧ bss ≠ [] ∧
      x = (i, fact, bss) := by
  simp only [stHit]
  constructor
  · intro h
    split at h
    · cases h
    · rename_i fact hg
      split at h
      · rename_i bss hm
        split at h
        · cases h
        · rename_i hne
          injection h with h
          exact ⟨fact, bss, hg, hm, by simpa using hne, h.symm⟩
      · cases h
  · rintro ⟨fact, bss, hg, hm, hne, rfl⟩
    simp only [hg, hm]
    have : bss.isEmpty = false := by cases bss <;> simp at hne ⊢
    simp [this]

theorem hit_fst {F : List (String × Obj)} {p : Obj} {i : String} {x} (h : stHit F p i = some x) : x.1 = i := by
  obtain ⟨_, _, _, _, _, rfl⟩ := hit_some_iff.1 h; rfl

theorem nodup_filterMap_hit {F : List (String × Obj)} {p : Obj} {l : List String} (h : l.Nodup) :
    (l.filterMap (stHit F p)).Nodup := by
  apply List.Pairwise.filterMap (stHit F p) _ h
  intro a a' hne b hb b' hb' heq
  apply hne
  rw [← hit_fst hb, ← hit_fst hb', heq]

theorem nodup_projRes_filterMap_hit {F : List (String × Obj)} {p : Obj} {l : List String} (h : l.Nodup) :
    (projRes (l.filterMap (stHit F p))).Nodup := by
  simp only [projRes, List.map_filterMap]
  apply List.Pairwise.filterMap _ _ h
  intro a a' hne b hb b' hb' heq
  apply hne
  simp only [Option.map_eq_some_iff] at hb hb'
  obtain ⟨x, hx, rfl⟩ := hb
  obtain ⟨x', hx', rfl⟩ := hb'
  rw [← hit_fst hx, ← hit_fst hx']
  exact congrArg (Prod.fst : String × List Bs → String) heq

theorem hits_perm {F : List (String × Obj)} {p : Obj} {c c' : List String} (hc : c.Nodup) (hc' : c'.Nodup)
    (h : ∀ i, (stHit F p i).isSome → (i ∈ c ↔ i ∈ c')) : (c.filterMap (stHit F p)).Perm (c'.filterMap (stHit F p)) := by
  rw [List.perm_ext_iff_of_nodup (nodup_filterMap_hit hc) (nodup_filterMap_hit hc')]
  intro x
  simp only [List.mem_filterMap]
  exact ⟨fun ⟨i, hi, hx⟩ => ⟨i, (h i (by rw [hx]; rfl)).1 hi, hx⟩, fun ⟨i, hi, hx⟩ => ⟨i, (h i (by rw [hx]; rfl)).2 hi, hx⟩⟩

/-- Where nothing is expired and the specification answers `R`, the scan over any list of candidates that has no id
twice and holds the id of every stored fact the pattern matches answers `R` up to order. The term index enters the
exactness of the indexed search through `hnd` and `hcomp` only. -/
theorem scan_exact {F : List (String × Obj)} {p : Obj} {now : Int} {R : List (String × List Bs)} {c : List String}
    (hk : (F.map (·.1)).Nodup) (hq : ∀ e, e ∈ F → checkExpiration e.2 now = .ok false)
    (hspec : specSearch F p now = .ok R) (hnd : c.Nodup)
    (hcomp : ∀ i f bss, (i, f) ∈ F → matchesJ (.obj p) (.obj f) = .ok bss → bss ≠ [] → i ∈ c) :
    stScan F p c [] = .ok (c.filterMap (stHit F p)) ∧ (projRes (c.filterMap (stHit F p))).Perm R := by
  -- the specification answers, so no stored fact makes the matcher fail
  have hok : ∀ i f, amGet F i = some f → ∃ bss, matchesJ (.obj p) (.obj f) = .ok bss := by
    intro i f hg
    rw [specSearch_eq, unexpired_of_noneExpired hq] at hspec
    cases hm : F.mapM (specStep p) with
    | error e => rw [hm] at hspec; cases hspec
    | ok pers =>
      obtain ⟨y, _, hy⟩ := mapM_ok_mem_left hm (AM.amGet_mem hg)
      cases h : matchesJ (.obj p) (.obj f) with
      | error e => simp [specStep, h, bind, Except.bind] at hy
      | ok bss => exact ⟨bss, rfl⟩
  refine ⟨scan_eq_of_ok (fun i _ => hok i) [], ?_⟩
  -- and the specification is the scan over all keys (the linear search)
  have hl := scan_keys_spec hk hq p
  rw [hspec, scan_eq_of_ok (fun i _ => hok i)] at hl
  cases hl
  refine (hits_perm hnd hk fun i hi => ?_).map _
  obtain ⟨x, hx⟩ := Option.isSome_iff_exists.1 hi
  obtain ⟨f, bss, hg, hm, hne, _⟩ := hit_some_iff.1 hx
  exact ⟨fun _ => List.mem_map.2 ⟨(i, f), AM.amGet_mem hg, rfl⟩, fun _ => hcomp i f bss (AM.amGet_mem hg) hm hne⟩

/-- the indexed search: the candidates of the term index hold every hit, since a fact the pattern lies over carries its
terms (`pmv_termsO`) -/
theorem ispec_perm_spec {s : St} {now : Int} (hk : KeysNodup s) (htiok : TIOK s) (hnd : TINodup s)
    (hne : NoneExpired s now) {p : Obj} (hterm : noVarKeysO p = true) (hsound : MatcherSoundOn s.facts p)
    {R : List (String × List Bs)} (hspec : specSearch s.facts p now = .ok R) :
    ∃ R', s.ispec p = .ok R' ∧ (projRes R').Perm R := by
  obtain ⟨c, hc⟩ := St.cands_ok s p
  rw [St.ispec, hc.eq]
  refine ⟨_, scan_exact hk hne hspec (hc.nodup hk hnd) fun i f bss hm hmj hb => hc.complete htiok hm fun t ht => ?_⟩
  obtain ⟨σ, hσ⟩ := hsound (i, f) hm bss hmj hb
  exact mem_extractTerms.2 (pmv_termsO σ p f f hterm ((pmv_obj ..).symm.trans hσ) t (mem_extractTerms.1 ht))
