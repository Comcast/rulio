import RulioProofs.MatchComplete
import RulioProofs.MatchGround

/-! # Bridges between the decidable hypotheses of `RulioModel/MatchFrag.lean` and the proof-side
predicates, what a specification binding binds (`pmv_vars`), and completeness in the form the C05 property
theorems instantiate (`complete_min`) -/

theorem scalarRepeatsIn_iff (σ : Bs) (p : J) (bs : Bs) :
    scalarRepeatsIn σ p bs = true ↔ SC σ (varsOf p) bs := by
  unfold scalarRepeatsIn critVars SC
  simp only [List.all_eq_true, List.mem_filter, Bool.or_eq_true, decide_eq_true_eq, and_imp]
  constructor
  · intro h y hy hc
    apply h y hy
    rcases hc with hc | hc
    · left; omega
    · right; exact Option.isSome_iff_ne_none.2 hc
  · intro h y hy hc
    apply h y hy
    rcases hc with hc | hc
    · left; omega
    · right; exact Option.isSome_iff_ne_none.1 hc

theorem minimalFor_iff (σ : Bs) (p : J) (bs : Bs) :
    minimalFor σ p bs = true ↔ DomLe σ bs (varsOf p) := by
  unfold minimalFor DomLe
  simp only [List.all_eq_true, Bool.or_eq_true, List.contains_eq_mem, decide_eq_true_eq]
  constructor
  · intro h k hk
    cases hg : σ.get? k with
    | none => exact absurd hg hk
    | some v =>
      have := h (k, v) (Bs.get?_mem hg)
      exact this.imp (fun h => Option.isSome_iff_ne_none.1 h) id
  · intro h kv hkv
    have := h kv.1 (Bs.mem_get? (v := kv.2) hkv)
    exact this.imp (fun h => Option.isSome_iff_ne_none.2 h) id

theorem mem_varsOfO_const {y : String} : ∀ {kvs : List (String × J)}, (∀ kv ∈ kvs, isVar kv.1 = false) →
    (y ∈ varsOfO kvs ↔ ∃ kv ∈ kvs, y ∈ varsOf kv.2)
  | [], _ => by simp [varsOfO]
  | (k, v) :: r, hk => by
      obtain ⟨hk0, hkr⟩ := List.forall_mem_cons.1 hk
      rw [varsOfO_cons_const hk0, List.mem_append, mem_varsOfO_const hkr]
      simp only [List.mem_cons, exists_eq_or_imp]

/-- A specification binding binds every variable of the pattern, to the sub-value of the datum at its position;
`G` is any property of data that the values of a map and the elements of an array inherit. -/
theorem pmv_vars {G : J → Prop} (hobj : ∀ {fm k fv}, G (.obj fm) → lookupKey k fm = some fv → G fv)
    (harr : ∀ {fa y}, G (.arr fa) → y ∈ fa → G y) {σ : Bs} : ∀ (p : J), patOK p = true → ∀ d,
    pmv σ p d = true → G d → ∀ y ∈ varsOf p, ∃ w, σ.get? y = some w ∧ G w :=
  pmv_induct (C := fun p d => G d → ∀ y ∈ varsOf p, ∃ w, σ.get? y = some w ∧ G w) patOK_kobj patOK_karr
    (fun x hx hv _ y hy => by rw [varsOf_scalar_const hx hv] at hy; cases hy)
    (fun s d hs h hd y hy => by
      by_cases hq : s = "?"
      · subst hq; rw [varsOf_anon] at hy; cases hy
      · rw [varsOf_var hs hq] at hy
        rw [List.mem_singleton.1 hy]
        exact ⟨d, (pmStr_var_iff hs hq).1 h, hd⟩)
    (fun xs ds ds' hf hs hd y hy => by
      rw [varsOf_arr] at hy
      obtain ⟨x, hx, hyx⟩ := mem_varsOfL.1 hy
      obtain ⟨dx, hdx, _, hc⟩ := forall₂_exists_right hf x hx
      exact hc (harr hd (hs.subset hdx)) y hyx)
    (fun kvs dm hk h hd y hy => by
      rw [varsOf_obj] at hy
      obtain ⟨kv, hkv, hykv⟩ := (mem_varsOfO_const (fun kv hkv => (patOK_kobj hk kv hkv).1)).1 hy
      obtain ⟨dv, hl, _, hc⟩ := h kv hkv
      exact hc (hobj hd hl) y hykv)

theorem dataOK_ground : ∀ (d : J), dataOK d = true → d.ground = true := by
  intro d
  induction d using J.ind' with
  | hnull => intro _; simp [J.ground]
  | hbool b => intro _; simp [J.ground]
  | hnum n => intro _; simp [J.ground]
  | hstr s => intro h; simpa [J.ground, dataOK] using h
  | harr xs ih =>
    intro h
    simp only [dataOK, Bool.and_eq_true] at h
    have := dataOKL_iff.1 h.2
    simp only [J.ground]
    exact groundL_iff.2 (fun x hx => ih x hx (this x hx))
  | hobj kvs ih =>
    intro h
    simp only [dataOK] at h
    have := dataOKO_iff.1 h
    simp only [J.ground]
    exact groundO_iff.2 (fun kv hkv => ⟨(this kv hkv).1, ih kv hkv (this kv hkv).2⟩)

theorem Bs.same_of_ext {σ' σ : Bs} (he : σ'.Ext σ) (hd : ∀ k, σ.get? k ≠ none → σ'.get? k ≠ none) :
    ∀ k, σ'.get? k = σ.get? k := by
  intro k
  cases hg : σ'.get? k with
  | some v => exact (he k v hg).symm
  | none =>
    cases hs : σ.get? k with
    | none => rfl
    | some w => exact absurd hg (hd k (by simp [hs]))

theorem crit_of_SC {τ b : Bs} {vs : List String} (h : SC τ vs b) : Crit (fun w => Agree w w) τ vs b :=
  (SC_iff_crit.1 h).imp (fun w hw => by unfold Agree; rw [gmatch_scalar hw]; simp)

/-- **Completeness, general form.** A specification binding `σ` that is minimal and binds the critical variables
to values that agree with themselves is returned, up to equality as a finite map: some returned binding lies
below it (`completeJ`), and a returned binding binds all the incoming bindings and all variables of the pattern. -/
theorem complete_min {p d : J} {bs : Bs} {bss : List Bs} {σ : Bs} (hp : patOK p = true) (hd : dataOK d = true)
    (hr : matchJ p d bs = .ok bss) (hext : bs.Ext σ) (hpm : pmv σ p d = true) (hmin : DomLe σ bs (varsOf p))
    (hcrit : Crit (fun w => Agree w w) σ (varsOf p) bs) : ∃ σ' ∈ bss, ∀ k, σ'.get? k = σ.get? k := by
  obtain ⟨σ', hσ', hσ'σ⟩ := completeJ σ p hp d bs bss hd hr hext hcrit hpm
  obtain ⟨hB, _⟩ := runJ p hp d bs bss σ' hr hσ'
  exact ⟨σ', hσ', Bs.same_of_ext hσ'σ fun k hk => (hmin k hk).elim (ext_bound hB.ext) (hB.bound k)⟩
