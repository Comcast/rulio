import RulioModel.LocInv
import RulioProofs.StateBasic
import RulioProofs.LocMonad

namespace LocP

/-! # The guards of a location are pure reads (as long as the property facts they read are not expired)

Under `open LocP` the `NoneExpired` of StateInv is written `_root_.NoneExpired`: LocInv has a `LocP.NoneExpired` of its own. -/

theorem freshAt_of_b {s : St} {id : String} {now : Int} (h : freshAtB s id now = true) : FreshAt s id now := by
  intro f hf hc
  simp [freshAtB, hf, hc] at h

theorem guardFresh_of_b {s : St} {now : Int} (h : guardFreshB s now = true) : GuardFresh s now := by
  simp only [guardFreshB, Bool.and_eq_true] at h
  exact ⟨freshAt_of_b h.1.1, freshAt_of_b h.1.2, freshAt_of_b h.2⟩

/-- what `State.Get` answers when nothing has to be purged -/
def getPure (s : St) (id : String) (now : Int) : Except LErr Obj :=
  match amGet s.facts id with
  | none => .error "notFound"
  | some f =>
    match checkExpiration f now with
    | .error e => .error e
    | .ok true => .error "notFound"
    | .ok false => .ok f

theorem _root_.St.get_eq_of_fresh {s : St} {id : String} {now : Int} (h : FreshAt s id now) :
    s.get id now = (s, getPure s id now) := by
  rw [St.get_eq, getPure]
  cases hg : amGet s.facts id with
  | none => rfl
  | some f =>
    simp only []
    cases hc : checkExpiration f now with
    | error e => rfl
    | ok b =>
      cases b with
      | false => rfl
      | true => exact absurd hc (h f hg)

/-- `getProp` as a function of what `Get` answered -/
def getPropPure (r : Except LErr Obj) (prop : String) (dflt : J) : Except LErr (J × Bool) :=
  match r with
  | .error e => if e = "notFound" then .ok (dflt, false) else .error e
  | .ok fact =>
    match fact.get? ("!" ++ prop) with
    | some v => .ok (v, true)
    | none => .error "missingProp"

/-- `getProp` in any state: the state is what `Get` leaves, the answer a function of what `Get` answers -/
theorem getProp_run (id prop : String) (dflt : J) (now : Int) (l : Loc) :
    getProp id prop dflt now l =
      ({ l with st := (l.st.get (genPropId id prop) now).1 },
        getPropPure (l.st.get (genPropId id prop) now).2 prop dflt) := by
  simp only [getProp, bind, LM.bind, LM.attempt, stGet, LM.liftSt, getPropPure]
  rcases l.st.get (genPropId id prop) now with ⟨s', e | fact⟩
  · by_cases he : e = "notFound"
    · subst he; rfl
    · simp only [he, if_false]; rfl
  · simp only []
    cases fact.get? ("!" ++ prop) <;> rfl

theorem getProp_eq {l : Loc} {id prop : String} {dflt : J} {now : Int}
    (h : FreshAt l.st (genPropId id prop) now) :
    getProp id prop dflt now l = (l, getPropPure (getPure l.st (genPropId id prop) now) prop dflt) := by
  rw [getProp_run, St.get_eq_of_fresh h]

theorem getPropStringD_eq {l : Loc} {prop : String} {now : Int} (h : FreshAt l.st (genPropId "" prop) now) :
    getPropStringD prop now l = (l, .ok (propStr l.st prop now)) := by
  simp only [getPropStringD, bind, LM.bind, LM.attempt, getProp_eq h, getPropPure, getPure, propStr]
  cases hg : amGet l.st.facts (genPropId "" prop) with
  | none => simp [pure, LM.pure]
  | some f =>
    simp only []
    cases hc : checkExpiration f now with
    | error e =>
      simp only []
      by_cases he : e = "notFound" <;> simp [he, pure, LM.pure]
    | ok b =>
      cases b with
      | true => simp [pure, LM.pure]
      | false =>
        simp only []
        cases hv : f.get? ("!" ++ prop) with
        | none => simp [pure, LM.pure]
        | some v => cases v <;> simp [pure, LM.pure]

theorem enabled_eq {l : Loc} {now : Int} (h : FreshAt l.st (genPropId "" "enabled") now) (c : Ctx) :
    enabled now l = (l, guardVerdict c now l .enabled) :=
  (LM.bind_of_ok (getPropStringD_eq h)).trans (LM.test_eq _ _ l)

theorem checkWrite_eq {l : Loc} {now : Int} (h : FreshAt l.st (genPropId "" "writeKey") now) (c : Ctx) :
    checkWrite c now l = (l, guardVerdict c now l .checkWrite) := by
  show (if l.readOnly then LM.fail "readOnly" else _) l = (l, if l.readOnly then _ else _)
  cases l.readOnly
  · exact (LM.bind_of_ok (getPropStringD_eq h)).trans (LM.test_eq _ _ l)
  · rfl

theorem checkRead_eq {l : Loc} {now : Int} (h : FreshAt l.st (genPropId "" "readKey") now) (c : Ctx) :
    checkRead c now l = (l, guardVerdict c now l .checkRead) :=
  (LM.bind_of_ok (getPropStringD_eq h)).trans (LM.test_eq _ _ l)

theorem atCapacity_eq (l : Loc) (c : Ctx) (now : Int) :
    atCapacity l = (l, guardVerdict c now l .atCapacity) := by
  simp only [atCapacity, bind, LM.bind, LM.get, guardVerdict, capFull]
  by_cases h : l.maxFacts ≤ l.st.count <;> simp [h, LM.fail, pure, LM.pure]

theorem runGuard_eq {l : Loc} {now : Int} (h : GuardFresh l.st now) (c : Ctx) (g : Guard) :
    runGuard c now g l = (l, guardVerdict c now l g) := by
  cases g
  · exact enabled_eq h.1 c
  · exact checkRead_eq h.2.2 c
  · exact checkWrite_eq h.2.1 c
  · exact atCapacity_eq l c now

theorem runGuards_eq {l : Loc} {now : Int} (h : GuardFresh l.st now) (c : Ctx) (gs : List Guard) :
    runGuards c now gs l = (l, guardsVerdict c now l gs) := by
  induction gs with
  | nil => rfl
  | cons g gs ih =>
    simp only [runGuards, bind, LM.bind, runGuard_eq h c g, guardsVerdict]
    cases guardVerdict c now l g with
    | ok u => simpa using ih
    | error e => rfl

theorem guarded_eq {α} {l : Loc} {now : Int} (h : GuardFresh l.st now) (c : Ctx) (gs : List Guard) (body : LM α) :
    (runGuards c now gs >>= fun _ => body) l =
      match guardsVerdict c now l gs with
      | .ok _ => body l
      | .error e => (l, .error e) := by
  simp only [bind, LM.bind, runGuards_eq h c gs]
  cases guardsVerdict c now l gs <;> rfl

/-! ## the methods and their guards

`guardsOf` is a match on strings, and every evaluation of it decodes all the literals. The proofs need to know which
method, never its name: the methods are an enumeration, with the table written over it and tied to `guardsOf` by one
evaluation (`Meth.guardsOf_name`); what is decided afterwards is decided on constructors. -/

/-- the methods `guardsOf` has a row for -/
inductive Meth where
  | addFact | remFact | getFact | addRule | remRule | enableRule | ruleEnabled | getRule | searchFacts | searchRules
  | sysSearchRules | listRules | getParents | setParents | clear | delete | stateSize | query | runJavascript

namespace Meth

/-- in the order of `modelMethods` -/
def all : List Meth :=
  [addFact, remFact, getFact, addRule, remRule, enableRule, ruleEnabled, getRule, searchFacts, searchRules,
   sysSearchRules, listRules, getParents, setParents, clear, delete, stateSize, query, runJavascript]

/-- the name `guardsOf` knows the method by -/
def name : Meth → String
  | addFact => "AddFact" | remFact => "RemFact" | getFact => "GetFact" | addRule => "AddRule" | remRule => "RemRule"
  | enableRule => "EnableRule" | ruleEnabled => "RuleEnabled" | getRule => "GetRule" | searchFacts => "searchFacts"
  | searchRules => "searchRules" | sysSearchRules => "SearchRules" | listRules => "ListRules"
  | getParents => "GetParents" | setParents => "SetParents" | clear => "Clear" | delete => "Delete"
  | stateSize => "StateSize" | query => "Query" | runJavascript => "RunJavascript"

/-- writes run `Enabled, CheckWrite`, reads `Enabled, CheckRead`, `AddRule` also `AtCapacity`;
`AddFact` alone tests `Enabled` last; `Query` and `RunJavascript` only `Enabled` -/
def guards : Meth → List Guard
  | addFact => [.checkWrite, .atCapacity, .enabled]
  | addRule => [.enabled, .checkWrite, .atCapacity]
  | remFact | remRule | enableRule | setParents | clear | delete => [.enabled, .checkWrite]
  | getFact | ruleEnabled | getRule | searchFacts | searchRules | sysSearchRules | listRules | getParents
  | stateSize => [.enabled, .checkRead]
  | query | runJavascript => [.enabled]

theorem forall_of_all {p : Meth → Prop} (h : ∀ m ∈ all, p m) (m : Meth) : p m := by
  simp only [all, List.forall_mem_cons] at h
  cases m <;> simp only [h]

theorem names : modelMethods = all.map name := rfl

theorem guardsOf_name : ∀ m : Meth, guardsOf m.name = m.guards :=
  forall_of_all (List.map_inj_left.1 (by decide +kernel : all.map (fun m => guardsOf m.name) = all.map guards))

theorem enabled_first {m : Meth} (h : m ≠ addFact) : ∃ gs, m.guards = .enabled :: gs := by
  cases m <;> first | exact ⟨_, rfl⟩ | exact absurd rfl h

theorem enabled_mem : ∀ m : Meth, Guard.enabled ∈ m.guards := forall_of_all (by decide)

end Meth

/-- a method of the Location API: the guards of its row, then its body; `locX c … now` is
`guarded c now .x (Body.x … now)` by `rfl` -/
def guarded {α} (c : Ctx) (now : Int) (m : Meth) (body : LM α) : LM α :=
  runGuards c now (guardsOf m.name) >>= fun _ => body

theorem split_eq {α} {m : LM α} {c : Ctx} {now : Int} {gs : List Guard} {body : LM α}
    (hm : m = (runGuards c now gs >>= fun _ => body)) {l : Loc} (h : GuardFresh l.st now) :
    m l = match guardsVerdict c now l gs with
      | .ok _ => body l
      | .error e => (l, .error e) := by
  rw [hm]; exact guarded_eq h c gs body

theorem guardsVerdict_error_of_mem {c : Ctx} {now : Int} {l : Loc} {g : Guard} {e : LErr} :
    ∀ {gs : List Guard}, g ∈ gs → guardVerdict c now l g = .error e → ∃ e', guardsVerdict c now l gs = .error e'
  | g' :: gs, hm, he => by
    simp only [guardsVerdict]
    cases hv : guardVerdict c now l g' with
    | error e' => exact ⟨e', rfl⟩
    | ok u =>
      simp only []
      rcases List.mem_cons.1 hm with rfl | hm'
      · rw [he] at hv; cases hv
      · exact guardsVerdict_error_of_mem hm' he

theorem guardsVerdict_head {c : Ctx} {now : Int} {l : Loc} {g : Guard} {e : LErr} {gs : List Guard}
    (he : guardVerdict c now l g = .error e) : guardsVerdict c now l (g :: gs) = .error e := by
  simp [guardsVerdict, he]

theorem verdict_disabled {c : Ctx} {now : Int} {l : Loc} (h : Disabled l now) :
    guardVerdict c now l .enabled = .error "disabled" := by
  simp only [Disabled] at h
  have hk : enabledOK (propStr l.st propEnabled now) = false := by
    simp only [enabledOK, propEnabled]; simp [and_assoc]; simpa [and_assoc, or_assoc] using h
  simp [guardVerdict, hk]

theorem verdict_enabled {c : Ctx} {now : Int} {l : Loc} (h : ¬ Disabled l now) :
    guardVerdict c now l .enabled = .ok () := by
  simp only [Disabled, Classical.not_not] at h
  have hk : enabledOK (propStr l.st propEnabled now) = true := by
    simp only [enabledOK, propEnabled]; simp [or_assoc]; simpa [and_assoc, or_assoc] using h
  simp [guardVerdict, hk]

theorem verdict_writeDenied {c : Ctx} {now : Int} {l : Loc} (h : WriteDenied l c now) :
    ∃ e, guardVerdict c now l .checkWrite = .error e := by
  simp only [guardVerdict, keyOK, propWriteKey]
  rcases h with h | ⟨h1, h2⟩
  · exact ⟨"readOnly", by simp [h]⟩
  · cases l.readOnly
    · exact ⟨"writeDenied", by simp [h1, h2]⟩
    · exact ⟨"readOnly", by simp⟩

theorem verdict_writeOK {c : Ctx} {now : Int} {l : Loc} (h : ¬ WriteDenied l c now) :
    guardVerdict c now l .checkWrite = .ok () := by
  simp only [WriteDenied, not_or, not_and, Bool.not_eq_true] at h
  simp only [guardVerdict, keyOK, propWriteKey, h.1]
  by_cases hk : propStr l.st "writeKey" now = ""
  · simp [hk]
  · have := h.2 hk; simp at this; simp [this]

theorem verdict_readDenied {c : Ctx} {now : Int} {l : Loc} (h : ReadDenied l c now) :
    guardVerdict c now l .checkRead = .error "readDenied" := by
  simp only [guardVerdict, keyOK, propReadKey]
  simp [h.1, h.2]

theorem verdict_readOK {c : Ctx} {now : Int} {l : Loc} (h : ¬ ReadDenied l c now) :
    guardVerdict c now l .checkRead = .ok () := by
  simp only [ReadDenied, not_and] at h
  simp only [guardVerdict, keyOK, propReadKey]
  by_cases hk : propStr l.st "readKey" now = ""
  · simp [hk]
  · have := h hk; simp at this; simp [this]

theorem verdict_capacity {c : Ctx} {now : Int} {l : Loc} :
    guardVerdict c now l .atCapacity = if l.maxFacts ≤ l.st.count then .error "capacity" else .ok () := by
  simp [guardVerdict, capFull]

/-- with the right keys on an enabled location only the capacity test can refuse -/
theorem guardsVerdict_transparent {c : Ctx} {now : Int} {l : Loc}
    (he : ¬ Disabled l now) (hw : ¬ WriteDenied l c now) (hr : ¬ ReadDenied l c now) (gs : List Guard) :
    guardsVerdict c now l gs = capacityResult l gs := by
  induction gs with
  | nil => simp [guardsVerdict, capacityResult]
  | cons g gs ih =>
    simp only [guardsVerdict]
    cases g with
    | enabled => rw [verdict_enabled he]; simp only [ih, capacityResult]; simp
    | checkRead => rw [verdict_readOK hr]; simp only [ih, capacityResult]; simp
    | checkWrite => rw [verdict_writeOK hw]; simp only [ih, capacityResult]; simp
    | atCapacity =>
      rw [verdict_capacity]
      by_cases hc : l.maxFacts ≤ l.st.count
      · simp [hc, capacityResult]
      · simp [hc, ih, capacityResult]

/-! ## what a guarded method does, for every method -/

section
variable {l : Loc} {c : Ctx} {now : Int}

theorem runGuards_name (h : GuardFresh l.st now) (m : Meth) :
    runGuards c now (guardsOf m.name) l = (l, guardsVerdict c now l m.guards) := by
  rw [m.guardsOf_name, runGuards_eq h]

theorem guarded_run {α} (h : GuardFresh l.st now) (m : Meth) (body : LM α) :
    guarded c now m body l =
      match guardsVerdict c now l m.guards with
      | .ok _ => body l
      | .error e => (l, .error e) := by
  rw [guarded, m.guardsOf_name]; exact guarded_eq h c _ body

theorem guarded_error {α} (h : GuardFresh l.st now) {m : Meth} {e : LErr} (hv : guardsVerdict c now l m.guards = .error e)
    (body : LM α) : guarded c now m body l = (l, .error e) := by
  rw [guarded_run h, hv]

theorem guarded_ok {α} (h : GuardFresh l.st now) {m : Meth} {body : LM α} {l' : Loc} {a : α}
    (hr : guarded c now m body l = (l', .ok a)) : body l = (l', .ok a) := by
  rw [guarded_run h] at hr
  split at hr
  · exact hr
  · cases hr

theorem Meth.verdict_refused (hr : WriteDenied l c now ∨ Disabled l now) {m : Meth}
    (hm : Guard.enabled ∈ m.guards ∧ Guard.checkWrite ∈ m.guards) : ∃ e, guardsVerdict c now l m.guards = .error e := by
  rcases hr with hw | hd
  · obtain ⟨e, he⟩ := verdict_writeDenied hw
    exact guardsVerdict_error_of_mem hm.2 he
  · exact guardsVerdict_error_of_mem hm.1 (verdict_disabled (c := c) hd)

theorem Meth.verdict_readDenied (hr : ReadDenied l c now) {m : Meth} (hm : m.guards = [.enabled, .checkRead]) :
    guardsVerdict c now l m.guards = .error (if Disabled l now then "disabled" else "readDenied") := by
  rw [hm]
  by_cases hd : Disabled l now
  · simp only [hd, if_true, guardsVerdict_head (verdict_disabled hd)]
  · simp only [hd, if_false, guardsVerdict, verdict_enabled hd, LocP.verdict_readDenied hr]

theorem Meth.verdict_disabled (hd : Disabled l now) {m : Meth} (hm : m ≠ .addFact) :
    guardsVerdict c now l m.guards = .error "disabled" := by
  obtain ⟨gs, hg⟩ := Meth.enabled_first hm
  rw [hg, guardsVerdict_head (LocP.verdict_disabled hd)]

theorem guarded_transparent {α} (hf : GuardFresh l.st now) (he : ¬ Disabled l now) (hw : ¬ WriteDenied l c now)
    (hr : ¬ ReadDenied l c now) (m : Meth) (body : LM α) (hc : Guard.atCapacity ∉ m.guards ∨ l.st.count < l.maxFacts) :
    guarded c now m body l = body l := by
  rw [guarded_run hf, guardsVerdict_transparent he hw hr, capacityResult, if_neg]
  exact fun h => hc.elim (absurd h.1) fun h' => Nat.not_le.2 h' h.2

end

end LocP
