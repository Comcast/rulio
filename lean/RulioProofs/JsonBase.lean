import RulioProofs.AssocMap

/-! # The JSON type: induction over nested values, lawful equality (`J.decEq` for proofs that evaluate), key lookup; the
list and map halves of the hereditary Boolean predicates (`listAll_iff`, `keyedAll_iff`), distinct keys (`keysNodup_of`);
`isVar` on the names of the test vectors -/

mutual
theorem J.ind' {P : J → Prop} (hnull : P .null) (hbool : ∀ b, P (.bool b)) (hnum : ∀ n, P (.num n))
    (hstr : ∀ s, P (.str s)) (harr : ∀ xs, (∀ x ∈ xs, P x) → P (.arr xs))
    (hobj : ∀ kvs : List (String × J), (∀ kv ∈ kvs, P kv.2) → P (.obj kvs)) : ∀ j, P j
  | .null => hnull
  | .bool b => hbool b
  | .num n => hnum n
  | .str s => hstr s
  | .arr xs => harr xs (J.indL hnull hbool hnum hstr harr hobj xs)
  | .obj kvs => hobj kvs (J.indO hnull hbool hnum hstr harr hobj kvs)
theorem J.indL {P : J → Prop} (hnull : P .null) (hbool : ∀ b, P (.bool b)) (hnum : ∀ n, P (.num n))
    (hstr : ∀ s, P (.str s)) (harr : ∀ xs, (∀ x ∈ xs, P x) → P (.arr xs))
    (hobj : ∀ kvs : List (String × J), (∀ kv ∈ kvs, P kv.2) → P (.obj kvs)) : ∀ xs : List J, ∀ x ∈ xs, P x
  | [] => fun _ h => nomatch h
  | y :: ys => List.forall_mem_cons.2
      ⟨J.ind' hnull hbool hnum hstr harr hobj y, J.indL hnull hbool hnum hstr harr hobj ys⟩
theorem J.indO {P : J → Prop} (hnull : P .null) (hbool : ∀ b, P (.bool b)) (hnum : ∀ n, P (.num n))
    (hstr : ∀ s, P (.str s)) (harr : ∀ xs, (∀ x ∈ xs, P x) → P (.arr xs))
    (hobj : ∀ kvs : List (String × J), (∀ kv ∈ kvs, P kv.2) → P (.obj kvs)) :
    ∀ kvs : List (String × J), ∀ kv ∈ kvs, P kv.2
  | [] => fun _ h => nomatch h
  | (_, y) :: ys => List.forall_mem_cons.2
      ⟨J.ind' hnull hbool hnum hstr harr hobj y, J.indO hnull hbool hnum hstr harr hobj ys⟩
end

/-- A Boolean predicate on lists with the equations of `List.all f` is `List.all f`: the list halves of the mutual
predicates on `J` (`patOKL`, `dataOKL`, `groundL`, …). -/
theorem listAll_iff {α : Type} {f : α → Bool} {fL : List α → Bool} (h0 : fL [] = true)
    (h1 : ∀ x xs, fL (x :: xs) = (f x && fL xs)) : ∀ {xs : List α}, fL xs = true ↔ ∀ x ∈ xs, f x = true
  | [] => by simp [h0]
  | x :: xs => by rw [h1, Bool.and_eq_true, listAll_iff h0 h1 (xs := xs), List.forall_mem_cons]

/-- the same for the map halves that also ask every key to be a constant (`dataOKO`, `groundO`, `noVarKeysO`, `evOKO`,
`idxOKO`) -/
theorem keyedAll_iff {f : J → Bool} {fO : List (String × J) → Bool} (h0 : fO [] = true)
    (h1 : ∀ k v r, fO ((k, v) :: r) = (!isVar k && f v && fO r)) {kvs : List (String × J)} :
    fO kvs = true ↔ ∀ kv ∈ kvs, isVar kv.1 = false ∧ f kv.2 = true :=
  (listAll_iff (f := fun kv : String × J => !isVar kv.1 && f kv.2) h0 (fun ⟨_, _⟩ _ => h1 ..)).trans
    (forall₂_congr fun _ _ => by rw [Bool.and_eq_true, Bool.not_eq_true'])

/-- pairwise distinct keys, for a Boolean test with the equations of `distinctKeys` (matcher data) and `nodupKeys`
(index patterns) -/
theorem keysNodup_of {fK : List (String × J) → Bool}
    (h1 : ∀ k v r, fK ((k, v) :: r) = (!(r.any (fun kv => kv.1 == k)) && fK r)) :
    ∀ {l : List (String × J)}, fK l = true → (l.map (·.1)).Nodup
  | [], _ => .nil
  | (k, v) :: r, h => by
    simp only [h1, Bool.and_eq_true, Bool.not_eq_true', List.any_eq_false, beq_iff_eq] at h
    simp only [List.map_cons, List.nodup_cons, List.mem_map, not_exists, not_and]
    exact ⟨fun kv hkv hk => h.1 kv hkv hk, keysNodup_of h1 h.2⟩

theorem J.beqL_eq_of : ∀ {xs : List J}, (∀ x ∈ xs, ∀ b, J.beq x b = true ↔ x = b) →
    ∀ ys, J.beqL xs ys = true ↔ xs = ys
  | [], _, [] => by simp [J.beqL]
  | [], _, _ :: _ => by simp [J.beqL]
  | _ :: _, _, [] => by simp [J.beqL]
  | x :: xs, ih, y :: ys => by
      have ih' := List.forall_mem_cons.1 ih
      simp [J.beqL, ih'.1 y, J.beqL_eq_of ih'.2 ys]

theorem J.beqO_eq_of : ∀ {xs : List (String × J)}, (∀ kv ∈ xs, ∀ b, J.beq kv.2 b = true ↔ kv.2 = b) →
    ∀ ys, J.beqO xs ys = true ↔ xs = ys
  | [], _, [] => by simp [J.beqO]
  | [], _, _ :: _ => by simp [J.beqO]
  | _ :: _, _, [] => by simp [J.beqO]
  | (k, x) :: xs, ih, (l, y) :: ys => by
      have ih' := List.forall_mem_cons.1 ih
      simp [J.beqO, ih'.1 y, J.beqO_eq_of ih'.2 ys, and_assoc]

theorem J.beq_eq : ∀ (a b : J), J.beq a b = true ↔ a = b := by
  intro a
  induction a using J.ind' with
  | hnull => intro b; cases b <;> simp [J.beq]
  | hbool x => intro b; cases b <;> simp [J.beq]
  | hnum x => intro b; cases b <;> simp [J.beq]
  | hstr x => intro b; cases b <;> simp [J.beq]
  | harr xs ih => intro b; cases b <;> simp [J.beq, J.beqL_eq_of ih]
  | hobj xs ih => intro b; cases b <;> simp [J.beq, J.beqO_eq_of ih]

theorem J.beqL_eq : ∀ (a b : List J), J.beqL a b = true ↔ a = b :=
  fun _ => J.beqL_eq_of fun x _ => J.beq_eq x
theorem J.beqO_eq : ∀ (a b : List (String × J)), J.beqO a b = true ↔ a = b :=
  fun _ => J.beqO_eq_of fun kv _ => J.beq_eq kv.2

instance : LawfulBEq J where
  eq_of_beq {a b} h := (J.beq_eq a b).1 h
  rfl {a} := (J.beq_eq a a).2 rfl

/-- `J.beq` decides equality.  Not an instance: a proof that evaluates with `decide` on values of `J` switches it on
with `attribute [local instance]`. -/
@[instance_reducible] def J.decEq : DecidableEq J := fun a b => decidable_of_iff _ (J.beq_eq a b)

theorem isVar_anon : isVar "?" = true := by decide +kernel

/-! the variable and key names of the test vectors (`Props/C05.lean`, `QueryExamples`, `EventsExamples`) -/
theorem isVar_qx : isVar "?x" = true := by simp [isVar]
theorem isVar_qy : isVar "?y" = true := by simp [isVar]
theorem isVar_a : isVar "a" = false := by simp [isVar]
theorem isVar_b : isVar "b" = false := by simp [isVar]

theorem lookupKey_mem {k : String} {v : J} {l : List (String × J)} (h : lookupKey k l = some v) : (k, v) ∈ l :=
  AM.amGet_mem ((lookupKey_eq_amGet l k).symm.trans h)
