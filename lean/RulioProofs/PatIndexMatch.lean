import RulioProofs.PatIndexSearch
import RulioProofs.PmvEqns

/-! # Pattern index: a pattern that lies over an event embeds in it, so the search finds it (C01) -/

open List

namespace PI

/-- the path of `A ++ B` from those of `A` and `B` (`path_append`): defined when both are -/
def pathCat (a b : Option (List Edge)) : Option (List Edge) :=
  match a, b with
  | some x, some y => some (x ++ y)
  | _, _ => none

theorem pathCat_map_left (f : List Edge → List Edge) (hf : ∀ x y, f x ++ y = f (x ++ y)) (a b) :
    pathCat (a.map f) b = (pathCat a b).map f := by
  cases a <;> cases b <;> simp [pathCat, hf]

theorem path_append (A B : List (String × J)) : path (A ++ B) = pathCat (path A) (path B) := by
  induction A using path.induct with
  | case1 => rw [path_nil, List.nil_append]; cases path B <;> rfl
  | case2 k v A x hc ih =>
    rw [List.cons_append, path_cons_s _ hc, path_cons_s _ hc, ih, pathCat_map_left]; intros; rfl
  | case3 k v A hc ih =>
    rw [List.cons_append, path_cons_v _ hc, path_cons_v _ hc, ih, pathCat_map_left]; intros; rfl
  | case4 k v A kvs hc ih =>
    rw [List.cons_append, path_cons_m _ hc, path_cons_m _ hc, ← List.append_assoc, ih, pathCat_map_left]
    intros; rfl
  | case5 k v A xs hc e hs =>
    rw [List.cons_append, path_cons_a_err _ hc hs, path_cons_a_err _ hc hs]; rfl
  | case6 k v A xs hc sorted hs ih =>
    rw [List.cons_append, path_cons_a_ok _ hc hs, path_cons_a_ok _ hc hs, ← List.append_assoc, ih]

theorem Emb.skip_many {π : List Edge} {E : List (String × J)} (h : Emb π E) : ∀ A, Emb π (A ++ E)
  | [] => h
  | kv :: A => .skip _ kv _ (Emb.skip_many h A)

theorem Emb.append {π1 : List Edge} {E1 : List (String × J)} (h1 : Emb π1 E1) :
    ∀ {π2 : List Edge} {E2 : List (String × J)}, Emb π2 E2 → Emb (π1 ++ π2) (E1 ++ E2) := by
  induction h1 with
  | done E => intro π2 E2 h2; exact h2.skip_many E
  | skip π kv E _ ih => intro π2 E2 h2; exact .skip _ kv _ (ih h2)
  | const k v x π E hc _ ih => intro π2 E2 h2; exact .const k v x _ _ hc (ih h2)
  | var k v π E E' hap _ ih =>
    intro π2 E2 h2
    refine .var k v _ _ (E' ++ E2) ?_ (ih h2)
    rw [afterPair_prepends] at hap ⊢
    obtain ⟨A, hA, rfl⟩ := Option.map_eq_some_iff.1 hap
    rw [hA, Option.map_some, List.append_assoc]; rfl
  | mapIn k kvs π E _ ih =>
    intro π2 E2 h2
    refine .mapIn k kvs _ _ ?_
    have := ih h2
    rwa [List.append_assoc] at this
  | mapStay k kvs π E _ ih => intro π2 E2 h2; exact .mapStay k kvs _ _ (ih h2)
  | expand k xs sorted π E hs _ ih =>
    intro π2 E2 h2
    refine .expand k xs sorted _ _ hs ?_
    have := ih h2
    rwa [List.append_assoc] at this

theorem pmO_nil (σ : Bs) (dm rest : List (String × J)) : pmO σ [] dm rest = true := _root_.pmO_nil σ dm rest
theorem pmA_nil (σ : Bs) (ds : List J) : pmA σ [] ds = true := _root_.pmA_nil σ ds

/-- `pmv_scalar_const` under the index's name for the variable test: `isVarJ` is `isVarElem` (same equations) -/
theorem pmv_const {σ : Bs} {x d : J} (hx : x.isScalar = true) (hv : isVarJ x = false)
    (h : pmv σ x d = true) : d = x :=
  (pmv_scalar_const hx (by rintro s rfl; exact hv) d).1 h

/-! ## one pattern pair over one event pair -/

/-- the pattern pair `(k, v)` has a path, and that path followed by any embedded continuation embeds in
the event pair `(k, dv)` followed by the continuation's pairs -/
def EmbPair (k : String) (v dv : J) : Prop :=
  ∃ π1, path [(k, v)] = some π1 ∧ ∀ π2 E3, Emb π2 E3 → Emb (π1 ++ π2) ((k, dv) :: E3)

theorem embPair_var {k : String} {v dv : J} (hk : isVar k = false) (hc : picast v = .v)
    (hd : evOKv dv = true) : EmbPair k v dv := by
  obtain ⟨A, -, hA⟩ := afterPair_ev hk hd
  exact ⟨[.str k, .var], by rw [path_cons_v _ hc, path_nil]; simp [hk],
    fun π2 E3 h => .var k dv π2 E3 _ (hA E3) (h.skip_many A)⟩

/-- sorted pattern pairs over sorted event pairs: every pattern pair finds its event pair further right -/
theorem emb_sorted : ∀ (P E : List (String × J)),
    P.Pairwise (fun a b => ¬ b.1 < a.1) → (P.map (·.1)).Nodup → E.Pairwise (fun a b => ¬ b.1 < a.1) →
    (∀ kv ∈ P, ∃ dv, (kv.1, dv) ∈ E ∧ EmbPair kv.1 kv.2 dv) →
    ∃ π, path P = some π ∧ Emb π E
  | [], E, _, _, _, _ => ⟨[], path_nil, .done E⟩
  | (k, v) :: P, E, hP, hnd, hE, H => by
    obtain ⟨dv, hmem, π1, hπ1, hemb⟩ := H (k, v) List.mem_cons_self
    obtain ⟨E1, E3, rfl⟩ := List.append_of_mem hmem
    obtain ⟨hP1, hP2⟩ := List.pairwise_cons.1 hP
    simp only [List.map_cons, List.nodup_cons] at hnd
    obtain ⟨hE1, hE2, hE12⟩ := List.pairwise_append.1 hE
    obtain ⟨hE3a, hE3⟩ := List.pairwise_cons.1 hE2
    have H' : ∀ kv ∈ P, ∃ dv, (kv.1, dv) ∈ E3 ∧ EmbPair kv.1 kv.2 dv := by
      intro kv hkv
      obtain ⟨dv', hmem', hep⟩ := H kv (List.mem_cons_of_mem _ hkv)
      refine ⟨dv', ?_, hep⟩
      have hne : kv.1 ≠ k := fun h => hnd.1 (h ▸ List.mem_map_of_mem (f := (·.1)) hkv)
      rcases List.mem_append.1 hmem' with h | h
      · -- an event pair left of `(k, dv)` with a key right of `k` in the pattern: the keys coincide
        have h1 : ¬ k < kv.1 := hE12 _ h (k, dv) List.mem_cons_self
        have h2 : ¬ kv.1 < k := hP1 kv hkv
        exact absurd (String.le_antisymm (String.not_lt.1 h1) (String.not_lt.1 h2)) hne
      · rcases List.mem_cons.1 h with h | h
        · exact absurd (congrArg Prod.fst h) hne
        · exact h
    obtain ⟨π', hπ', hemb'⟩ := emb_sorted P E3 hP2 hnd.2 hE3 H'
    refine ⟨π1 ++ π', ?_, ?_⟩
    · have := path_append [(k, v)] P
      rw [List.singleton_append] at this
      rw [this, hπ1, hπ']; rfl
    · exact (hemb π' E3 hemb').skip_many E1

theorem emb_map (σ : Bs) {pm em : List (String × J)} (hnd : nodupKeys pm = true) (hpm : idxOKO pm = true)
    (hem : evOKO em = true) (hm : pmO σ pm em em = true)
    (IH : ∀ kv ∈ pm, ∀ dv, evOKv dv = true → pmv σ kv.2 dv = true → EmbPair kv.1 kv.2 dv) :
    ∃ π, path (mapToPairs pm) = some π ∧ Emb π (mapToPairs em) := by
  have hpp := mapToPairs_perm pm
  have hpe := mapToPairs_perm em
  apply emb_sorted _ _ (mapToPairs_sorted pm) _ (mapToPairs_sorted em)
  · intro kv hkv
    have hkv' : kv ∈ pm := hpp.mem_iff.1 hkv
    obtain ⟨dv, hl, hpmv⟩ := (pmO_const_iff σ em pm em (fun kv hkv => (idxOKO_mem hpm kv hkv).1)).1 hm kv hkv'
    have hmem := lookupKey_mem hl
    exact ⟨dv, hpe.mem_iff.2 hmem, IH kv hkv' dv (evOKO_iff.1 hem _ hmem).2 hpmv⟩
  · exact ((hpp.map (·.1)).nodup_iff).2 (nodupKeys_nodup hnd)

/-! ## arrays of constants -/

/-- the edges of the pairs `(k, x)` for scalar constants `x` -/
def cedges (k : String) : List J → List Edge
  | [] => []
  | x :: xs => (match picast x with | .s c => [Edge.str k, Edge.str c] | _ => []) ++ cedges k xs

theorem path_elems_consts {k : String} (hk : isVar k = false) : ∀ (l : List J),
    (∀ x ∈ l, ∃ c, picast x = .s c) → path (l.map (fun x => (k, x))) = some (cedges k l)
  | [], _ => path_nil
  | x :: l, h => by
    obtain ⟨c, hc⟩ := h x List.mem_cons_self
    rw [List.map_cons, path_cons_s _ hc, path_elems_consts hk l (fun y hy => h y (List.mem_cons_of_mem _ hy))]
    simp [cedges, hc, hk]

theorem emb_consts {k : String} {π2 : List Edge} {E3 : List (String × J)} (h2 : Emb π2 E3) :
    ∀ {l ys : List J}, l <+ ys → (∀ x ∈ l, ∃ c, picast x = .s c) →
    Emb (cedges k l ++ π2) (ys.map (fun x => (k, x)) ++ E3) := by
  intro l ys hsub
  induction hsub with
  | slnil => intro _; exact h2
  | cons a _ ih => intro h; exact .skip _ _ _ (ih h)
  | cons_cons a _ ih =>
    intro h
    obtain ⟨c, hc⟩ := h a List.mem_cons_self
    simp only [cedges, hc, List.map_cons, List.cons_append, List.nil_append]
    exact .const k a c _ _ hc (ih (fun y hy => h y (List.mem_cons_of_mem _ hy)))

theorem pmA_subperm (σ : Bs) : ∀ (xs ys : List J), (∀ x ∈ xs, x.isScalar = true ∧ isVarJ x = false) →
    pmA σ xs ys = true → xs <+~ ys
  | [], ys, _, _ => List.nil_subperm
  | x :: xs, ys, hx, h => by
    obtain ⟨d, p1, p2, rfl, h1, h2⟩ := pmA_cons_iff.1 h
    have hd : d = x := pmv_const (hx x List.mem_cons_self).1 (hx x List.mem_cons_self).2 h1
    subst hd
    have ih := pmA_subperm σ xs (p1 ++ p2) (fun y hy => hx y (List.mem_cons_of_mem _ hy)) h2
    have : (d :: (p1 ++ p2)).Perm (p1 ++ d :: p2) := List.perm_middle.symm
    exact ((List.subperm_cons d).2 ih).trans this.subperm

theorem embPair_consts (σ : Bs) {k : String} (hk : isVar k = false) {xs ys : List J} (hne : xs ≠ [])
    (hxs : sortableConsts xs = true) (hys : evOKA ys = true) (hm : pmA σ xs ys = true) :
    EmbPair k (.arr xs) (.arr ys) := by
  obtain ⟨hsc, _⟩ := sortableConsts_unpack hxs
  obtain ⟨xs', hx⟩ := sortValues_ok_of_sortable hxs
  obtain ⟨ys', hy⟩ := evOKA_sortValues hys
  have hsub : xs' <+ ys' := sorted_sublist (pmA_subperm σ xs ys hsc hm) hx hy
  have hpx := sortValues_perm hx
  have hcast : ∀ x ∈ xs', ∃ c, picast x = .s c := fun x hx' =>
    picast_scalar (hsc x (hpx.mem_iff.1 hx')).1 (hsc x (hpx.mem_iff.1 hx')).2
  refine ⟨cedges k xs', ?_, ?_⟩
  · rw [path_cons_a_ok _ rfl hx, List.append_nil]
    exact path_elems_consts hk xs' hcast
  · intro π2 E3 h2
    have hemb := emb_consts (k := k) h2 hsub hcast
    -- the path starts with the key: the event array is expanded
    match xs', hpx, hcast, hemb with
    | [], hpx, _, _ => exact absurd hpx.symm.eq_nil hne
    | x :: r, _, hcast, hemb =>
      obtain ⟨c, hc⟩ := hcast x List.mem_cons_self
      simp only [cedges, hc, List.cons_append, List.nil_append] at hemb ⊢
      exact .expand k ys ys' _ _ hy hemb

/-! ## the main induction -/

theorem value_cases (v : J) : (v.isScalar = true ∧ isVarJ v = false) ∨ (∃ s, v = .str s ∧ isVar s = true) ∨
    (∃ xs, v = .arr xs) ∨ (∃ kvs, v = .obj kvs) := by
  cases v with
  | str s =>
    cases hs : isVar s with
    | true => exact .inr (.inl ⟨s, rfl, hs⟩)
    | false => exact .inl ⟨rfl, hs⟩
  | arr xs => exact .inr (.inr (.inl ⟨xs, rfl⟩))
  | obj kvs => exact .inr (.inr (.inr ⟨kvs, rfl⟩))
  | _ => exact .inl ⟨rfl, rfl⟩

theorem idxOKv_obj {pm : List (String × J)} :
    idxOKv (.obj pm) = true ↔ nodupKeys pm = true ∧ idxOKO pm = true := by
  rw [idxOKv, Bool.and_eq_true]

theorem embPair_scalar {σ : Bs} {k : String} {v dv : J} (hk : isVar k = false) (hs : v.isScalar = true)
    (hv : isVarJ v = false) (hm : pmv σ v dv = true) : EmbPair k v dv := by
  obtain rfl := pmv_const hs hv hm
  obtain ⟨c, hc⟩ := picast_scalar hs hv
  exact ⟨[.str k, .str c], by rw [path_cons_s _ hc, path_nil]; simp [hk], fun π2 E3 h => .const k _ c π2 E3 hc h⟩

theorem embPair_map (σ : Bs) {k : String} {pm : List (String × J)} {dv : J} (hk : isVar k = false)
    (hv : idxOKv (.obj pm) = true) (hd : evOKv dv = true) (hm : pmv σ (.obj pm) dv = true)
    (IH : ∀ kv ∈ pm, ∀ dv, evOKv dv = true → pmv σ kv.2 dv = true → EmbPair kv.1 kv.2 dv) :
    EmbPair k (.obj pm) dv := by
  obtain ⟨em, rfl, hmO⟩ := pmv_obj_inv hm
  rw [evOKv] at hd
  obtain ⟨πm, hπm, hembm⟩ := emb_map σ (idxOKv_obj.1 hv).1 (idxOKv_obj.1 hv).2 hd hmO IH
  refine ⟨.str k :: .map :: πm, ?_, fun π2 E3 h2 => .mapIn k em _ _ (hembm.append h2)⟩
  rw [path_cons_m _ rfl, List.append_nil, hπm, hk]; rfl

/-- an array pattern under a key over an event value, given the claim for a map that is its only member -/
theorem embPair_arr (σ : Bs) {k : String} {xs : List J} {dv : J} (hk : isVar k = false)
    (hv : idxOKv (.arr xs) = true) (hd : evOKv dv = true) (hm : pmv σ (.arr xs) dv = true)
    (IH : ∀ pm, xs = [.obj pm] → idxOKv (.obj pm) = true →
      ∀ d, evOKv d = true → pmv σ (.obj pm) d = true → EmbPair k (.obj pm) d) :
    EmbPair k (.arr xs) dv := by
  obtain ⟨ys, rfl, hmA⟩ := pmv_arr_inv hm
  rw [idxOKv] at hv
  rw [evOKv] at hd
  clear hm
  match xs, hv, hmA, IH with
  | [], _, _, _ =>
    exact ⟨[], by rw [path_cons_a_ok _ rfl (sortValues_short (Nat.zero_le _))]; exact path_nil,
      fun π2 E3 h2 => .skip _ _ _ h2⟩
  | x1 :: x2 :: r, hv, hm, _ => rw [idxOKA] at hv; exact embPair_consts σ hk (by simp) hv hd hm
  | [x], hv, hm, IH =>
    simp only [idxOKA, Bool.and_eq_true, Bool.not_eq_true'] at hv
    obtain ⟨hna, hxv⟩ := hv
    have hpath : path [(k, .arr [x])] = path [(k, x)] := by
      rw [path_cons_a_ok _ rfl (sortValues_short (Nat.le_refl _))]; rfl
    rcases value_cases x with ⟨hs, hv⟩ | ⟨s, rfl, hs⟩ | ⟨l, rfl⟩ | ⟨pm, rfl⟩
    · exact embPair_consts σ hk (by simp) (sortableConsts_singleton hs hv) hd hm
    · obtain ⟨π1, hπ1, h⟩ := embPair_var (dv := .arr ys) hk (picast_var hs) (by rw [evOKv]; exact hd)
      exact ⟨π1, hpath ▸ hπ1, h⟩
    · cases hna
    · -- the map lies over a member `d` that is a map, so the event array is the singleton `[d]`
      obtain ⟨d, p1, p2, rfl, h1, _⟩ := pmA_cons_iff.1 hm
      have hdmem : d ∈ p1 ++ d :: p2 := by simp
      have hlen : (p1 ++ d :: p2).length ≤ 1 := by
        rcases evOKA_cases hd with h | h
        · exact h
        · obtain ⟨dm, rfl, _⟩ := pmv_obj_inv h1
          cases ((sortableConsts_unpack h).1 _ hdmem).1
      match p1, p2, hlen with
      | [], [], _ =>
        obtain ⟨π1, hπ1, h⟩ := IH pm rfl hxv d (evOKA_mem hd d hdmem) h1
        refine ⟨π1, hpath ▸ hπ1, fun π2 E3 h2 => ?_⟩
        -- the path of a map pair starts with the key: the singleton event array is expanded
        rw [path_cons_m _ rfl, hk] at hπ1
        obtain ⟨π', _, rfl⟩ := Option.map_eq_some_iff.1 hπ1
        exact .expand k [d] [d] _ _ (sortValues_short (Nat.le_refl _)) (h π2 E3 h2)
      | _ :: _, _, hlen => simp at hlen
      | [], _ :: _, hlen => simp at hlen

theorem embV (σ : Bs) : ∀ (v dv : J) (k : String), isVar k = false →
    idxOKv v = true → evOKv dv = true → pmv σ v dv = true → EmbPair k v dv := by
  intro v
  induction v using J.ind' with
  | hnull => exact fun _ _ hk _ _ hm => embPair_scalar hk rfl rfl hm
  | hbool b => exact fun _ _ hk _ _ hm => embPair_scalar hk rfl rfl hm
  | hnum n => exact fun _ _ hk _ _ hm => embPair_scalar hk rfl rfl hm
  | hstr s =>
    intro dv k hk _ hd hm
    cases hs : isVar s with
    | true => exact embPair_var hk (picast_var hs) hd
    | false => exact embPair_scalar hk rfl hs hm
  | harr xs ih =>
    intro dv k hk hv hd hm
    refine embPair_arr σ hk hv hd hm ?_
    rintro pm rfl hpm d hd' hm'
    exact ih (.obj pm) (by simp) d k hk hpm hd' hm'
  | hobj pm ih =>
    intro dv k hk hv hd hm
    have hpm := (idxOKv_obj.1 hv).2
    exact embPair_map σ hk hv hd hm fun kv hkv dv' hd' hm' =>
      ih kv hkv dv' kv.1 (idxOKO_mem hpm kv hkv).1 (idxOKO_mem hpm kv hkv).2 hd' hm'

/-- a pattern of the fragment that lies over an event of the fragment has a path, and the path embeds in the
event's flattened pairs (C01 `match_embeds`) -/
theorem emb_of_pmv (σ : Bs) {p ev : List (String × J)} (hp : IdxOK p = true) (hev : EvOK ev = true)
    (hm : pmv σ (.obj p) (.obj ev) = true) :
    ∃ π, path (mapToPairs p) = some π ∧ Emb π (mapToPairs ev) := by
  simp only [IdxOK, Bool.and_eq_true] at hp
  rw [pmv_obj] at hm
  exact emb_map σ hp.1 hp.2 hev hm (fun kv hkv dv hd hm' =>
    embV σ kv.2 dv kv.1 (idxOKO_mem hp.2 kv hkv).1 (idxOKO_mem hp.2 kv hkv).2 hd hm')

/-- **completeness of the candidate search for one indexed pattern**, whatever else the trie holds: the id at the end of
the path of a pattern of the fragment is among the candidates for every event of the fragment the pattern lies over -/
theorem piSearch_complete {ri : PI} {p ev : Obj} {π : List Edge} {id : String} {σ : Bs}
    (hπ : path (mapToPairs p) = some π) (hid : id ∈ ri.idsAt π) (hp : IdxOK p = true) (hev : EvOK ev = true)
    (hm : pmv σ (.obj p) (.obj ev) = true) : ∃ ids, piSearch ri ev = .ok ids ∧ id ∈ ids := by
  obtain ⟨π', hπ', hemb⟩ := emb_of_pmv σ hp hev hm
  rw [hπ] at hπ'; cases hπ'
  obtain ⟨ids, hs⟩ := piSearch_total ri hev
  exact ⟨ids, hs, piSearch_of_emb hid hemb hs⟩

end PI
