import RulioProofs.SysCover

/-! # No Location method and no function of a well-formed System answers `"diverge"`

The State functions are in `StateND`, the Location methods in `LocVia`: `LM.Via` carries `ND`, and a proof that needs it
of a method reads it off as `(loc*_via …).noDiv`; the `loc*_nd` below state it method by method. Then Systems, where the
fuel bound of `SysWalk.lean` (`doAncestors_fits`) closes the walk itself and with it the inherited searches. (C09) -/

open LM

theorem locGetParents_nd (c : Ctx) (now : Int) : (locGetParents c now).NoDiv := (locGetParents_via c now).noDiv

theorem locSetParents_nd (c : Ctx) (ps : List String) (now : Int) : (locSetParents c ps now).NoDiv :=
  (locSetParents_via c ps now).noDiv

theorem locAddFact_nd (c : Ctx) (id : String) (f : Obj) (now : Int) : (locAddFact c id f now).NoDiv :=
  (locAddFact_via c id f now).noDiv

theorem locRemFact_nd (c : Ctx) (id : String) (now : Int) : (locRemFact c id now).NoDiv := (locRemFact_via c id now).noDiv

theorem locGetFact_nd (c : Ctx) (id : String) (now : Int) : (locGetFact c id now).NoDiv := (locGetFact_via c id now).noDiv

theorem locAddRule_nd (c : Ctx) (id : String) (r : Obj) (now : Int) : (locAddRule c id r now).NoDiv :=
  (locAddRule_via c id r now).noDiv

theorem locRemRule_nd (c : Ctx) (id : String) (now : Int) : (locRemRule c id now).NoDiv := (locRemRule_via c id now).noDiv

theorem locEnableRule_nd (c : Ctx) (id : String) (b : Bool) (now : Int) : (locEnableRule c id b now).NoDiv :=
  (locEnableRule_via c id b now).noDiv

theorem locRuleEnabled_nd (c : Ctx) (id : String) (now : Int) : (locRuleEnabled c id now).NoDiv :=
  (locRuleEnabled_via c id now).noDiv

theorem locGetRule_nd (c : Ctx) (id : String) (now : Int) : (locGetRule c id now).NoDiv := (locGetRule_via c id now).noDiv

theorem locClear_nd (c : Ctx) (now : Int) : (locClear c now).NoDiv := (locClear_via c now).noDiv

theorem locStateSize_nd (c : Ctx) (now : Int) : (locStateSize c now).NoDiv := (locStateSize_via c now).noDiv

/-- the first characters differ -/
theorem panic_ne_diverge (e : String) : "panic:" ++ e ≠ "diverge" := by
  intro h
  have h2 := congrArg String.toList h
  simp [String.toList_append] at h2

theorem doAncestors_nd {α} {now : Int} {fn : String → LM α} (hfn : ∀ n, (fn n).KeepsName)
    (hnd : ∀ n, (fn n).NoDiv) {sys : Sys} (wf : SysWF sys) (n : String) (acc : List α) :
    ND (doAncestors (ancestorFuel sys) sys n now fn acc).2 :=
  ND.of_ne ((doAncestors_fits_own hfn wf (Nat.le_refl _) n acc).2 (fun m l => (hnd m l).ne)
    fun l => ((locGetParentsRaw_via now).noDiv l).ne)

theorem tagged_nd {α} {fn : String → LM α} (h : ∀ n, (fn n).NoDiv) (n : String) : (tagged fn n).NoDiv :=
  fun l => by
    have := h n l
    unfold tagged LM.bind
    cases hf : fn n l with
    | mk l1 r =>
      rw [hf] at this
      cases r with
      | error e => exact this.err rfl
      | ok a => exact ND.ok _

theorem sysSearchFacts_nd {sys : Sys} (wf : SysWF sys) (c : Ctx) (n : String) (p : Obj) (inh : Bool) (now : Int) :
    ND (sysSearchFacts sys c n p inh now).2 := by
  unfold sysSearchFacts
  split
  · split
    · exact ND.ok _
    · next heq =>
      exact (doAncestors_nd (tagged_keeps fun _ => (locSearchFacts_via c p now).keepsId.keepsName)
        (tagged_nd fun _ => (locSearchFacts_via c p now).noDiv) wf n []).err₂ heq
  · exact Sys.at_nd sys n ((locSearchFacts_via c p now).noDiv)

theorem sysSearchRulesAnc_nd {sys : Sys} (wf : SysWF sys) (c : Ctx) (n : String) (ev : Obj) (now : Int) :
    ND (sysSearchRulesAnc sys c n ev now).2 := by
  unfold sysSearchRulesAnc
  split
  · next heq =>
    exact (doAncestors_nd (tagged_keeps fun _ => (locSearchRules_via c ev now).keepsId.keepsName)
      (tagged_nd fun _ => (locSearchRules_via c ev now).noDiv) wf n []).err₂ heq
  · dsimp only
    split
    · exact ND.lit (by simp)
    · exact ND.ok _

theorem sysSearchRules_nd {sys : Sys} (wf : SysWF sys) (c : Ctx) (n : String) (ev : Obj) (inh : Bool) (now : Int) :
    ND (sysSearchRules sys c n ev inh now).2 := by
  unfold sysSearchRules
  split
  · next heq => exact (Sys.at_nd sys n ((runGuards_via (w := false) c now _).noDiv)).err₂ heq
  · next s _ heq =>
    have hwf := Sys.at_wf wf n (runGuards c now (guardsOf "SearchRules"))
    rw [heq] at hwf
    split
    · exact sysSearchRulesAnc_nd hwf c n ev now
    · exact Sys.at_nd s n ((locSearchRules_via c ev now).noDiv)

theorem sysListRules_nd (sys : Sys) (c : Ctx) (n : String) (inh : Bool) (now : Int) :
    ND (sysListRules sys c n inh now).2 := by
  unfold sysListRules
  split
  · next heq => exact (Sys.at_nd sys n ((runGuards_via (w := false) c now _).noDiv)).err₂ heq
  · split
    · split
      · exact ND.ok _
      · exact ND.lit (panic_ne_diverge _)
    · exact ND.ok _
