import RulioModel.LocInv
import RulioProofs.ReloadStore

/-! # What the State operations do to the maps `facts` and `store` (both implementations)

All reads (`Get`, `Search`, `FindRules`, with the purge of expired facts and its deleteWith cascade) and `Rem` only
erase ids, from memory and storage together: a purge, read as `Shrinks` (`St.Purge.shrinks`, StateAll).  Here: what
the `Get` of an expired fact leaves, and that an absent id stays absent until an `Add` returns it, over the histories of
C07: `SOp` with `runSOps` (LocInv) is a history type of its own and is not translated into `ROp`. `storedForm` (LocInv)
is `memForm` (SysInv), in which everything else is stated: `storedForm_eq_memForm`. -/

namespace LocP

/-- `Get` of an expired fact never returns it; the fact is gone from memory and storage afterwards — always in
the linear state, and in the indexed state whenever the removal itself (un-indexing the rule, the deleteWith
cascade) does not fail. -/
theorem _root_.St.get_expired {s : St} {id : String} {f : Obj} {now : Int}
    (hg : amGet s.facts id = some f) (hx : checkExpiration f now = .ok true) :
    (∃ e, (s.get id now).2 = .error e) ∧
    ((∀ e, (St.irem s.fuel s id now).2 ≠ .error e) →
      amGet (s.get id now).1.facts id = none ∧ amGet (s.get id now).1.store id = none) ∧
    (s.kind = .linear →
      amGet (s.get id now).1.facts id = none ∧ amGet (s.get id now).1.store id = none) := by
  obtain ⟨h1, h2⟩ := St.get_of_expired hg hx
  rw [h1]
  have lin (hk : s.kind = .linear) :
      amGet (s.rem id now).1.facts id = none ∧ amGet (s.rem id now).1.store id = none := by
    rw [St.rem, hk, St.fuel_succ]
    exact St.lrem_gone _ s id now
  refine ⟨h2, fun hok => ?_, lin⟩
  cases hk : s.kind
  · cases hr : s.rem id now with
    | mk s1 r =>
      cases r with
      | error e => rw [St.rem, hk] at hr; exact absurd (congrArg Prod.snd hr) (hok e)
      | ok b => exact ⟨(St.rem_ok_gone hr).1, (St.rem_ok_gone hr).2 (.inl (by rw [hg]; nofun))⟩
  · exact lin hk

theorem storedForm_eq_memForm (k : Kind) (m : Obj) : storedForm k m = memForm k m := by cases k <;> rfl

theorem SOp.step_shrinks {s : St} {op : SOp} (now : Int) (hop : ∀ g x, op ≠ .add g x) : Shrinks s (op.step s now) := by
  cases op with
  | get i => exact (St.get_purge s i now).shrinks
  | search p => exact (St.search_purge s p now).shrinks
  | rem i => exact (St.rem_purge s i now).shrinks
  | findRules ev => exact (St.findRules_purge s ev now).shrinks
  | add g x => exact absurd rfl (hop g x)

theorem SOp.step_absent {s : St} {op : SOp} {now : Int} {id : String}
    (habs : amGet s.facts id = none ∧ amGet s.store id = none)
    (hadd : ∀ g x, op = .add g x → (s.add g x now).2 ≠ .ok id) :
    amGet (op.step s now).facts id = none ∧ amGet (op.step s now).store id = none := by
  cases op with
  | add g x =>
    show amGet (s.add g x now).1.facts id = none ∧ amGet (s.add g x now).1.store id = none
    rcases add_shape s g x now with ⟨_, _, hf⟩ | ⟨id', m, hok, ha⟩
    · rw [hf.facts, hf.store]; exact habs
    · have hne : id ≠ id' := fun he => hadd g x rfl (he ▸ hok)
      rw [ha.facts, ha.store, AM.amGet_amSet_ne _ _ hne, AM.amGet_amSet_ne _ _ hne]; exact habs
  | _ => exact (SOp.step_shrinks now (by intro _ _ h; cases h)).gone habs.1 habs.2

theorem runSOps_absent {id : String} : ∀ (ops : List (SOp × Int)) (s : St),
    amGet s.facts id = none ∧ amGet s.store id = none → NeverAdds id s ops →
    amGet (runSOps s ops).facts id = none ∧ amGet (runSOps s ops).store id = none
  | [], _, habs, _ => habs
  | (op, now) :: rest, s, habs, hna =>
    runSOps_absent rest (op.step s now) (SOp.step_absent habs hna.1) hna.2

end LocP
