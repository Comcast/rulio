import RulioModel.ComposeFrag
import RulioProofs.PatIndexSwap
import RulioProofs.StateWF

/-! # Pattern index: the index invariant of the indexed *state*, both halves (C01)

`St.iadd` and one removal of the indexed state (`St.Del .indexed`) are index transactions under the id at hand (`Swap`
over `patOf`, the `when` of the stored non-scheduled rule), so they keep `StIdx`; everything else the state does to the
rule index — `rem` with its `deleteWith` cascade, expiry inside the searches, `iGet`, `iFindRules` — is a sequence of such
removals (`St.Purge`). -/

namespace PI

theorem stIdx_init (k : Kind) (n : Nat) : StIdx { kind := k, fresh := n } :=
  ⟨nodupIds_empty, fun id fact pat h => by simp [amGet] at h⟩

/-! ## `IndexedState.add` -/

/-- the pattern the state has indexed under an id: the `when` of the stored rule, unless it is scheduled -/
def patOf (facts : List (String × Obj)) (id : String) : Option Obj := (amGet facts id).bind whenOf

theorem stIdx_iff {s : St} : StIdx s ↔ NodupIds s.ri ∧ IndexedBy (patOf s.facts) s.ri := by
  simp only [StIdx, IndexedBy, patOf, Option.bind_eq_some_iff]
  exact and_congr_right fun _ => ⟨fun h id p ⟨f, hf, hw⟩ => h id f p hf hw, fun h id f p hf hw => h id p ⟨f, hf, hw⟩⟩

theorem patOf_prevRule (facts : List (String × Obj)) (id : String) : patOf facts id = optWhen (prevRule facts id) := by
  unfold patOf prevRule
  cases amGet facts id with
  | none => rfl
  | some prev => exact whenOf_storedRule prev

/-- **`IndexedState.add` is an index transaction under the id of the fact**: three case splits through `St.iadd_unfold`,
then `swap_spec` -/
theorem iadd_swap (s : St) (given : String) (x : Obj) (now : Int) :
    Swap (patOf s.facts) (patOf (s.iadd given x now).1.facts) s.ri (s.iadd given x now).1.ri := by
  rw [St.iadd_unfold]
  have hb := s.bump_same given
  have hri := s.bump_ri given
  rcases prepareFact given s.freshId x now with e | ⟨id, fact0, x'⟩
  · exact .inl ⟨fun _ => rfl, rfl⟩
  simp only []
  cases he : extractRule fact0 false with
  | error e => exact .inl ⟨fun _ => by simp only [(hb id).1], hri id⟩
  | ok r2 =>
    obtain ⟨rule, fact⟩ := r2
    simp only [iaddCore, (hb id).1, hri id]
    have hkey : (patOf s.facts id).bind pathOf = optKey (prevRule s.facts id) := by rw [patOf_prevRule]; rfl
    rcases swap_spec s.ri id (prevRule s.facts id) rule with ⟨h1, h2⟩ | ⟨krm, hk, hpath, hmem⟩
    · rcases hsw : swap s.ri id (prevRule s.facts id) rule with ⟨ri', _ | e⟩ <;> rw [hsw] at h1 h2
      · exact absurd rfl h2
      · exact .inl ⟨fun _ => rfl, h1⟩
    · refine .inr ⟨id, krm, fun ρ h => hk ρ (hkey ▸ h), ?_⟩
      rcases hsw : swap s.ri id (prevRule s.facts id) rule with ⟨ri', _ | e⟩ <;> rw [hsw] at hpath hmem <;>
        dsimp only at hpath hmem ⊢
      · have hnew : patOf (amSet s.facts id fact) id = optWhen rule := by
          unfold patOf; rw [AM.amGet_amSet, if_pos rfl]; exact whenOf_extractRule_snd he
        refine ⟨fun y hne => by unfold patOf; rw [AM.amGet_amSet, if_neg hne],
          .inr fun p hp => hpath rfl p (hnew ▸ hp), fun hn => ⟨(hmem hn).1, fun ρ y => ?_⟩⟩
        rw [(hmem hn).2, hnew]; simp [optKey]
      · refine ⟨fun _ _ => rfl, .inl rfl, fun hn => ⟨(hmem hn).1, fun ρ y => ?_⟩⟩
        rw [(hmem hn).2, hkey]

theorem stIdx_iadd (s : St) (given : String) (x : Obj) (now : Int) (h : StIdx s) : StIdx (s.iadd given x now).1 :=
  stIdx_iff.2 ((iadd_swap s given x now).indexed h.1 (stIdx_iff.1 h).2)

theorem _root_.StIdx.of_eq {s s' : St} (h : StIdx s) (hf : s'.facts = s.facts) (hr : s'.ri = s.ri) : StIdx s' := by
  unfold StIdx; rw [hr, hf]; exact h

theorem iAdd_ri_facts (s : St) (given : String) (x : Obj) (now : Int) :
    (s.iAdd given x now).1.ri = (s.iadd given x now).1.ri ∧ (s.iAdd given x now).1.facts = (s.iadd given x now).1.facts := by
  unfold St.iAdd
  rcases s.iadd given x now with ⟨s1, _ | _⟩ <;> exact ⟨rfl, rfl⟩

theorem stIdx_iAdd (s : St) (given : String) (x : Obj) (now : Int) (h : StIdx s) :
    StIdx (s.iAdd given x now).1 :=
  (stIdx_iadd s given x now h).of_eq (iAdd_ri_facts s given x now).2 (iAdd_ri_facts s given x now).1

-- Nothing in the development uses `Others` and, further down, `Sub`.
/-- the ids other than `id` keep their places from `a` to `b` -/
def Others (id : String) (a b : PI) : Prop :=
  ∀ id', id' ≠ id → ∀ ρ, id' ∈ idsAt a ρ → id' ∈ idsAt b ρ

theorem Others.trans {id : String} {a b c : PI} (h1 : Others id a b) (h2 : Others id b c) : Others id a c :=
  fun id' hne ρ h => h2 id' hne ρ (h1 id' hne ρ h)

/-! ## `IndexedState.rem`, the cascade, and the searches that expire facts -/

theorem del_swap {a b : St} (hd : St.Del .indexed a b) : Swap (patOf a.facts) (patOf b.facts) a.ri b.ri := by
  cases hd with
  | @indexed _ s1 id fact hg hu =>
    rw [St.unindexOf_eq_riRem] at hu
    cases hr : riRemOpt a.ri id (storedRule fact) with
    | error e => rw [hr] at hu; cases hu
    | ok ri1 =>
      rw [hr] at hu; cases hu
      obtain ⟨k, hm, hk⟩ := riRemOpt_modSpec hr
      have hnew : ∀ y, patOf (amErase a.facts id) y = if y = id then none else patOf a.facts y := by
        intro y
        unfold patOf
        rw [AM.amGet_amErase]; split <;> rfl
      have hkey : (patOf a.facts id).bind pathOf = optKey (storedRule fact) := by
        unfold patOf; rw [hg, Option.bind_some, whenOf_storedRule]; rfl
      refine .inr ⟨id, k, fun ρ h => hk ρ (hkey ▸ h), fun y hne => ?_, .inr fun p hp => ?_,
        fun hn => ⟨hm.nodup hn, fun ρ y => ?_⟩⟩
      · show patOf (amErase a.facts id) y = _
        rw [hnew, if_neg hne]
      · have hp' : patOf (amErase a.facts id) id = some p := hp
        rw [hnew, if_pos rfl] at hp'; cases hp'
      · show y ∈ idsAt ri1 ρ ↔ _ ∨ (y = id ∧ (patOf (amErase a.facts id) id).bind pathOf = some ρ)
        rw [hm.mem_rem hn, hnew, if_pos rfl]; simp

theorem stIdx_del {a b : St} (h : StIdx a) (hd : St.Del .indexed a b) : StIdx b :=
  stIdx_iff.2 ((del_swap hd).indexed h.1 (stIdx_iff.1 h).2)

theorem stIdx_purge {s s' : St} (hp : St.Purge .indexed s s') (h : StIdx s) : StIdx s' := hp.inv stIdx_del h

theorem stIdx_irem (fuel : Nat) (s : St) (id : String) (now : Int) (h : StIdx s) :
    StIdx (St.irem fuel s id now).1 := stIdx_purge (St.irem_purge fuel s id now) h

theorem stIdx_isearch (fuel : Nat) (s : St) (p : Obj) (now : Int) (h : StIdx s) :
    StIdx (St.isearch fuel s p now).1 := stIdx_purge (St.isearch_purge fuel s p now) h

theorem stIdx_iGet (s : St) (id : String) (now : Int) (h : StIdx s) : StIdx (s.iGet id now).1 :=
  stIdx_purge (St.iGet_purge s id now) h

theorem stIdx_iFindRules (s : St) (ev : Obj) (now : Int) (h : StIdx s) : StIdx (s.iFindRules ev now).1 :=
  stIdx_purge (St.iFindRules_purge s ev now) h

/-! ## the converse of the invariant

`StIdx` says every stored non-scheduled rule sits at the end of its `when` pattern's path. Here: **nothing else sits
anywhere in the trie** (`IdxSound`): an id on a trie node is currently stored as a non-scheduled rule whose pattern's
path ends there. It holds in every reachable indexed state, so `doFindRules` never meets a lost rule, a stored fact
without rule body, or a scheduled rule among its candidates. -/

def Sub (a b : PI) : Prop := ∀ ρ x, x ∈ idsAt a ρ → x ∈ idsAt b ρ

theorem Sub.trans {a b c : PI} (h1 : Sub a b) (h2 : Sub b c) : Sub a c := fun ρ x h => h2 ρ x (h1 ρ x h)

theorem idxSound_iff {s : St} : IdxSound s ↔ SoundBy (patOf s.facts) s.ri := by
  simp only [IdxSound, SoundBy, patOf, Option.bind_eq_some_iff]
  exact forall₂_congr fun π id => imp_congr_right fun _ =>
    ⟨fun ⟨f, p, hf, hw, hp⟩ => ⟨p, ⟨f, hf, hw⟩, hp⟩, fun ⟨p, ⟨f, hf, hw⟩, hp⟩ => ⟨f, p, hf, hw, hp⟩⟩

theorem _root_.IdxSound.of_eq {s s' : St} (h : IdxSound s) (hf : s'.facts = s.facts) (hr : s'.ri = s.ri) : IdxSound s' := by
  unfold IdxSound; rw [hr, hf]; exact h

theorem idxSound_iadd (s : St) (given : String) (x : Obj) (now : Int) (hn : NodupIds s.ri) (hsnd : IdxSound s) :
    IdxSound (s.iadd given x now).1 :=
  idxSound_iff.2 ((iadd_swap s given x now).sound hn (idxSound_iff.1 hsnd))

theorem idxSound_iAdd (s : St) (given : String) (x : Obj) (now : Int) (hn : NodupIds s.ri) (hsnd : IdxSound s) :
    IdxSound (s.iAdd given x now).1 :=
  (idxSound_iadd s given x now hn hsnd).of_eq (iAdd_ri_facts s given x now).2 (iAdd_ri_facts s given x now).1

end PI

theorem St.iAdd_eq_add (s : St) (given : String) (x : Obj) (now : Int) (hk : s.kind = .indexed) :
    (s.iAdd given x now) = (s.add given x now) := by
  simp only [St.add, hk]

/-- a step of `IReach` is the initial state, an `Add`, a `Clear`, or a purge -/
theorem ireach_cases {P : St → Prop} (hinit : P { kind := .indexed })
    (hadd : ∀ s given x now, P s → P (s.iAdd given x now).1)
    (hpurge : ∀ s s', P s → St.Purge .indexed s s' → P s')
    (hclear : ∀ s, IReach s → P s → P s.clear) {s : St} (h : IReach s) : P s := by
  induction h with
  | init => exact hinit
  | add s given x now _ ih => exact hadd s given x now ih
  | rem s fuel id now _ ih => exact hpurge _ _ ih (St.irem_purge fuel s id now)
  | get s id now _ ih => exact hpurge _ _ ih (St.iGet_purge s id now)
  | search s fuel p now _ ih => exact hpurge _ _ ih (St.isearch_purge fuel s p now)
  | findRules s ev now _ ih => exact hpurge _ _ ih (St.iFindRules_purge s ev now)
  | clear s hs ih => exact hclear s hs ih

theorem ireach_wf {s : St} (h : IReach s) : WF s ∧ s.kind = .indexed :=
  ireach_cases (P := fun s => WF s ∧ s.kind = .indexed) ⟨wf_empty .indexed, rfl⟩
    (fun s given x now ih => by
      rw [St.iAdd_eq_add s given x now ih.2]
      exact ⟨ih.1.add given x now, (St.stepOp_kind s (.add given x now)).trans ih.2⟩)
    (fun _ _ ih hp => ⟨ih.1.le hp.le, hp.le.kind.trans ih.2⟩)
    (fun s _ ih => ⟨wf_clear s, ih.2⟩) h

namespace PI

theorem ireach_induction (P : St → Prop)
    (hinit : ∀ n, P { kind := .indexed, fresh := n })
    (hadd : ∀ s given x now, P s → P (s.iAdd given x now).1)
    (hdel : ∀ {a b}, P a → St.Del .indexed a b → P b)
    {s : St} (h : IReach s) : P s ∧ s.kind = .indexed :=
  ⟨ireach_cases (hinit 0) hadd (fun _ _ ih hp => hp.inv hdel ih)
    (fun s hs _ => by
      have : s.clear = { kind := .indexed, fresh := s.fresh } := by unfold St.clear; rw [(ireach_wf hs).2]
      rw [this]; exact hinit _) h, (ireach_wf h).2⟩

theorem idxSound_del {a b : St} (hn : NodupIds a.ri) (hsnd : IdxSound a) (hd : St.Del .indexed a b) : IdxSound b :=
  idxSound_iff.2 ((del_swap hd).sound hn (idxSound_iff.1 hsnd))

theorem stIdx_idxSound_of_reach {s : St} (h : IReach s) : StIdx s ∧ IdxSound s := by
  refine (ireach_induction (fun s => StIdx s ∧ IdxSound s) ?_ ?_ ?_ h).1
  · intro n
    exact ⟨stIdx_init _ _, fun π id hid => by
      have : idsAt empty π = [] := idsAt_empty π
      simp only [this] at hid
      cases hid⟩
  · intro s given x now ⟨h1, h2⟩
    exact ⟨stIdx_iAdd s given x now h1, idxSound_iAdd s given x now h1.1 h2⟩
  · intro a b ⟨h1, h2⟩ hd
    exact ⟨stIdx_del h1 hd, idxSound_del h1.1 h2 hd⟩

end PI
