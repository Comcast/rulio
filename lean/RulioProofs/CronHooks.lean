import RulioModel.CronHooks
import RulioProofs.Lookup

/-! # Lemmas for C15: the hook-level machine of `RulioModel/CronHooks.lean`

Every event is described once by what it does to `aGet` of the items and of the registry. The invariant
"the registry is the set of stored scheduled rules" (`RegOK`, together with `Uniq`) is carried through three kinds
of change: an add (`inv_add`), the removal of items of one location together with their jobs (`inv_remove`:
`Rem`, `Clear`, a cascade or expiry, the `RuleDone` of a tick), and a change that `aGet` does not see (`RegOK_ext`).
The theorems about all histories go through `ASys.run_inv` with a fact that each event keeps: the registry only grows
through the add hook (`step_reg_sub`, `RegSound`), an absent item stays absent (`absent_step`), an unregistered key stays
so (`unregistered_step`). -/

section AList
variable {κ α : Type} [DecidableEq κ]

theorem aGet_eq_lookup (m : List (κ × α)) (k : κ) : aGet m k = m.lookup k := by
  induction m with
  | nil => rfl
  | cons p r ih =>
    obtain ⟨k', v⟩ := p
    rw [aGet, List.lookup_cons, ih]
    by_cases h : k = k'
    · rw [if_pos h, h, beq_self_eq_true]
    · rw [if_neg h, beq_false_of_ne h]

theorem aGet_filterKey (q : κ → Bool) (m : List (κ × α)) (k : κ) :
    aGet (m.filter (fun p => q p.1)) k = if q k then aGet m k else none := by
  rw [aGet_eq_lookup, aGet_eq_lookup]; exact List.lookup_filter_key q m k

/-- filtering keys out: the shape of `aErase`, `evDrop`, `evClear`, `itemsNotOf` -/
theorem aGet_filterOut (q : κ → Bool) (c : κ → Prop) [DecidablePred c] (hq : ∀ k, q k = !decide (c k))
    (m : List (κ × α)) (k : κ) : aGet (m.filter (fun p => q p.1)) k = if c k then none else aGet m k := by
  rw [aGet_filterKey]
  by_cases h : c k <;> simp [h, hq]

theorem aGet_aErase (m : List (κ × α)) (k k' : κ) :
    aGet (aErase m k) k' = if k' = k then none else aGet m k' :=
  aGet_filterOut (fun x => decide (x ≠ k)) (· = k) (by simp) m k'

theorem aGet_aSet (m : List (κ × α)) (k : κ) (v : α) (k' : κ) :
    aGet (aSet m k v) k' = if k' = k then some v else aGet m k' := by
  by_cases h : k' = k <;> simp [aSet, aGet, h, aGet_aErase]

theorem aGet_some_mem {m : List (κ × α)} {k : κ} {v : α} (h : aGet m k = some v) : (k, v) ∈ m :=
  List.mem_of_lookup_eq_some ((aGet_eq_lookup m k).symm.trans h)

end AList

theorem none_of_sub {α : Type} {o o' : Option α} (hsub : ∀ v, o' = some v → o = some v) (h : o = none) :
    o' = none := by
  cases h' : o' with
  | none => rfl
  | some v => rw [hsub v h'] at h; cases h

/-! ## what each event does to the items, the registry and the configuration -/

@[simp] theorem keyOf_snd (cfg : CronCfg) (loc id : String) : (keyOf cfg loc id).2 = id := by
  unfold keyOf; split <;> rfl

theorem schedAt_iff {a : ASys} {loc id : String} :
    schedAt a loc id = true ↔ ∃ it, aGet a.items (loc, id) = some it ∧ it.sched ≠ "" := by
  unfold schedAt
  cases aGet a.items (loc, id) <;> simp

theorem runsNow_eq_some {a : ASys} {loc id : String} {en : Bool} {it : AItem} :
    runsNow a loc id en = some it ↔ aGet a.items (loc, id) = some it ∧ it.trig = .runs ∧ en = true := by
  unfold runsNow
  cases aGet a.items (loc, id) with
  | none => simp
  | some it' =>
    simp only [Bool.and_eq_true, decide_eq_true_eq, Option.some.injEq]
    constructor
    · intro h
      split at h
      · next hc => cases h; exact ⟨rfl, hc⟩
      · cases h
    · rintro ⟨rfl, hc⟩; rw [if_pos hc]

theorem runsNow_reg (a : ASys) (r : Reg) (loc id : String) (en : Bool) :
    runsNow { a with reg := r } loc id en = runsNow a loc id en := rfl

theorem hookAdd_get (a : ASys) (loc id : String) (it : AItem) (ld : Bool) (k : RegKey) :
    aGet (hookAdd a loc id it ld) k =
      if (a.cfg.persistent && ld) = false ∧ it.sched ≠ "" ∧ k = keyOf a.cfg loc id then some ⟨it.sched, loc⟩
      else aGet a.reg k := by
  unfold hookAdd
  cases a.cfg.persistent && ld
  · by_cases hs : it.sched = ""
    · simp [hs]
    · simp [hs, aGet_aSet]
  · simp

@[simp] theorem evAdd_cfg (a : ASys) (loc id : String) (it : AItem) (ld : Bool) : (evAdd a loc id it ld).cfg = a.cfg := rfl
@[simp] theorem evAdd_kind (a : ASys) (loc id : String) (it : AItem) (ld : Bool) : (evAdd a loc id it ld).kind = a.kind := rfl

theorem evAdd_items (a : ASys) (loc id : String) (it : AItem) (ld : Bool) (x : String × String) :
    aGet (evAdd a loc id it ld).items x = if x = (loc, id) then some it else aGet a.items x := by
  simp [evAdd, aGet_aSet]

@[simp] theorem evRemTop_cfg (a : ASys) (loc id : String) : (evRemTop a loc id).cfg = a.cfg := by
  unfold evRemTop; split <;> rfl
@[simp] theorem evRemTop_kind (a : ASys) (loc id : String) : (evRemTop a loc id).kind = a.kind := by
  unfold evRemTop; split <;> rfl

theorem evRemTop_items (a : ASys) (loc id : String) (x : String × String) :
    aGet (evRemTop a loc id).items x = if x = (loc, id) then none else aGet a.items x := by
  unfold evRemTop
  split
  · next h => by_cases hx : x = (loc, id) <;> simp [hx, h]
  · simp [aGet_aErase]

theorem evRemTop_reg (a : ASys) (loc id : String) (k : RegKey) :
    aGet (evRemTop a loc id).reg k =
      if k = keyOf a.cfg loc id ∧ schedAt a loc id = true then none else aGet a.reg k := by
  unfold evRemTop hookRem schedAt
  cases aGet a.items (loc, id) with
  | none => simp
  | some old => by_cases hs : old.sched = "" <;> simp [hs, aGet_aErase]

@[simp] theorem evDrop_cfg (a : ASys) (loc : String) (ids : List String) : (evDrop a loc ids).cfg = a.cfg := rfl
@[simp] theorem evDrop_kind (a : ASys) (loc : String) (ids : List String) : (evDrop a loc ids).kind = a.kind := rfl

theorem evDrop_items (a : ASys) (loc : String) (ids : List String) (x : String × String) :
    aGet (evDrop a loc ids).items x = if x.1 = loc ∧ x.2 ∈ ids then none else aGet a.items x :=
  aGet_filterOut (fun (k : String × String) => !(decide (k.1 = loc) && ids.contains k.2))
    (fun k => k.1 = loc ∧ k.2 ∈ ids) (by simp) a.items x

theorem itemsNotOf_get (its : Items) (loc : String) (x : String × String) :
    aGet (itemsNotOf its loc) x = if x.1 = loc then none else aGet its x :=
  aGet_filterOut (fun (k : String × String) => decide (k.1 ≠ loc)) (fun k => k.1 = loc) (by simp) its x

@[simp] theorem evClear_cfg (a : ASys) (loc : String) : (evClear a loc).cfg = a.cfg := rfl
@[simp] theorem evClear_kind (a : ASys) (loc : String) : (evClear a loc).kind = a.kind := rfl

theorem evClear_items (a : ASys) (loc : String) (x : String × String) :
    aGet (evClear a loc).items x = if x.1 = loc then none else aGet a.items x :=
  itemsNotOf_get a.items loc x

theorem evClear_reg (a : ASys) (loc : String) (k : RegKey) :
    aGet (evClear a loc).reg k =
      if k = keyOf a.cfg loc k.2 ∧ schedAt a loc k.2 = true then none else aGet a.reg k :=
  aGet_filterOut (fun (k : RegKey) => !(decide (k = keyOf a.cfg loc k.2) && schedAt a loc k.2))
    (fun k => k = keyOf a.cfg loc k.2 ∧ schedAt a loc k.2 = true) (by simp) a.reg k

@[simp] theorem evCronReset_cfg (a : ASys) : (evCronReset a).cfg = a.cfg := by
  unfold evCronReset; split <;> rfl
@[simp] theorem evCronReset_items (a : ASys) : (evCronReset a).items = a.items := by
  unfold evCronReset; split <;> rfl

theorem evCronReset_reg_sub (a : ASys) (k : RegKey) (e : RegEntry) (h : aGet (evCronReset a).reg k = some e) :
    aGet a.reg k = some e := by
  unfold evCronReset at h
  split at h
  · exact h
  · cases h

theorem evLoad_inv {P : ASys → Prop} (a : ASys) (loc : String) (docs : List (String × AItem))
    (h0 : P { a with items := itemsNotOf a.items loc }) (hadd : ∀ b id it, P b → P (evAdd b loc id it true)) :
    P (evLoad a loc docs) :=
  List.foldlRecOn docs _ h0 (fun b hb d _ => hadd b d.1 d.2 hb)

@[simp] theorem evLoad_cfg (a : ASys) (loc : String) (docs : List (String × AItem)) : (evLoad a loc docs).cfg = a.cfg :=
  evLoad_inv (P := fun b => b.cfg = a.cfg) a loc docs rfl (fun _ _ _ hb => hb)

theorem evLoad_items_other (a : ASys) (l loc id : String) (hl : l ≠ loc) (docs : List (String × AItem)) :
    aGet (evLoad a l docs).items (loc, id) = aGet a.items (loc, id) := by
  refine evLoad_inv (P := fun b => aGet b.items (loc, id) = aGet a.items (loc, id)) a l docs ?_ ?_
  · simp [itemsNotOf_get, Ne.symm hl]
  · intro b i it hb
    simp [evAdd_items, Ne.symm hl, hb]

/-! ## ticks

The three phases of `evTick` on a key that has a job `e`: the cron pops the job; `Fn` evaluates the rule and, if
`ruleDone`, removes it through the top-level `RemRule`; a recurring job is put back. -/

/-- `RuleDone` removes the rule: a rule was evaluated, to completion, and what is stored is one-shot -/
def ruleDone (a : ASys) (e : RegEntry) (key : RegKey) (en co : Bool) : Bool :=
  match runsNow a e.loc key.2 en with
  | some it => co && oneShot it.sched
  | none => false

theorem ruleDone_iff {a : ASys} {e : RegEntry} {key : RegKey} {en co : Bool} :
    ruleDone a e key en co = true ↔
      ∃ it, runsNow a e.loc key.2 en = some it ∧ co = true ∧ oneShot it.sched = true := by
  unfold ruleDone
  cases runsNow a e.loc key.2 en <;> simp

theorem evTick_none {a : ASys} {key : RegKey} {en co : Bool} (h : aGet a.reg key = none) :
    evTick a key en co = (a, ⟨false, none⟩) := by
  simp [evTick, h]

theorem evTick_some {a : ASys} {key : RegKey} {en co : Bool} {e : RegEntry} (h : aGet a.reg key = some e) :
    evTick a key en co =
      (let a1 : ASys := { a with reg := aErase a.reg key }
       let a2 : ASys := if ruleDone a e key en co then evRemTop a1 e.loc key.2 else a1
       ({ a2 with reg := if oneShot e.sched then a2.reg else aSet a2.reg key e },
        ⟨true, (runsNow a e.loc key.2 en).map fun _ => (e.loc, key.2)⟩)) := by
  cases hr : runsNow a e.loc key.2 en <;> simp only [evTick, h, ruleDone, runsNow_reg, hr] <;>
    cases oneShot e.sched <;> rfl

theorem evTick_cfg (a : ASys) (key : RegKey) (en co : Bool) : (evTick a key en co).1.cfg = a.cfg := by
  cases hget : aGet a.reg key with
  | none => rw [evTick_none hget]
  | some e => rw [evTick_some hget]; dsimp only; split <;> simp

theorem evTick_kind (a : ASys) (key : RegKey) (en co : Bool) : (evTick a key en co).1.kind = a.kind := by
  cases hget : aGet a.reg key with
  | none => rw [evTick_none hget]
  | some e => rw [evTick_some hget]; dsimp only; split <;> simp

theorem evRemTop_items_reg (a : ASys) (r : Reg) (loc id : String) :
    (evRemTop { a with reg := r } loc id).items = (evRemTop a loc id).items := by
  cases h : aGet a.items (loc, id) <;> simp [evRemTop, h]

theorem evTick_items_eq {a : ASys} {key : RegKey} {en co : Bool} {e : RegEntry} (h : aGet a.reg key = some e) :
    (evTick a key en co).1.items = if ruleDone a e key en co then (evRemTop a e.loc key.2).items else a.items := by
  rw [evTick_some h]; dsimp only; split <;> simp [evRemTop_items_reg]

theorem evTick_reg {a : ASys} {key : RegKey} {en co : Bool} {e : RegEntry} (h : aGet a.reg key = some e) (k : RegKey) :
    aGet (evTick a key en co).1.reg k =
      if k = key then (if oneShot e.sched then none else some e)
      else if ruleDone a e key en co = true ∧ k = keyOf a.cfg e.loc key.2 ∧ schedAt a e.loc key.2 = true then none
      else aGet a.reg k := by
  rw [evTick_some h]
  cases hd : ruleDone a e key en co <;> cases ho : oneShot e.sched <;> by_cases hk : k = key <;>
    simp [hk, aGet_aSet, aGet_aErase, evRemTop_reg, schedAt]

theorem evTick_fired_iff (a : ASys) (key : RegKey) (en co : Bool) :
    (evTick a key en co).2.fired = (aGet a.reg key).isSome := by
  cases hget : aGet a.reg key with
  | none => rw [evTick_none hget]; rfl
  | some e => rw [evTick_some hget]; rfl

theorem evTick_ran_iff {a : ASys} {key : RegKey} {en co : Bool} {x : String × String} :
    (evTick a key en co).2.ran = some x ↔
      ∃ e it, aGet a.reg key = some e ∧ x = (e.loc, key.2) ∧ aGet a.items x = some it ∧ it.trig = .runs ∧ en = true := by
  cases hget : aGet a.reg key with
  | none => simp [evTick_none hget]
  | some e =>
    rw [evTick_some hget]
    constructor
    · intro h
      obtain ⟨it, hr, rfl⟩ := Option.map_eq_some_iff.mp h
      exact ⟨e, it, rfl, rfl, runsNow_eq_some.mp hr⟩
    · rintro ⟨_, it, ⟨⟩, rfl, hr⟩
      exact Option.map_eq_some_iff.mpr ⟨it, runsNow_eq_some.mpr hr, rfl⟩

theorem evTick_items_sub (a : ASys) (key : RegKey) (en co : Bool) (x : String × String) (it : AItem)
    (h : aGet (evTick a key en co).1.items x = some it) : aGet a.items x = some it := by
  cases hget : aGet a.reg key with
  | none => rw [evTick_none hget] at h; exact h
  | some e =>
    rw [evTick_items_eq hget] at h
    split at h
    · rw [evRemTop_items] at h; exact (Option.ite_none_left_eq_some.mp h).2
    · exact h

theorem evTick_reg_sub (a : ASys) (key : RegKey) (en co : Bool) (k : RegKey) (e' : RegEntry)
    (h : aGet (evTick a key en co).1.reg k = some e') : aGet a.reg k = some e' := by
  cases hget : aGet a.reg key with
  | none => rw [evTick_none hget] at h; exact h
  | some e =>
    rw [evTick_reg hget] at h
    split at h
    · next hk =>
      -- the job that was put back is the one that was there
      rw [hk, hget]
      split at h
      · cases h
      · exact h
    · exact (Option.ite_none_left_eq_some.mp h).2

@[simp] theorem step_cfg (a : ASys) (ev : AEv) : (step a ev).cfg = a.cfg := by
  cases ev with
  | tick key en co => exact evTick_cfg a key en co
  | _ => simp [step]

/-- `P` also takes the events still to come, so that a hypothesis on the history (`PlainRun`, `NoStore`, `NoRegister`) is
consumed event by event along with the state invariant -/
theorem ASys.run_inv {P : ASys → List AEv → Prop} (hstep : ∀ a ev evs, P a (ev :: evs) → P (step a ev) evs) :
    ∀ {a : ASys} {evs : List AEv}, P a evs → P (run a evs) []
  | _, [], h => h
  | _, ev :: evs, h => ASys.run_inv hstep (evs := evs) (hstep _ ev evs h)

theorem run_cfg (a : ASys) (evs : List AEv) : (run a evs).cfg = a.cfg :=
  ASys.run_inv (P := fun b _ => b.cfg = a.cfg) (fun b ev _ hb => (step_cfg b ev).trans hb) rfl

/-! ## `RegOK` and `Uniq` see the maps through `aGet` only -/

theorem RegOK_ext {a b : ASys} (hr : ∀ k, aGet a.reg k = aGet b.reg k)
    (hi : ∀ x, aGet a.items x = aGet b.items x) (hc : a.cfg = b.cfg) (h : RegOK b) : RegOK a := by
  intro k e
  rw [hr k, h k e]
  simp only [Stored, hi, hc]

theorem Uniq_of_sub {a b : ASys} (hc : a.cfg = b.cfg)
    (hi : ∀ x it, aGet a.items x = some it → aGet b.items x = some it) (h : Uniq b) : Uniq a := by
  intro hb l l' id it it' h1 h2 h3 h4
  exact h (hc ▸ hb) l l' id it it' (hi _ _ h1) h2 (hi _ _ h3) h4

/-- a key has at most one stored scheduled rule: by its location part, or by `Uniq` -/
theorem Uniq.owner {a : ASys} (hu : Uniq a) {l l' i : String} {it it' : AItem}
    (h : aGet a.items (l, i) = some it) (hs : it.sched ≠ "") (h' : aGet a.items (l', i) = some it') (hs' : it'.sched ≠ "")
    (hk : keyOf a.cfg l i = keyOf a.cfg l' i) : l = l' := by
  cases hb : a.cfg.byLoc with
  | true => simpa [keyOf, hb] using hk
  | false => exact hu hb l l' i it it' h hs h' hs'

theorem regOK_init (kind : SKind) (cfg : CronCfg) : RegOK (ASys.init kind cfg) := by
  intro k e
  simp [ASys.init, Stored, aGet]

theorem uniq_init (kind : SKind) (cfg : CronCfg) : Uniq (ASys.init kind cfg) := by
  intro _ l l' id it it' h1
  simp [ASys.init, aGet] at h1

theorem plain_add {a : ASys} {loc id : String} {it : AItem} (hp : Plain a (.add loc id it) = true) :
    (it.sched = "" → ∀ old, aGet a.items (loc, id) = some old → old.sched = "") ∧
    (a.cfg.byLoc = false → it.sched ≠ "" → ∀ l it', aGet a.items (l, id) = some it' → it'.sched ≠ "" → l = loc) := by
  simp only [Plain, Bool.and_eq_true, Bool.or_eq_true, bne_iff_ne, beq_iff_eq, List.all_eq_true] at hp
  obtain ⟨h1, h2⟩ := hp
  constructor
  · intro hs old hold
    simpa [hs, hold] using h1
  · intro hb hs l it' hl hs'
    have := (h2.resolve_left (by simp [hb, hs])) _ (aGet_some_mem hl)
    simpa [hs'] using this

/-! ## `RegOK` and `Uniq` are preserved by every `Plain` event -/

theorem uniq_add {a : ASys} {loc id : String} {it : AItem} (h : Uniq a) (hp : Plain a (.add loc id it) = true) :
    Uniq (evAdd a loc id it false) := by
  obtain ⟨-, hp2⟩ := plain_add hp
  intro hb l l' i it1 it2 h1 h2 h3 h4
  rw [evAdd_items] at h1 h3
  split at h1 <;> split at h3
  · next e1 e2 => exact (congrArg Prod.fst e1).trans (congrArg Prod.fst e2).symm
  · next e1 e2 =>
    cases e1; cases h1
    exact (hp2 hb h2 l' it2 h3 h4).symm
  · next e1 e2 =>
    cases e2; cases h3
    exact hp2 hb h4 l it1 h1 h2
  · exact h hb l l' i it1 it2 h1 h2 h3 h4

theorem inv_add {a : ASys} {loc id : String} {it : AItem} (h : RegOK a) (hu : Uniq a)
    (hp : Plain a (.add loc id it) = true) : RegOK (evAdd a loc id it false) ∧ Uniq (evAdd a loc id it false) := by
  have hub := uniq_add hu hp
  refine ⟨?_, hub⟩
  have hnew : aGet (evAdd a loc id it false).items (loc, id) = some it := by rw [evAdd_items, if_pos rfl]
  intro k e
  show aGet (hookAdd a loc id it false) k = some e ↔ _
  rw [hookAdd_get]
  by_cases hk : it.sched ≠ "" ∧ k = keyOf a.cfg loc id
  · -- the new job: by `Uniq` of the new state, its key belongs to the new item only
    obtain ⟨hs, rfl⟩ := hk
    rw [if_pos ⟨Bool.and_false _, hs, rfl⟩]
    constructor
    · rintro ⟨⟩
      exact ⟨loc, it, by rw [keyOf_snd]; exact hnew, hs, rfl, by rw [keyOf_snd]; rfl⟩
    · rintro ⟨l, it', h1, h2, rfl, h4⟩
      rw [keyOf_snd] at h1 h4
      cases hub.owner h1 h2 hnew hs h4.symm
      rw [hnew] at h1; cases h1; rfl
  · -- any other key: the item written is not among the scheduled rules with that key, before or after
    rw [if_neg (fun hc => hk hc.2), h k e]
    have : ∀ l it', it'.sched ≠ "" → k = keyOf a.cfg l k.2 →
        (aGet (evAdd a loc id it false).items (l, k.2) = some it' ↔ aGet a.items (l, k.2) = some it') := by
      intro l it' hs' hk'
      rw [evAdd_items]
      split
      · next heq =>
        cases heq
        have hs : it.sched = "" := Classical.byContradiction fun hs => hk ⟨hs, hk'⟩
        constructor
        · rintro ⟨⟩; exact absurd hs hs'
        · intro hold; exact absurd ((plain_add hp).1 hs _ hold) hs'
      · rfl
    constructor
    · rintro ⟨l, it', h1, h2, h3, h4⟩; exact ⟨l, it', (this l it' h2 h4).mpr h1, h2, h3, h4⟩
    · rintro ⟨l, it', h1, h2, h3, h4⟩; exact ⟨l, it', (this l it' h2 h4).mp h1, h2, h3, h4⟩

/-- **removal.** `b` is `a` without the items of `loc` whose id satisfies `Q`, and without the jobs of the
scheduled rules among them: the registry stays exact. This is `Rem` (one id), `Clear` (all), a cascade or expiry
that touches no scheduled rule, and the `RuleDone` of a tick. -/
theorem inv_remove {a b : ASys} {loc : String} (Q : String → Prop) [DecidablePred Q] (h : RegOK a) (hu : Uniq a)
    (hc : b.cfg = a.cfg)
    (hi : ∀ x, aGet b.items x = if x.1 = loc ∧ Q x.2 then none else aGet a.items x)
    (hr : ∀ k, aGet b.reg k =
      if Q k.2 ∧ k = keyOf a.cfg loc k.2 ∧ schedAt a loc k.2 = true then none else aGet a.reg k) :
    RegOK b ∧ Uniq b := by
  refine ⟨?_, Uniq_of_sub hc (fun x it hx => (Option.ite_none_left_eq_some.mp (hi x ▸ hx)).2) hu⟩
  intro k e
  have hb : Stored b k e ↔ ∃ l it, ¬ (l = loc ∧ Q k.2) ∧ aGet a.items (l, k.2) = some it ∧ it.sched ≠ "" ∧
      e = ⟨it.sched, l⟩ ∧ k = keyOf a.cfg l k.2 := by
    simp only [Stored, hi, hc, Option.ite_none_left_eq_some, and_assoc]
  rw [hr, hb]
  split
  · -- a job that went: no other location stores a scheduled rule with its key
    next hcond =>
    obtain ⟨hq, hk, hs⟩ := hcond
    obtain ⟨old, hold, hos⟩ := schedAt_iff.mp hs
    refine ⟨nofun, ?_⟩
    rintro ⟨l, it, hn, hit, hs', -, hk'⟩
    exact (hn ⟨hu.owner hit hs' hold hos (hk'.symm.trans hk), hq⟩).elim
  · -- a job that stayed: its rule is not among the removed items
    next hcond =>
    rw [h k e]
    constructor
    · rintro ⟨l, it, hit, hs, he, hk⟩
      refine ⟨l, it, ?_, hit, hs, he, hk⟩
      rintro ⟨rfl, hq⟩
      exact hcond ⟨hq, hk, schedAt_iff.mpr ⟨it, hit, hs⟩⟩
    · rintro ⟨l, it, -, rest⟩; exact ⟨l, it, rest⟩

theorem inv_remove_one {a b : ASys} {loc id : String} (h : RegOK a) (hu : Uniq a) (hc : b.cfg = a.cfg)
    (hi : ∀ x, aGet b.items x = if x = (loc, id) then none else aGet a.items x)
    (hr : ∀ k, aGet b.reg k = if k = keyOf a.cfg loc id ∧ schedAt a loc id = true then none else aGet a.reg k) :
    RegOK b ∧ Uniq b := by
  have hcond : ∀ k : RegKey, (k = keyOf a.cfg loc id ∧ schedAt a loc id = true) ↔
      (k.2 = id ∧ k = keyOf a.cfg loc k.2 ∧ schedAt a loc k.2 = true) := by
    intro k
    constructor
    · rintro ⟨rfl, hs⟩; simpa using hs
    · rintro ⟨rfl, hk, hs⟩; exact ⟨hk, hs⟩
  exact inv_remove (loc := loc) (· = id) h hu hc (fun x => by simp only [hi, Prod.ext_iff])
    (fun k => by simp only [hr, hcond])

theorem inv_tick {a : ASys} {key : RegKey} {en co : Bool} (h : RegOK a) (hu : Uniq a)
    (hp : Plain a (.tick key en co) = true) : RegOK (evTick a key en co).1 ∧ Uniq (evTick a key en co).1 := by
  cases hget : aGet a.reg key with
  | none => rw [evTick_none hget]; exact ⟨h, hu⟩
  | some e =>
    obtain ⟨l, it0, hi0, hs0, rfl, hkey⟩ := (h key e).mp hget
    have hsch : schedAt a l key.2 = true := schedAt_iff.mpr ⟨it0, hi0, hs0⟩
    cases hone : oneShot it0.sched with
    | true =>
      -- the job is consumed, and so is the rule (that is what `Plain` asks of this tick): a removal
      have hd : ruleDone a ⟨it0.sched, l⟩ key en co = true := by
        simp only [Plain, hget, hone, Bool.not_true, Bool.false_or] at hp
        exact hp
      refine inv_remove_one (loc := l) (id := key.2) h hu (evTick_cfg a key en co) ?_ ?_
      · intro x; simp [evTick_items_eq hget, hd, evRemTop_items]
      · intro k; rw [evTick_reg hget, ← hkey]; by_cases hk : k = key <;> simp [hk, hone, hd, hsch]
    | false =>
      -- the job is put back; the stored rule is the job's and recurring, so `RuleDone` leaves it
      have hd : ¬ ruleDone a ⟨it0.sched, l⟩ key en co = true := fun hd => by
        obtain ⟨it, hr, -, ho⟩ := ruleDone_iff.mp hd
        cases hi0.symm.trans (runsNow_eq_some.mp hr).1
        rw [hone] at ho; cases ho
      refine ⟨RegOK_ext (fun k => ?_) (fun x => by rw [evTick_items_eq hget, if_neg hd]) (evTick_cfg a key en co) h,
        Uniq_of_sub (evTick_cfg a key en co) (evTick_items_sub a key en co) hu⟩
      rw [evTick_reg hget]
      by_cases hk : k = key <;> simp [hk, hone, hd, hget]

/-- the invariant of `registered_iff_exists_partial` -/
theorem plain_step_preserves {a : ASys} {ev : AEv} (h : RegOK a) (hu : Uniq a) (hp : Plain a ev = true) :
    RegOK (step a ev) ∧ Uniq (step a ev) := by
  cases ev with
  | add loc id it => exact inv_add h hu hp
  | remTop loc id => exact inv_remove_one h hu (evRemTop_cfg a loc id) (evRemTop_items a loc id) (evRemTop_reg a loc id)
  | drop loc ids =>
    refine inv_remove (· ∈ ids) h hu rfl (evDrop_items a loc ids) (fun k => ?_)
    -- no scheduled rule goes, so no job has to
    rw [if_neg]; · rfl
    rintro ⟨hq, -, hs⟩
    obtain ⟨it, hit, hs'⟩ := schedAt_iff.mp hs
    have hm : ((loc, k.2), it) ∈ itemsOf a.items loc := List.mem_filter.mpr ⟨aGet_some_mem hit, by simp⟩
    exact hs' (by simpa [hq] using List.all_eq_true.mp hp _ hm)
  | clear loc =>
    exact inv_remove (loc := loc) (fun _ => True) h hu rfl (fun x => by simp [step, evClear_items])
      (fun k => by simp [step, evClear_reg])
  | load loc docs => simp [Plain] at hp
  | cronReset =>
    have hp : a.cfg.persistent = true := hp
    have : step a .cronReset = a := by simp [step, evCronReset, hp]
    rw [this]; exact ⟨h, hu⟩
  | tick key en co => exact inv_tick h hu hp

theorem plainRun_take {a : ASys} {evs : List AEv} (n : Nat) (hp : PlainRun a evs = true) :
    PlainRun a (evs.take n) = true := by
  induction evs generalizing a n with
  | nil => simp [PlainRun]
  | cons ev rest ih =>
    cases n with
    | zero => simp [PlainRun]
    | succ n =>
      simp only [PlainRun, Bool.and_eq_true, List.take_succ_cons] at hp ⊢
      exact ⟨hp.1, ih n hp.2⟩

/-! ## the registry only grows through the add hook -/

def AEv.addsRules : AEv → Bool
  | .add .. | .load .. => true
  | _ => false

theorem step_reg_sub {a : ASys} {ev : AEv} (hev : ev.addsRules = false) (k : RegKey) (e : RegEntry)
    (h : aGet (step a ev).reg k = some e) : aGet a.reg k = some e := by
  cases ev with
  | add | load => cases hev
  | remTop loc id => exact (Option.ite_none_left_eq_some.mp (evRemTop_reg a loc id k ▸ h)).2
  | drop loc ids => exact h
  | clear loc => exact (Option.ite_none_left_eq_some.mp (evClear_reg a loc k ▸ h)).2
  | cronReset => exact evCronReset_reg_sub a k e h
  | tick key en co => exact evTick_reg_sub a key en co k e h

/-- entries keep the location whose add hook created them, under a key made from that location -/
def RegSound (a : ASys) : Prop := ∀ k e, aGet a.reg k = some e → k = keyOf a.cfg e.loc k.2

theorem regSound_of_sub {a b : ASys} (hc : b.cfg = a.cfg)
    (hs : ∀ k e, aGet b.reg k = some e → aGet a.reg k = some e) (h : RegSound a) : RegSound b := by
  intro k e hk; rw [hc]; exact h k e (hs k e hk)

theorem regSound_evAdd {a : ASys} (loc id : String) (it : AItem) (ld : Bool) (h : RegSound a) :
    RegSound (evAdd a loc id it ld) := by
  intro k e hk
  replace hk : aGet (hookAdd a loc id it ld) k = some e := hk
  rw [hookAdd_get] at hk
  split at hk
  · next hc => cases hk; simp [hc.2.2]
  · exact h k e hk

theorem regSound_step {a : ASys} (ev : AEv) (h : RegSound a) : RegSound (step a ev) := by
  cases ev with
  | add loc id it => exact regSound_evAdd loc id it false h
  | load loc docs => exact evLoad_inv a loc docs h (fun b id it hb => regSound_evAdd loc id it true hb)
  | _ => exact regSound_of_sub (step_cfg a _) (step_reg_sub rfl) h

theorem regSound_init (kind : SKind) (cfg : CronCfg) : RegSound (ASys.init kind cfg) := by
  intro k e hk; simp [ASys.init, aGet] at hk

theorem absent_step {a : ASys} {loc id : String} {ev : AEv} {evs : List AEv} (hn : NoStore loc id (ev :: evs) = true)
    (h : aGet a.items (loc, id) = none) : NoStore loc id evs = true ∧ aGet (step a ev).items (loc, id) = none := by
  cases ev with
  | add l i it =>
    obtain ⟨hne, hn⟩ : (l ≠ loc ∨ i ≠ id) ∧ NoStore loc id evs = true := by simpa [NoStore] using hn
    have : (loc, id) ≠ (l, i) := fun e => hne.elim (· (congrArg Prod.fst e).symm) (· (congrArg Prod.snd e).symm)
    exact ⟨hn, by simp only [step, evAdd_items, this, if_false, h]⟩
  | remTop l i => exact ⟨hn, by simp only [step, evRemTop_items, h, ite_self]⟩
  | drop l ids => exact ⟨hn, by simp only [step, evDrop_items, h, ite_self]⟩
  | clear l => exact ⟨hn, by simp only [step, evClear_items, h, ite_self]⟩
  | load l docs =>
    obtain ⟨hl, hn⟩ : l ≠ loc ∧ NoStore loc id evs = true := by simpa [NoStore] using hn
    exact ⟨hn, by simp only [step, evLoad_items_other a l loc id hl, h]⟩
  | cronReset => exact ⟨hn, by simp only [step, evCronReset_items, h]⟩
  | tick key en co => exact ⟨hn, none_of_sub (evTick_items_sub a key en co (loc, id)) h⟩

theorem unregistered_step {a : ASys} {key : RegKey} {ev : AEv} {evs : List AEv}
    (hn : NoRegister a.cfg key (ev :: evs) = true) (h : aGet a.reg key = none) :
    NoRegister (step a ev).cfg key evs = true ∧ aGet (step a ev).reg key = none := by
  rw [step_cfg]
  cases ev with
  | add l i it =>
    obtain ⟨hne, hn⟩ : (it.sched = "" ∨ keyOf a.cfg l i ≠ key) ∧ NoRegister a.cfg key evs = true := by
      simpa [NoRegister] using hn
    refine ⟨hn, ?_⟩
    show aGet (hookAdd a l i it false) key = none
    rw [hookAdd_get, if_neg, h]
    rintro ⟨-, hs, rfl⟩
    exact hne.elim hs (fun hk => hk rfl)
  | load l docs => simp [NoRegister] at hn
  | _ =>
    exact ⟨hn, none_of_sub (step_reg_sub (by rfl) key) h⟩

/-! ## documents folded into `items` by `aSet` alone: no hook runs, so `cfg`, `reg` and the items of other locations stay -/

theorem loadLin_fold_cfg (loc : String) (docs : List (String × AItem)) (b : ASys) :
    (docs.foldl (fun a d => { a with items := aSet a.items (loc, d.1) d.2 }) b).cfg = b.cfg :=
  List.foldlRecOn docs _ (motive := fun (c : ASys) => c.cfg = b.cfg) rfl (fun _ hc _ _ => hc)

theorem loadLin_fold_reg (loc : String) (docs : List (String × AItem)) (b : ASys) :
    (docs.foldl (fun a d => { a with items := aSet a.items (loc, d.1) d.2 }) b).reg = b.reg :=
  List.foldlRecOn docs _ (motive := fun (c : ASys) => c.reg = b.reg) rfl (fun _ hc _ _ => hc)

theorem loadLin_fold_items_other (l loc id : String) (hl : l ≠ loc) (docs : List (String × AItem)) (b : ASys) :
    aGet (docs.foldl (fun a d => { a with items := aSet a.items (l, d.1) d.2 }) b).items (loc, id) = aGet b.items (loc, id) :=
  List.foldlRecOn docs _ (motive := fun (c : ASys) => aGet c.items (loc, id) = aGet b.items (loc, id)) rfl
    (fun c hc d _ => by simp [aGet_aSet, Ne.symm hl, hc])
