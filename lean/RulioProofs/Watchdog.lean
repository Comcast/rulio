import RulioModel.Watchdog

/-! # Lemmas about the RunJavascript timeout protocol (C14)

The control state `Ctl` and `KCfg` are finite: every per-step fact is a closed finite statement, decided by
evaluation in the kernel over the reachable control states (`Holds` of `WatchdogReach`). Here: `∀` over the finite types
made decidable; `PreservedAt`, through which an invariant of `Ctl` passes to `St` (control × remaining polls); `decStep`, the
decrease of the measure in the form the facts of `WatchdogThms` state it; the induction over schedules. -/

namespace Watchdog

theorem effective_of_control {c : TimeoutCfg} (h1 : c.timeoutsOn = true) (h2 : c.hasLoc = true)
    (h3 : c.control ≠ 0) : effective c = c.control := by
  simp [effective, fromControl, h1, h2, h3]

theorem effective_default {c : TimeoutCfg} (h : c.hasLoc = false ∨ c.control = 0) : effective c = c.sysDefault := by
  rcases h with h | h <;> simp [effective, fromControl, h]

theorem chooseTimeout_on {c : TimeoutCfg} (h : c.timeoutsOn = true) :
    chooseTimeout c = if 0 ≤ effective c then some (effective c) else none := by
  simp [chooseTimeout, h]

/-! `∀` over each finite type of the protocol is decided by listing its values (core has no `Fintype`) -/

instance (P : Pending → Prop) [DecidablePred P] : Decidable (∀ p, P p) :=
  decidable_of_iff (P .fin ∧ P .halt ∧ P .nilcall)
    ⟨fun h p => by cases p <;> simp [h], fun h => ⟨h _, h _, h _⟩⟩

instance (P : Ret → Prop) [DecidablePred P] : Decidable (∀ p, P p) :=
  decidable_of_iff (P .own ∧ P .nilOk ∧ P .timeoutErr)
    ⟨fun h p => by cases p <;> simp [h], fun h => ⟨h _, h _, h _⟩⟩

instance (P : Tid → Prop) [DecidablePred P] : Decidable (∀ p, P p) :=
  decidable_of_iff (P .main ∧ P .wd ∧ P .wdc ∧ P .timer)
    ⟨fun h p => by cases p <;> simp [h], fun h => ⟨h _, h _, h _, h _⟩⟩

instance (P : WPc → Prop) [DecidablePred P] : Decidable (∀ p, P p) :=
  decidable_of_iff (P .idle ∧ P .sel ∧ P .send ∧ P .close ∧ P .done)
    ⟨fun h p => by cases p <;> simp [h], fun h => ⟨h _, h _, h _, h _, h _⟩⟩

instance (P : MPc → Prop) [DecidablePred P] : Decidable (∀ p, P p) :=
  decidable_of_iff (P .start ∧ P .run ∧ (∀ p, P (.dSend p)) ∧ (∀ p, P (.dClose p)) ∧ (∀ p, P (.dRecover p)) ∧
      (∀ r, P (.ret r)) ∧ P .panicked)
    ⟨fun h p => by cases p <;> simp [h], fun h => ⟨h _, h _, fun _ => h _, fun _ => h _, fun _ => h _, fun _ => h _, h _⟩⟩

instance (P : Ctl → Prop) [DecidablePred P] : Decidable (∀ k, P k) :=
  decidable_of_iff (∀ m w f a b d e, P ⟨m, w, f, a, b, d, e⟩)
    ⟨fun h k => by cases k; exact h _ _ _ _ _ _ _, fun h _ _ _ _ _ _ _ => h _⟩

instance (P : KCfg → Prop) [DecidablePred P] : Decidable (∀ k, P k) :=
  decidable_of_iff (∀ a b d e, P ⟨a, b, d, e⟩)
    ⟨fun h k => by cases k; exact h _ _ _ _, fun h _ _ _ _ => h _⟩

/-- `inv` is preserved by every step taken when `runtime.Run`'s "nothing left" test reads `z` -/
def PreservedAt (c : KCfg) (z : Bool) (inv : Ctl → Bool) : Prop :=
  ∀ (k : Ctl), inv k = true → ∀ (t : Tid), (stepCtl c z t k).all (fun r => inv r.1) = true

instance (c : KCfg) (z : Bool) (inv : Ctl → Bool) : Decidable (PreservedAt c z inv) := by
  unfold PreservedAt; infer_instance

def Preserved (c : KCfg) (inv : Ctl → Bool) : Prop := ∀ z, PreservedAt c z inv

instance (c : KCfg) (inv : Ctl → Bool) : Decidable (Preserved c inv) := by unfold Preserved; infer_instance

/-- every effective step from a state satisfying `inv` strictly decreases the control measure, except a passed
script boundary, which leaves it unchanged -/
def Decreasing (c : KCfg) (z : Bool) (inv : Ctl → Bool) : Prop :=
  ∀ (k : Ctl), inv k = true → ∀ (t : Tid),
    (stepCtl c z t k).all (fun r => if r.2 then muK c r.1 == muK c k else decide (muK c r.1 < muK c k)) = true

instance (c : KCfg) (z : Bool) (inv : Ctl → Bool) : Decidable (Decreasing c z inv) := by
  unfold Decreasing; infer_instance

def next (c : Cfg) (t : Tid) (s : St) : St := (step c t s).getD s

theorem run_cons (c : Cfg) (t : Tid) (ts : List Tid) (s : St) :
    run c (t :: ts) s = run c ts (next c t s) := by simp [run, next]

theorem run_append (c : Cfg) (a b : List Tid) (s : St) :
    run c (a ++ b) s = run c b (run c a s) := by simp [run]

theorem run_inv (c : Cfg) (P : St → Prop) (hstep : ∀ s t, P s → P (next c t s)) :
    ∀ (sched : List Tid) (s : St), P s → P (run c sched s) :=
  fun sched _ h => List.foldlRecOn sched _ h fun b hb t _ => hstep b t hb

theorem step_some_iff {c : Cfg} {t : Tid} {s s' : St} :
    step c t s = some s' ↔ ∃ k' p, stepCtl c.toKCfg (atEnd c s) t s.k = some (k', p) ∧
      s' = { k := k', left := if p then s.left - 1 else s.left } := by
  unfold step
  cases h : stepCtl c.toKCfg (atEnd c s) t s.k with
  | none => simp
  | some r =>
    obtain ⟨k', p⟩ := r
    constructor
    · intro h; exact ⟨k', p, rfl, by simpa using h.symm⟩
    · rintro ⟨k'', p', h1, h2⟩
      simp at h1; obtain ⟨rfl, rfl⟩ := h1
      simp [h2]

theorem next_of_step {c : Cfg} {t : Tid} {s s' : St} (h : step c t s = some s') : next c t s = s' := by
  simp [next, h]

theorem next_of_none {c : Cfg} {t : Tid} {s : St} (h : step c t s = none) : next c t s = s := by
  simp [next, h]

theorem next_inv_at (c : Cfg) (inv : Ctl → Bool) (s : St) (t : Tid)
    (h : PreservedAt c.toKCfg (atEnd c s) inv) (hi : inv s.k = true) : inv (next c t s).k = true := by
  cases hs : step c t s with
  | none => rw [next_of_none hs]; exact hi
  | some s' =>
    rw [next_of_step hs]
    obtain ⟨k', p, hk, rfl⟩ := step_some_iff.mp hs
    have := h s.k hi t
    simpa [hk] using this

theorem isSome_of_atEnd {c : Cfg} {s : St} (h : atEnd c s = true) : c.polls.isSome = true :=
  (Bool.and_eq_true_iff.mp h).1

theorem atEnd_loops (c : Cfg) (hp : c.polls = none) (s : St) : atEnd c s = false := by simp [atEnd, hp]

theorem step_isSome (c : Cfg) (t : Tid) (s : St) :
    (step c t s).isSome = (stepCtl c.toKCfg (atEnd c s) t s.k).isSome := by
  unfold step; split <;> simp [*]

theorem stuck_step (c : Cfg) (s : St) (hs : stuck c s = true) (t : Tid) : step c t s = none := by
  simp [stuck] at hs
  cases t <;> simp [hs]

theorem stuck_run (c : Cfg) (s : St) (hs : stuck c s = true) : ∀ more, run c more s = s := by
  intro more
  induction more with
  | nil => simp [run]
  | cons t ts ih => rw [run_cons, next_of_none (stuck_step c s hs t)]; exact ih

theorem stuck_ctl (c : Cfg) (s : St) (hs : stuck c s = true) (t : Tid) :
    stepCtl c.toKCfg (atEnd c s) t s.k = none := by
  simpa [stuck_step c s hs t] using step_isSome c t s

/-- a step of `t` from `k`, if it is enabled, strictly decreases the control measure; except a passed script
boundary, which leaves it unchanged, and is passed only while the script is not at its end -/
def decStep (c : KCfg) (z : Bool) (t : Tid) (k : Ctl) : Bool :=
  (stepCtl c z t k).all fun r => if r.2 then !z && muK c r.1 == muK c k else decide (muK c r.1 < muK c k)

theorem mu_dec_some (c : Cfg) (n : Nat) (hp : c.polls = some n) (s : St) (t : Tid)
    (hd : decStep c.toKCfg (atEnd c s) t s.k = true) (s' : St) (hs : step c t s = some s') :
    mu c s' < mu c s := by
  obtain ⟨k', p, hk, rfl⟩ := step_some_iff.mp hs
  simp only [decStep, hk, Option.all_some] at hd
  cases p with
  | false => simp at hd; simp [mu, hp]; omega
  | true =>
    simp at hd
    -- a boundary was passed: the script was not at its end, so `left` is positive
    have hl : s.left ≠ 0 := by simpa [atEnd, hp] using hd.1
    simp [mu, hp, hd.2]; omega

theorem mu_le_loops (c : Cfg) (hp : c.polls = none) (s : St) (t : Tid)
    (hd : decStep c.toKCfg false t s.k = true) (s' : St) (hs : step c t s = some s') : mu c s' ≤ mu c s := by
  obtain ⟨k', p, hk, rfl⟩ := step_some_iff.mp hs
  rw [atEnd_loops c hp] at hk
  simp only [decStep, hk, Option.all_some] at hd
  cases p <;> simp at hd <;> simp [mu, hp] <;> omega

/-- number of steps of a schedule that were not blocked -/
def effSteps (c : Cfg) : List Tid → St → Nat
  | [], _ => 0
  | t :: ts, s => (if (step c t s).isSome then 1 else 0) + effSteps c ts (next c t s)

theorem effSteps_le (c : Cfg) (P : St → Prop) (hP : ∀ s t, P s → P (next c t s))
    (hdec : ∀ s t s', P s → step c t s = some s' → mu c s' < mu c s) :
    ∀ (sched : List Tid) (s : St), P s → effSteps c sched s + mu c (run c sched s) ≤ mu c s := by
  intro sched
  induction sched with
  | nil => intro s _; simp [effSteps, run]
  | cons t ts ih =>
    intro s hs
    rw [run_cons]
    have h1 := ih (next c t s) (hP s t hs)
    cases hst : step c t s with
    | none =>
      simp only [effSteps, hst, Option.isSome_none]
      rw [next_of_none hst] at h1 ⊢
      simpa using h1
    | some s' =>
      have h2 := hdec s t s' hs hst
      simp only [effSteps, hst, Option.isSome_some, if_true]
      rw [next_of_step hst] at h1 ⊢
      omega

end Watchdog
