import RulioModel.Service
import RulioProofs.AssocMap

/-! Lemmas behind `Props/C18.lean`: `DWIMURI` on character lists and on strings; the facts about the regenerated
dispatch table, by evaluation (and two ways round the UTF-8 decoder for string literals); the getters; the congruence
(`Agree`) by which each encoding of a request is served like the typed request map; `lookupKey` on the shapes the decoders
build; what `parseParameter` / `parseQuery` make of an argument that travelled as text; `getHTTPRequest` on each encoding. -/

namespace Svc
open Gen.C18

/-! ## DWIMURI on character lists -/

theorem dropParamsAux_noq (b : Bool) (cs : List Char) : '?' ∉ dropParamsAux b cs := by
  fun_induction dropParamsAux b cs <;> simp_all [eq_comm]

theorem dropParamsAux_append (u r : List Char) (h : '?' ∉ u) :
    dropParamsAux false (u ++ r) = u ++ dropParamsAux false r := by
  induction u with
  | nil => rfl
  | cons c u ih =>
    simp only [List.mem_cons, not_or] at h
    simp only [List.cons_append, dropParamsAux]
    rw [if_neg (Ne.symm h.1), ih h.2]

theorem dropParamsAux_true_nonl (q : List Char) (h : '\n' ∉ q) : dropParamsAux true q = [] := by
  induction q with
  | nil => rfl
  | cons c q ih =>
    simp only [List.mem_cons, not_or] at h
    simp only [dropParamsAux]
    rw [if_neg (Ne.symm h.1), ih h.2]

theorem dropParamsL_id {cs : List Char} (h : '?' ∉ cs) : dropParamsL cs = cs := by
  simpa [dropParamsL, dropParamsAux] using dropParamsAux_append cs [] h

theorem dropParamsL_query {u q : List Char} (hu : '?' ∉ u) (hq : '\n' ∉ q) : dropParamsL (u ++ '?' :: q) = u := by
  simp [dropParamsL, dropParamsAux_append u _ hu, dropParamsAux, dropParamsAux_true_nonl q hq]

theorem dropV_subset (r : List Char) : dropV r ⊆ r := by
  unfold dropV
  split
  · exact List.subset_cons_self _ _
  · exact List.Subset.refl _

theorem dropV_ne {c : Char} (h : c ≠ 'v') (r : List Char) : dropV (c :: r) = c :: r := by
  unfold dropV
  split
  · rename_i heq
    cases heq
    exact absurd rfl h
  · rfl

theorem dropVersionL_subset (cs : List Char) : dropVersionL cs ⊆ cs := by
  intro x hx
  unfold dropVersionL at hx
  split at hx
  · rename_i r
    split at hx
    · rename_i c t heq
      split at hx
      · have : x ∈ dropV r := heq ▸ List.mem_cons_of_mem _ ((List.dropWhile_suffix isVerChar).subset hx)
        exact List.mem_cons_of_mem _ (dropV_subset r this)
      · exact hx
    · exact hx
  · exact hx

theorem apiL_noq : '?' ∉ apiL := by decide

theorem apiL_prefix (t : List Char) : apiL.isPrefixOf (apiL ++ t) = true :=
  List.isPrefixOf_iff_prefix.mpr (List.prefix_append _ _)

theorem dropVersionL_api (t : List Char) : dropVersionL (apiL ++ t) = apiL ++ t := by
  simp [apiL, dropVersionL, dropV, isVerChar]

theorem dwimL_noq {cs : List Char} (h : '?' ∉ cs) :
    dwimL cs = if apiL.isPrefixOf (dropVersionL cs) then dropVersionL cs else apiL ++ dropVersionL cs := by
  simp only [dwimL, dropParamsL_id h]

theorem dwimL_api {t : List Char} (h : '?' ∉ t) : dwimL (apiL ++ t) = apiL ++ t := by
  rw [dwimL_noq (by simp [apiL_noq, h]), dropVersionL_api, if_pos (apiL_prefix t)]

theorem dwimL_shape (cs : List Char) : ∃ t, dwimL cs = apiL ++ t ∧ '?' ∉ t := by
  have hb : '?' ∉ dropVersionL (dropParamsL cs) := fun hq =>
    dropParamsAux_noq false cs (dropVersionL_subset _ hq)
  unfold dwimL
  simp only
  split
  · rename_i hp
    obtain ⟨t, ht⟩ := List.isPrefixOf_iff_prefix.mp hp
    exact ⟨t, ht.symm, fun hq => hb (ht ▸ List.mem_append_right _ hq)⟩
  · exact ⟨_, rfl, hb⟩

theorem dwimL_idem (cs : List Char) : dwimL (dwimL cs) = dwimL cs := by
  obtain ⟨t, ht, hq⟩ := dwimL_shape cs
  rw [ht, dwimL_api hq]

theorem dwimL_query {u q : List Char} (hu : '?' ∉ u) (hq : '\n' ∉ q) : dwimL (u ++ '?' :: q) = dwimL u := by
  simp only [dwimL, dropParamsL_query hu hq, dropParamsL_id hu]

/-- a path that `DWIMURI` only prefixes -/
structure Plain (p : List Char) : Prop where
  noq : '?' ∉ p
  nover : dropVersionL p = p
  noapi : apiL.isPrefixOf p = false
  slash : p = [] ∨ ∃ r, p = '/' :: r

theorem plain_of_plainL {p : List Char} (h : plainL p = true) : Plain p := by
  simp only [plainL, Bool.and_eq_true, Bool.not_eq_true', Bool.or_eq_true, beq_iff_eq, List.isEmpty_iff,
    List.contains_eq_mem, decide_eq_false_iff_not] at h
  obtain ⟨⟨⟨h1, h2⟩, h3⟩, h4⟩ := h
  refine ⟨h1, h2, h3, h4.imp_right fun h4 => ?_⟩
  cases p with
  | nil => cases h4
  | cons c r => exact ⟨r, by rw [List.head?_cons, Option.some.injEq] at h4; rw [h4]⟩

theorem all_isVerChar_noq {r : List Char} (h : r.all isVerChar = true) : '?' ∉ r := fun hq =>
  absurd (List.all_eq_true.mp h _ hq) (by decide)

theorem isVersionL_noq {ver : List Char} (h : isVersionL ver = true) : '?' ∉ ver := by
  unfold isVersionL at h
  split at h
  · rw [← List.all_cons] at h
    exact List.not_mem_cons_of_ne_of_not_mem (by decide)
      (List.not_mem_cons_of_ne_of_not_mem (by decide) (all_isVerChar_noq h))
  · rw [← List.all_cons] at h
    exact List.not_mem_cons_of_ne_of_not_mem (by decide) (all_isVerChar_noq h)
  · cases h

theorem dropWhile_all_append (r rest : List Char) (hr : r.all isVerChar = true)
    (hrest : rest = [] ∨ ∃ t, rest = '/' :: t) : (r ++ rest).dropWhile isVerChar = rest := by
  induction r with
  | nil =>
    rcases hrest with rfl | ⟨t, rfl⟩
    · rfl
    · rfl
  | cons c r ih =>
    simp only [List.all_cons, Bool.and_eq_true] at hr
    simp [hr.1, ih hr.2]

theorem dropVersionL_version {ver rest : List Char} (h : isVersionL ver = true)
    (hrest : rest = [] ∨ ∃ t, rest = '/' :: t) : dropVersionL (ver ++ rest) = rest := by
  unfold isVersionL at h
  split at h
  · rename_i c r
    simp only [Bool.and_eq_true] at h
    simp [dropVersionL, dropV, h.1, dropWhile_all_append r rest h.2 hrest]
  · rename_i c r _
    simp only [Bool.and_eq_true] at h
    have hcv : c ≠ 'v' := fun e => absurd (e ▸ h.1) (by decide)
    simp [dropVersionL, dropV_ne hcv, h.1, dropWhile_all_append r rest h.2 hrest]
  · cases h

/-- The spellings of a plain path `p`: bare, with `/api`, with a version, with both.  None has a query part, and
dropping the version leaves `p` or `/api` ++ `p`. -/
theorem spellings {ver p : List Char} (hv : isVersionL ver = true) (hp : Plain p) :
    ∀ x ∈ [p, apiL ++ p, ver ++ p, ver ++ (apiL ++ p)],
      '?' ∉ x ∧ (dropVersionL x = p ∨ dropVersionL x = apiL ++ p) := by
  have hv' := isVersionL_noq hv
  simp only [List.forall_mem_cons, List.mem_append, not_or]
  exact ⟨⟨hp.noq, .inl hp.nover⟩, ⟨⟨apiL_noq, hp.noq⟩, .inr (dropVersionL_api p)⟩,
    ⟨⟨hv', hp.noq⟩, .inl (dropVersionL_version hv hp.slash)⟩,
    ⟨⟨hv', apiL_noq, hp.noq⟩, .inr (dropVersionL_version hv (.inr ⟨_, rfl⟩))⟩, nofun⟩

theorem dwimL_spelling {x p : List Char} (hp : Plain p) (hx : '?' ∉ x)
    (h : dropVersionL x = p ∨ dropVersionL x = apiL ++ p) : dwimL x = apiL ++ p := by
  rw [dwimL_noq hx]
  rcases h with h | h
  · rw [h, hp.noapi, if_neg Bool.false_ne_true]
  · rw [h, if_pos (apiL_prefix p)]

/-! ## DWIMURI on strings -/

theorem dwimURI_idem (s : String) : dwimURI (dwimURI s) = dwimURI s := by
  simp [dwimURI, String.toList_ofList, dwimL_idem]

/-- `DWIMURI` on given characters.  A string literal unifies with `String.ofList _`, so a test vector proved through
this lemma is evaluated on `Char`s and its UTF-8 bytes are never computed. -/
theorem dwimURI_ofList (l : List Char) : dwimURI (String.ofList l) = String.ofList (dwimL l) := by
  rw [dwimURI, String.toList_ofList]

theorem api_toList : ("/api" : String).toList = apiL := String.toList_ofList
theorem q_toList : ("?" : String).toList = ['?'] := String.toList_ofList

theorem dwimURI_query (u q : String) (hu : '?' ∉ u.toList) (hq : '\n' ∉ q.toList) :
    dwimURI (u ++ "?" ++ q) = dwimURI u := by
  simp [dwimURI, String.toList_append, q_toList, dwimL_query hu hq]

/-- Every spelling of a plain path, with or without a query part, normalises to `/api` ++ the path. -/
theorem dwimURI_spelling {x p ver q : String} (hp : Plain p.toList) (hv : isVersionL ver.toList = true)
    (hq : '\n' ∉ q.toList)
    (hx : x.toList ∈ [p.toList, apiL ++ p.toList, ver.toList ++ p.toList, ver.toList ++ (apiL ++ p.toList)]) :
    dwimURI x = "/api" ++ p ∧ dwimURI (x ++ "?" ++ q) = "/api" ++ p := by
  obtain ⟨hxq, hxv⟩ := spellings hv hp _ hx
  have e : dwimURI x = "/api" ++ p := by
    rw [dwimURI, dwimL_spelling hp hxq hxv, ← api_toList, ← String.toList_append, String.ofList_toList]
  exact ⟨e, by rw [dwimURI_query x q hxq hq, e]⟩

/-! ## facts about the regenerated table, by evaluation

Comparing two string literals is the dear step, so each group of facts is one sweep. -/

/-- The `/api/loc/*` cases have distinct labels (Go rejects a duplicate case), the extractor lists rows and
labels in source order, and none is an envelope.  The labels are told apart on their bytes read from the end,
where they differ at once. -/
theorem rows_uris : ((rows.map (·.uri)).map fun s => s.toByteArray.data.toList.reverse).Nodup ∧
    (rows.map (·.uri)).Sublist caseLabels ∧ ∀ r ∈ rows, r.uri ≠ "/api/json" ∧ r.uri ≠ "/api/yaml" := by
  decide +kernel

theorem rows_not_envelope : ∀ r ∈ rows, r.uri ≠ "/api/json" ∧ r.uri ≠ "/api/yaml" := rows_uris.2.2

theorem find?_key_of_nodup {α β} [DecidableEq β] (f : α → β) : ∀ (l : List α), (l.map f).Nodup →
    ∀ a ∈ l, l.find? (fun x => f x == f a) = some a := by
  intro l
  induction l with
  | nil => intro _ a ha; cases ha
  | cons b l ih =>
    intro hnd a ha
    rw [List.map_cons, List.nodup_cons] at hnd
    rcases List.mem_cons.mp ha with rfl | h
    · simp
    · have hne : f b ≠ f a := fun e => hnd.1 (e ▸ List.mem_map_of_mem h)
      simp [hne, ih hnd.2 a h]

theorem findRow_rows : ∀ r ∈ rows, findRow r.uri = some r :=
  find?_key_of_nodup Row.uri rows (List.nodup_of_nodup_map _ rows_uris.1)

theorem rows_uris_in_labels : ∀ r ∈ rows, r.uri ∈ caseLabels :=
  fun _ hr => rows_uris.2.1.subset (List.mem_map_of_mem hr)

theorem findRow_mem {uri : String} {row : Row} (h : findRow uri = some row) : row ∈ rows ∧ row.uri = uri := by
  unfold findRow at h
  refine ⟨List.mem_of_find?_eq_some h, ?_⟩
  have := List.find?_some h
  simpa using this

theorem uri_not_param : ∀ rd ∈ allReads, rd.param ≠ "uri" := by decide +kernel

/-- No getter error goes untested outside `knownUncheckedReads`, no System call error outside
`knownUncheckedCalls`, no nested request result outside take/replace. -/
theorem unchecked_bounded :
    subsetOf (uncheckedReads rows) knownUncheckedReads = true ∧
    subsetOf (uncheckedCalls rows) knownUncheckedCalls = true ∧
    (uncheckedRedirects rows).all (fun u => u == "/api/loc/facts/take" || u == "/api/loc/facts/replace") = true := by
  decide +kernel

theorem checked_of_not_known {row : Row} {rd : Read} (hrow : row ∈ rows) (hrd : rd ∈ row.reads)
    (hk : (row.uri, rd.param) ∉ knownUncheckedReads) : rd.checked = true := by
  cases hc : rd.checked with
  | true => rfl
  | false =>
    exfalso
    apply hk
    have hmem : (row.uri, rd.param) ∈ uncheckedReads rows := by
      unfold uncheckedReads
      refine List.mem_flatMap.mpr ⟨row, hrow, List.mem_map.mpr ⟨rd, ?_, rfl⟩⟩
      exact List.mem_filter.mpr ⟨hrd, by simp [hc]⟩
    have := List.all_eq_true.mp unchecked_bounded.1 _ hmem
    simpa using this

/-! ## string literals without decoding

`String.toList` decodes UTF-8 by well-founded recursion, which the kernel evaluates slowly; encoding a literal and
comparing bytes is quick.  Two ways round the decoder follow. -/

def asciiChars (s : String) : List Char := s.toByteArray.data.toList.map fun b => Char.ofNat b.toNat

/-- that `asciiChars s` are the characters of `s` is checked by encoding them again -/
theorem toList_of_asciiChars {s : String} (h : s = String.ofList (asciiChars s)) : s.toList = asciiChars s :=
  (congrArg String.toList h).trans String.toList_ofList

theorem rows_uris_chars : ∀ r ∈ rows, r.uri = String.ofList (asciiChars r.uri) ∧
    (asciiChars r.uri).take 4 = apiL ∧ plainL ((asciiChars r.uri).drop 4) = true := by
  decide +kernel

def bytesStart (p s : String) : Bool := p.toByteArray.data.toList.isPrefixOf s.toByteArray.data.toList

/-- the bytes of a prefix are a prefix of the bytes, so only a string that passes the test on bytes is decoded -/
theorem startsW_bytes (p s : String) : startsW p s = (bytesStart p s && startsW p s) := by
  cases h : startsW p s
  · simp
  · obtain ⟨t, ht⟩ := List.isPrefixOf_iff_prefix.mp h
    have hs : s = p ++ String.ofList t := by
      rw [← String.ofList_toList (s := s), ← ht, String.ofList_append, String.ofList_toList]
    rw [Bool.and_true, bytesStart, hs, String.toByteArray_append, ByteArray.toList_data_append]
    exact (List.isPrefixOf_iff_prefix.mpr (List.prefix_append _ _)).symm

theorem noGuards_eq (l : List String) : noGuards l = l.filter fun s =>
    !(bytesStart "test:len(js)" s && startsW "test:len(js)" s || bytesStart "test:len(bs)" s && startsW "test:len(bs)" s) := by
  simp only [noGuards, isGuard, ← startsW_bytes]

/-! ## getters -/

theorem evalReadV_ne_panic (o : Option J) (rd : Read) (e : ErrC) (h : evalReadV o rd = .error e) : e ≠ .panic := by
  intro he
  subst he
  unfold evalReadV at h
  split at h
  · unfold getMapParam at h; split at h <;> (try split at h) <;> simp at h
  · unfold getBoolParam at h; split at h <;> (try split at h) <;> simp at h
  · unfold getStringParam at h; split at h <;> (try split at h) <;> simp at h
  · unfold getIndex at h
    split at h
    · simp at h
    · split at h
      · split at h
        · split at h <;> simp at h
        · simp at h
      · simp at h
  · simp at h

theorem evalReads_fails (m : ReqMap) (rd : Read) (hc : rd.checked = true) (hf : ∃ e, evalRead m rd = .error e) :
    ∀ (reads : List Read) (env : Env), rd ∈ reads → ∃ e, evalReads m reads env = .error e ∧ e ≠ .panic := by
  intro reads
  induction reads with
  | nil => intro env h; cases h
  | cons r rs ih =>
    intro env hmem
    unfold evalReads
    split
    · rename_i v hv
      rcases List.mem_cons.mp hmem with h | h
      · subst h
        obtain ⟨e, he⟩ := hf
        rw [he] at hv; cases hv
      · exact ih _ h
    · rename_i e' he'
      split
      · exact ⟨e', rfl, evalReadV_ne_panic _ _ _ he'⟩
      · rename_i hnc
        rcases List.mem_cons.mp hmem with h | h
        · subst h; exact absurd hc hnc
        · exact ih _ h

theorem readFails_error (m : ReqMap) (rd : Read) (h : readFails m rd = true) : ∃ e, evalRead m rd = .error e := by
  unfold readFails at h
  unfold evalRead evalReadV
  split at h
  · rename_i hl
    rw [hl]
    simp only [Bool.and_eq_true, bne_iff_ne, ne_eq] at h
    cases hk : getterKind rd.getter <;> simp [hk, getMapParam, getBoolParam, getStringParam, h.1] at h ⊢
  · rename_i v hl
    rw [hl]
    cases hk : getterKind rd.getter <;> simp only [hk] at h ⊢
    · cases v <;> simp [wellTypedFor, getMapParam] at h ⊢
    · cases v <;> simp [wellTypedFor, getBoolParam] at h ⊢
    · cases v <;> simp [wellTypedFor, getStringParam] at h ⊢
      rename_i xs
      cases hx : allStrs xs <;> simp [hx] at h ⊢
    · simp [wellTypedFor] at h
    · exact ⟨_, rfl⟩

/-! ## congruence: the interpreter looks at the request map only through the getters of the table -/

theorem evalReads_congr (m1 m2 : ReqMap) : ∀ (reads : List Read) (env : Env),
    (∀ rd ∈ reads, evalRead m1 rd = evalRead m2 rd) → evalReads m1 reads env = evalReads m2 reads env := by
  intro reads
  induction reads with
  | nil => intro env _; simp [evalReads]
  | cons r rs ih =>
    intro env h
    unfold evalReads
    rw [h r (List.mem_cons_self ..)]
    split
    · exact ih _ (fun rd hrd => h rd (List.mem_cons_of_mem _ hrd))
    · split
      · rfl
      · exact ih _ (fun rd hrd => h rd (List.mem_cons_of_mem _ hrd))

theorem runPlain_congr (c : Codec) (row : Row) (m1 m2 : ReqMap)
    (h : ∀ rd ∈ row.reads, evalRead m1 rd = evalRead m2 rd) : runPlain c row m1 = runPlain c row m2 := by
  unfold runPlain
  rw [evalReads_congr m1 m2 row.reads [] h]

/-- two request maps the dispatch and every getter of the family cannot tell apart -/
def Agree (m1 m2 : ReqMap) : Prop := uriNF m1 = uriNF m2 ∧ ∀ rd ∈ allReads, evalRead m1 rd = evalRead m2 rd

theorem Agree.on_row {m1 m2 : ReqMap} (h : Agree m1 m2) {row : Row} (hrow : row ∈ rows) :
    ∀ rd ∈ row.reads, evalRead m1 rd = evalRead m2 rd :=
  fun rd hrd => h.2 rd (List.mem_flatMap.mpr ⟨row, hrow, hrd⟩)

theorem lookupKey_put (m : ReqMap) (k k' : String) (v : J) :
    lookupKey k (put m k' v) = if k = k' then some v else lookupKey k m := by
  simp [put, lookupKey]

theorem agree_put {m1 m2 : ReqMap} (h : Agree m1 m2) (k : String) (v : J) : Agree (put m1 k v) (put m2 k v) := by
  constructor
  · have h1 := h.1
    unfold uriNF at h1 ⊢
    rw [lookupKey_put, lookupKey_put]
    by_cases hk : "uri" = k
    · simp [hk]
    · simpa [hk] using h1
  · intro rd hrd
    unfold evalRead
    rw [lookupKey_put, lookupKey_put]
    split
    · rfl
    · exact h.2 rd hrd

theorem agree_applySets : ∀ (sets : List (String × String)) {m1 m2 : ReqMap}, Agree m1 m2 →
    Agree (applySets m1 sets) (applySets m2 sets) := by
  intro sets
  induction sets with
  | nil => intro m1 m2 h; simpa [applySets] using h
  | cons kv r ih =>
    intro m1 m2 h
    obtain ⟨k, v⟩ := kv
    simp only [applySets]
    exact ih (agree_put h k (setVal v))

theorem runTarget_congr (c : Codec) {m1 m2 : ReqMap} (h : Agree m1 m2) : runTarget c m1 = runTarget c m2 := by
  unfold runTarget redirectTarget
  rw [h.1]
  split
  · rfl
  · rename_i row hrow
    have hmem : row ∈ rows := by
      split at hrow
      · exact (findRow_mem hrow).1
      · cases hrow
    exact runPlain_congr c row _ _ (h.on_row hmem)

theorem runRedirects_congr (c : Codec) : ∀ (rds : List Redirect) (m1 m2 : ReqMap) (acc : Outcome), Agree m1 m2 →
    runRedirects c m1 rds acc = runRedirects c m2 rds acc := by
  intro rds
  induction rds with
  | nil => intro m1 m2 acc _; simp [runRedirects]
  | cons rd rest ih =>
    intro m1 m2 acc h
    have h' := agree_applySets rd.sets h
    simp only [runRedirects]
    rw [runTarget_congr c h']
    split
    · exact ih _ _ _ h'
    · split
      · rfl
      · exact ih _ _ _ h'

theorem processRequest_congr (c : Codec) {m1 m2 : ReqMap} (h : Agree m1 m2) :
    processRequest c m1 = processRequest c m2 := by
  unfold processRequest
  rw [h.1]
  cases hu : uriNF m2 with
  | none => rfl
  | some o =>
    cases o with
    | none => rfl
    | some uri =>
      simp only
      cases hf : findRow uri with
      | none => rfl
      | some row =>
        have hrow := h.on_row (findRow_mem hf).1
        simp only
        unfold runRow
        split
        · exact runPlain_congr c row _ _ hrow
        · rw [evalReads_congr m1 m2 row.reads [] hrow, runRedirects_congr c _ m1 m2 _ h]

/-! ## association lists -/

theorem lookupKey_append (k : String) (a b : ReqMap) :
    lookupKey k (a ++ b) = match lookupKey k a with | some v => some v | none => lookupKey k b := by
  simp only [lookupKey_eq_amGet, AM.amGet_append]; cases amGet a k <;> rfl

theorem lookupKey_none_of_not_mem (k : String) (l : ReqMap) (h : k ∉ l.map Prod.fst) : lookupKey k l = none :=
  (lookupKey_eq_amGet l k).trans ((AM.amGet_eq_none_iff l k).2 h)

theorem lookupKey_eq_some_iff {l : ReqMap} (hnd : (l.map Prod.fst).Nodup) (k : String) (v : J) :
    lookupKey k l = some v ↔ (k, v) ∈ l := by
  rw [lookupKey_eq_amGet]; exact ⟨AM.amGet_mem, AM.amGet_of_mem_nodup hnd⟩

theorem lookupKey_reverse_nodup (k : String) (l : ReqMap) (hnd : (l.map Prod.fst).Nodup) :
    lookupKey k l.reverse = lookupKey k l := by
  have hnd' : (l.reverse.map Prod.fst).Nodup := by
    rw [List.map_reverse]
    exact List.pairwise_reverse.mpr (hnd.imp Ne.symm)
  exact Option.ext fun v => by
    rw [lookupKey_eq_some_iff hnd', lookupKey_eq_some_iff hnd, List.mem_reverse]

theorem typedArgs_keys (args : List (String × J)) : (typedArgs args).map Prod.fst = args.map Prod.fst := by
  simp [typedArgs, List.map_map, Function.comp_def]

theorem lookupKey_typedArgs (k : String) (args : List (String × J)) :
    lookupKey k (typedArgs args) = (lookupKey k args).map wireTyped := by
  rw [lookupKey_eq_amGet, lookupKey_eq_amGet, AM.amGet_eq_lookup, AM.amGet_eq_lookup]
  exact List.lookup_map_snd wireTyped args k

/-- a `uri` entry in front of `l` (`put` after the parameters) is found and hides no other key -/
theorem uri_first (v : J) (l : ReqMap) :
    lookupKey "uri" (("uri", v) :: l) = some v ∧ ∀ p, p ≠ "uri" → lookupKey p (("uri", v) :: l) = lookupKey p l := by
  simp +contextual [lookupKey]

/-- nor does one behind `l` (a body merged into the map that holds the `uri`), if `l` has none -/
theorem uri_last (v : J) {l : ReqMap} (h : "uri" ∉ l.map Prod.fst) :
    lookupKey "uri" (l ++ [("uri", v)]) = some v ∧ ∀ p, p ≠ "uri" → lookupKey p (l ++ [("uri", v)]) = lookupKey p l := by
  constructor
  · simp [lookupKey_append, lookupKey_none_of_not_mem _ _ h, lookupKey]
  · intro p hp
    rw [lookupKey_append]
    cases lookupKey p l <;> simp [lookupKey, hp]

/-! ## the wire: parseParameter, parseQuery -/

theorem parseParameter_wire (c : Codec) (enc : List (String × J) → String) (p : String) (v : J)
    (h : ArgOK c enc p v) : parseParameter c p (wireStr enc v) = .ok (wireTyped v) := by
  cases v <;> simp only [ArgOK] at h
  · simp [parseParameter, h.1, wireStr, wireTyped]
  · simp [parseParameter, h, wireStr, wireTyped]
  · obtain ⟨h1, h2, r, h3⟩ := h
    simp [parseParameter, h1, wireStr, wireTyped, unmarshalMap, h3, h2]

theorem parsePairs_wire (c : Codec) (enc : List (String × J) → String) : ∀ (args : List (String × J)) (m0 : ReqMap),
    (∀ kv ∈ args, ArgOK c enc kv.1 kv.2) →
    parsePairs c (wirePairs enc args) m0 = .ok ((typedArgs args).reverse ++ m0) := by
  intro args
  induction args with
  | nil => intro m0 _; simp [wirePairs, typedArgs, parsePairs]
  | cons kv r ih =>
    intro m0 h
    obtain ⟨k, v⟩ := kv
    have hk := h (k, v) (List.mem_cons_self ..)
    simp only [wirePairs, List.map_cons, parsePairs]
    rw [parseParameter_wire c enc k v hk]
    simp only
    have := ih (put m0 k (wireTyped v)) (fun kv hkv => h kv (List.mem_cons_of_mem _ hkv))
    simp only [wirePairs] at this
    rw [this]
    simp [typedArgs, put]

/-- a getter cannot tell a boolean from its query-string spelling, where only `getBoolParam` (or a presence test) reads it -/
theorem evalReadV_wire (c : Codec) (enc : List (String × J) → String) (p : String) (v : J) (h : ArgOK c enc p v)
    (rd : Read) (hrd : rd ∈ allReads) (hp : rd.param = p) :
    evalReadV (some (wireTyped v)) rd = evalReadV (some v) rd := by
  cases v with
  | bool b =>
    simp only [ArgOK] at h
    have hb := h.2
    unfold boolOK at hb
    have := List.all_eq_true.mp hb rd hrd
    simp only [Bool.or_eq_true, bne_iff_ne, ne_eq, beq_iff_eq, Bool.and_eq_true] at this
    unfold evalReadV
    rcases this with (h1 | h1) | h1
    · exact absurd hp h1
    · rw [h1]; cases b <;> simp [wireTyped, getBoolParam, asciiLower] <;> decide
    · rw [h1.1]
      have hl : rd.param ≠ "libraries" := by rw [hp]; exact h1.2
      simp [getIndex, hl]
  | _ => rfl

/-! ## every encoding of a logical request is served as the direct one -/

theorem typed_nouri {c : Codec} {enc : List (String × J) → String} {args : List (String × J)}
    (hL : Logical c enc args) : "uri" ∉ (typedArgs args).reverse.map Prod.fst := by
  rw [List.map_reverse, List.mem_reverse, typedArgs_keys]
  exact hL.nouri

theorem evalReadV_typed {c : Codec} {enc : List (String × J) → String} {args : List (String × J)}
    (hL : Logical c enc args) (rd : Read) (hrd : rd ∈ allReads) :
    evalReadV (lookupKey rd.param (typedArgs args).reverse) rd = evalReadV (lookupKey rd.param args) rd := by
  rw [lookupKey_reverse_nodup _ _ (typedArgs_keys args ▸ hL.nodup), lookupKey_typedArgs]
  cases h : lookupKey rd.param args with
  | none => rfl
  | some v =>
    exact evalReadV_wire c enc rd.param v (hL.ok _ ((lookupKey_eq_some_iff hL.nodup _ _).mp h)) rd hrd rfl

theorem uriNF_of_lookup {m : ReqMap} {u : String} (hu : lookupKey "uri" m = some (.str u)) :
    uriNF m = some (some (dwimURI u)) := by
  simp [uriNF, hu]

/-- A request decoded into `l` plus a `uri` entry that spells `target`, where the getters read `l` as they read
`args`, is served as `ProcessRequest` serves the typed map `("uri", target) :: args`. -/
theorem serve_direct (c : Codec) {r : HttpReq} {m l : ReqMap} {u target : String} {args : List (String × J)}
    (h : getHTTPRequest c r = .ok m) (hu : dwimURI u = target)
    (huri : lookupKey "uri" m = some (.str u) ∧ ∀ p, p ≠ "uri" → lookupKey p m = lookupKey p l)
    (hrd : ∀ rd ∈ allReads, evalReadV (lookupKey rd.param l) rd = evalReadV (lookupKey rd.param args) rd) :
    serve c r = processRequest c (("uri", .str target) :: args) := by
  have hm : uriNF m = some (some target) := by rw [uriNF_of_lookup huri.1, hu]
  have ha : Agree m (("uri", .str target) :: args) := by
    refine ⟨by rw [hm, uriNF_of_lookup (uri_first _ _).1, ← hu, dwimURI_idem], fun rd hrd' => ?_⟩
    have hne := uri_not_param rd hrd'
    rw [evalRead, evalRead, huri.2 _ hne, hrd rd hrd', (uri_first _ _).2 _ hne]
  simp only [serve, h, hm]
  exact processRequest_congr c ha

/-! ## GetHTTPRequest on each encoding -/

section http
variable (c : Codec) (enc : List (String × J) → String) (args : List (String × J))

theorem parseQueryInto_empty (hq0 : c.parseQuery "" = some []) (m : ReqMap) : parseQueryInto c "" m = .ok m := by
  simp [parseQueryInto, hq0, parsePairs]

theorem http_query (hok : ∀ kv ∈ args, ArgOK c enc kv.1 kv.2) (u qtext : String)
    (hne : dwimURI u ≠ "/api/json" ∧ dwimURI u ≠ "/api/yaml")
    (huq : '?' ∉ u.toList) (hqnl : '\n' ∉ qtext.toList)
    (hq : c.parseQuery qtext = some (wirePairs enc args)) :
    getHTTPRequest c ⟨"GET", u ++ "?" ++ qtext, u, qtext, ""⟩ = .ok (("uri", .str u) :: (typedArgs args).reverse) := by
  simp [getHTTPRequest, dwimURI_query u qtext huq hqnl, hne.1, hne.2, parseQueryInto, hq,
    parsePairs_wire c enc args [] hok, put]

theorem http_form (hok : ∀ kv ∈ args, ArgOK c enc kv.1 kv.2) (u qtext : String)
    (hne : dwimURI u ≠ "/api/json" ∧ dwimURI u ≠ "/api/yaml")
    (hqnl : '\n' ∉ qtext.toList) (hqform : ∃ ch r, qtext.toList = ch :: r ∧ ch ≠ '{')
    (hq : c.parseQuery qtext = some (wirePairs enc args)) (hq0 : c.parseQuery "" = some []) :
    getHTTPRequest c ⟨"POST", u, u, "", qtext⟩ = .ok ((typedArgs args).reverse ++ [("uri", .str u)]) := by
  obtain ⟨ch, r, h1, h2⟩ := hqform
  rw [h1, List.mem_cons, not_or] at hqnl
  simp [getHTTPRequest, parseQueryInto, hq0, parsePairs, hne.1, hne.2, h1, h2, hq,
    parsePairs_wire c enc args _ hok, hqnl.2, hqnl.1, put]

theorem http_json (u jtext : String) (hne : dwimURI u ≠ "/api/json" ∧ dwimURI u ≠ "/api/yaml")
    (hj : c.jsonObj jtext = some args) (hj0 : ∃ r, jtext.toList = '{' :: r) (hq0 : c.parseQuery "" = some []) :
    getHTTPRequest c ⟨"POST", u, u, "", jtext⟩ = .ok (args ++ [("uri", .str u)]) := by
  obtain ⟨r, h1⟩ := hj0
  simp [getHTTPRequest, hne.1, hne.2, parseQueryInto_empty c hq0, h1, hj, merge, put]

theorem http_yaml (u ytext : String) (hne : dwimURI u ≠ "/api/json" ∧ dwimURI u ≠ "/api/yaml")
    (hy : c.yamlObj ytext = some args) (hy0 : ∃ ch r, ytext.toList = ch :: r ∧ ch ≠ '{')
    (hynl : '\n' ∈ ytext.toList) (hq0 : c.parseQuery "" = some []) :
    getHTTPRequest c ⟨"POST", u, u, "", ytext⟩ = .ok (args ++ [("uri", .str u)]) := by
  obtain ⟨ch, r, h1, h2⟩ := hy0
  rw [h1, List.mem_cons] at hynl
  simp [getHTTPRequest, hne.1, hne.2, parseQueryInto_empty c hq0, h1, h2, hy, merge, put]
  exact fun h3 h4 => absurd hynl (not_or.mpr ⟨h3, h4⟩)

/-- the envelopes: the body, decoded by the decoder the path names, carries the `uri` -/
theorem http_envelope (u ue etext : String) (hue : dwimURI ue = "/api/json" ∨ dwimURI ue = "/api/yaml")
    (he : (if dwimURI ue = "/api/json" then c.jsonObj etext else c.yamlObj etext) = some (("uri", .str u) :: args))
    (hq0 : c.parseQuery "" = some []) :
    getHTTPRequest c ⟨"POST", ue, ue, "", etext⟩ = .ok (("uri", .str u) :: args) := by
  simp [getHTTPRequest, hue, parseQueryInto_empty c hq0, he, merge, lookupKey]

end http

end Svc
