import RulioProofs.StateAdd
import RulioProofs.StateFrame

/-! # The `State` interface: one operation of a history purges, adds or clears

`Rem`, `Get`, `Search`, `FindRules` of either kind purge (`St.rem_purge` …, from `St.ipurge`/`St.lpurge` of StateFrame). What
a purge does to the two maps, id by id, is `Shrinks` (`St.Purge.shrinks`); hence after `Rem` the id asked for is gone
(`St.irem_gone`, `St.lrem_gone`, `St.rem_ok_gone`).

`St.stepOp_cases` splits an operation of the `State` interface once: all of `Rem`, `Get`, `Search`, `FindRules` are a
purge (`St.stepOp_purge`), `Add` is `add_shape`, `Clear` empties. Whatever every operation keeps, a history keeps
(`St.runOps_inv`); a history without `Add` and `Clear` is a purge (`St.runOps_purge`). The `Add`/`Rem`
histories of C02 and C08 (`StOp`, `St.run`) are such histories (`St.run_eq`).

A predicate that says "every stored fact has `P`" unfolds to `St.All P` (StateFrame, which lists them). It travels along
equal memory, survives a purge and a `Clear`, and survives an `Add` as soon as the fact that `Add` stores has it. -/

/-! ## what a purge does to the two maps: `Shrinks` -/

theorem Shrinks.refl (s : St) : Shrinks s s :=
  ⟨rfl, rfl, List.Sublist.refl _, List.Sublist.refl _, fun _ => .inl ⟨rfl, rfl⟩⟩

theorem Shrinks.trans {a b c : St} (h1 : Shrinks a b) (h2 : Shrinks b c) : Shrinks a c := by
  obtain ⟨k1, f1, sf1, ss1, p1⟩ := h1
  obtain ⟨k2, f2, sf2, ss2, p2⟩ := h2
  refine ⟨k2.trans k1, f2.trans f1, sf2.trans sf1, ss2.trans ss1, fun id => ?_⟩
  rcases p2 id with ⟨hf, hs⟩ | h
  · rcases p1 id with ⟨hf1, hs1⟩ | ⟨hf1, hs1⟩
    · exact .inl ⟨hf.trans hf1, hs.trans hs1⟩
    · exact .inr ⟨hf.trans hf1, hs.trans hs1⟩
  · exact .inr h

theorem St.Del.shrinks {k : Kind} {a b : St} (h : St.Del k a b) : Shrinks a b := by
  obtain ⟨id, ri, ti, rfl, _⟩ := h.shape
  refine ⟨rfl, rfl, List.filter_sublist, List.filter_sublist, fun j => ?_⟩
  by_cases hj : j = id
  · subst hj; exact .inr ⟨AM.amGet_amErase_self _ _, AM.amGet_amErase_self _ _⟩
  · exact .inl ⟨AM.amGet_amErase_ne _ hj, AM.amGet_amErase_ne _ hj⟩

theorem St.Purge.shrinks {k : Kind} {s s' : St} (h : St.Purge k s s') : Shrinks s s' :=
  h.rel Shrinks.refl Shrinks.trans St.Del.shrinks

theorem Shrinks.facts_sub {s s' : St} (h : Shrinks s s') {k : String} {v : Obj} (hv : amGet s'.facts k = some v) :
    amGet s.facts k = some v := by
  rcases h.2.2.2.2 k with ⟨e, _⟩ | ⟨e, _⟩
  · rw [← e]; exact hv
  · rw [e] at hv; cases hv

theorem Shrinks.facts_none {s s' : St} (h : Shrinks s s') {k : String} (hv : amGet s.facts k = none) :
    amGet s'.facts k = none := by
  rcases h.2.2.2.2 k with ⟨e, _⟩ | ⟨e, _⟩
  · rw [e]; exact hv
  · exact e

theorem Shrinks.store_none {s s' : St} (h : Shrinks s s') {k : String} (hv : amGet s.store k = none) :
    amGet s'.store k = none := by
  rcases h.2.2.2.2 k with ⟨_, e⟩ | ⟨_, e⟩
  · rw [e]; exact hv
  · exact e

theorem Shrinks.gone {s s' : St} (h : Shrinks s s') {id : String} (hf : amGet s.facts id = none)
    (hs : amGet s.store id = none) : amGet s'.facts id = none ∧ amGet s'.store id = none :=
  ⟨h.facts_none hf, h.store_none hs⟩

theorem Shrinks.gone_or_same {s s' : St} (h : Shrinks s s') {k : String} {v : Obj} (hv : amGet s.facts k = some v) :
    (amGet s'.facts k = none ∧ amGet s'.store k = none) ∨ amGet s'.facts k = some v :=
  (h.2.2.2.2 k).symm.imp_right fun e => e.1.trans hv

theorem Shrinks.store_gone {s s' : St} (h : Shrinks s s') {k : String} {v : Obj} (hv : amGet s.facts k = some v)
    (hn : amGet s'.facts k = none) : amGet s'.store k = none :=
  (h.gone_or_same hv).elim (·.2) fun e => by rw [e] at hn; cases hn

/-! ## the reads of the `State` interface purge -/

theorem St.iFindRules_go_purge (now : Int) (fuel : Nat) (s : St) (ids : List String) (acc : List (String × Obj)) :
    St.Purge .indexed s (St.iFindRules.go now fuel s ids acc).1 := by
  rw [iFindRules_go_eq]
  exact St.readLoop_rel .refl .trans (fun _ s id => St.irem_purge _ s id now) fuel s ids acc

theorem St.lFindRules_go_purge (ev : Obj) (now : Int) (fuel : Nat) (s : St) (ids : List String)
    (acc : List (String × Obj)) : St.Purge .linear s (St.lFindRules.go ev now fuel s ids acc).1 := by
  rw [lFindRules_go_eq]
  exact St.readLoop_rel .refl .trans (fun _ s id => St.lrem_purge _ s id now) fuel s ids acc

theorem St.iGet_purge (s : St) (id : String) (now : Int) : St.Purge .indexed s (s.iGet id now).1 := by
  have := St.irem_purge s.fuel s id now
  fun_cases St.iGet s id now
  case case3 hr => rwa [hr] at this
  case case4 hr => rwa [hr] at this
  all_goals exact .refl _

theorem St.iFindRules_purge (s : St) (ev : Obj) (now : Int) : St.Purge .indexed s (s.iFindRules ev now).1 := by
  rw [St.iFindRules.eq_1]
  split
  · exact .refl _
  · exact St.iFindRules_go_purge now _ s _ []

theorem St.rem_purge (s : St) (id : String) (now : Int) : St.Purge s.kind s (s.rem id now).1 := by
  unfold St.rem
  cases s.kind
  · exact St.irem_purge _ s id now
  · exact St.lrem_purge _ s id now

theorem St.search_purge (s : St) (p : Obj) (now : Int) : St.Purge s.kind s (s.search p now).1 := by
  unfold St.search
  cases s.kind
  · exact St.isearch_purge _ s p now
  · exact St.lsearch_purge _ s p now

theorem St.get_purge (s : St) (id : String) (now : Int) : St.Purge s.kind s (s.get id now).1 := by
  rw [St.get_eq]
  split
  · exact .refl _
  · split
    · exact .refl _
    · split <;> next heq => exact (St.rem_purge s id now).of_eq heq
    · exact .refl _

theorem St.findRules_purge (s : St) (ev : Obj) (now : Int) : St.Purge s.kind s (s.findRules ev now).1 := by
  unfold St.findRules
  cases s.kind
  · exact St.iFindRules_purge s ev now
  · exact St.lFindRules_go_purge ev now _ s _ []

/-! ## `rem` takes its root out and purges -/

/-- the indexed `rem` with budget: it stops before touching anything (the stored rule cannot leave the pattern index),
or takes the root out and purges from there -/
theorem St.irem_head (f : Nat) (s : St) (id : String) (now : Int) :
    match amGet s.facts id with
    | none => St.Purge .indexed s (St.irem (f + 1) s id now).1
    | some fact =>
      match s.unindexOf id fact with
      | .error e => St.irem (f + 1) s id now = (s, .error e)
      | .ok s1 => St.Purge .indexed (s1.idel id fact) (St.irem (f + 1) s id now).1 := by
  rw [St.irem_succ]
  cases amGet s.facts id with
  | none => exact St.ideps_purge f s id now
  | some fact =>
    dsimp only
    cases s.unindexOf id fact with
    | error e => rfl
    | ok s1 => exact St.ideps_purge f _ id now

theorem St.lrem_head (f : Nat) (s : St) (id : String) (now : Int) :
    St.Purge .linear (s.ldel id) (St.lrem (f + 1) s id now).1 := by
  rw [St.lrem_succ]
  split
  · exact .refl _
  · split
    · exact St.lsearch_purge f _ _ now
    · exact (St.lsearch_purge f _ _ now).trans (St.lremAll_purge f _ _ now)

/-- after `rem` with budget the id asked for is gone from memory, and from storage if it was in memory (or in neither) —
unless the indexed `rem` stopped before touching anything -/
theorem St.irem_gone (f : Nat) (s : St) (id : String) (now : Int) :
    (∃ fact e, amGet s.facts id = some fact ∧ s.unindexOf id fact = .error e ∧ St.irem (f + 1) s id now = (s, .error e)) ∨
    (amGet (St.irem (f + 1) s id now).1.facts id = none ∧
      (amGet s.facts id ≠ none ∨ amGet s.store id = none → amGet (St.irem (f + 1) s id now).1.store id = none)) := by
  have h := St.irem_head f s id now
  cases hg : amGet s.facts id with
  | none =>
    rw [hg] at h
    exact .inr ⟨h.shrinks.facts_none hg, fun hs => h.shrinks.store_none (hs.resolve_left fun h => h rfl)⟩
  | some fact =>
    rw [hg] at h
    dsimp only at h
    cases hu : s.unindexOf id fact with
    | error e => rw [hu] at h; exact .inl ⟨fact, e, rfl, hu, h⟩
    | ok s1 =>
      rw [hu] at h
      exact .inr ⟨h.shrinks.facts_none (AM.amGet_amErase_self _ _), fun _ => h.shrinks.store_none (AM.amGet_amErase_self _ _)⟩

theorem St.lrem_gone (f : Nat) (s : St) (id : String) (now : Int) :
    amGet (St.lrem (f + 1) s id now).1.facts id = none ∧ amGet (St.lrem (f + 1) s id now).1.store id = none :=
  ⟨(St.lrem_head f s id now).shrinks.facts_none (AM.amGet_amErase_self _ _),
   (St.lrem_head f s id now).shrinks.store_none (AM.amGet_amErase_self _ _)⟩

theorem St.irem_ok_gone {g : Nat} {s s' : St} {id : String} {now : Int} {b : Bool}
    (h : St.irem g s id now = (s', .ok b)) :
    amGet s'.facts id = none ∧ (amGet s.facts id ≠ none ∨ amGet s.store id = none → amGet s'.store id = none) := by
  cases g with
  | zero => rw [St.irem_zero] at h; cases h
  | succ f =>
    rcases St.irem_gone f s id now with ⟨_, _, _, _, he⟩ | hg
    · rw [he] at h; cases h
    · rwa [h] at hg

theorem St.lrem_ok_gone {g : Nat} {s s' : St} {id : String} {now : Int} {b : Bool}
    (h : St.lrem g s id now = (s', .ok b)) : amGet s'.facts id = none ∧ amGet s'.store id = none := by
  cases g with
  | zero => rw [St.lrem_zero] at h; cases h
  | succ f => have := St.lrem_gone f s id now; rwa [h] at this

theorem St.remWith_ok_gone {g : Nat} {s s' : St} {id : String} {now : Int} {b : Bool}
    (h : s.remWith g id now = (s', .ok b)) :
    amGet s'.facts id = none ∧ (amGet s.facts id ≠ none ∨ amGet s.store id = none → amGet s'.store id = none) := by
  simp only [St.remWith] at h
  cases hk : s.kind <;> rw [hk] at h
  · exact St.irem_ok_gone h
  · exact ⟨(St.lrem_ok_gone h).1, fun _ => (St.lrem_ok_gone h).2⟩

theorem St.rem_ok_gone {s s' : St} {id : String} {now : Int} {b : Bool} (h : s.rem id now = (s', .ok b)) :
    amGet s'.facts id = none ∧ (amGet s.facts id ≠ none ∨ amGet s.store id = none → amGet s'.store id = none) :=
  St.remWith_ok_gone (g := s.fuel) h

/-- the operations that only purge: all but `Add` and `Clear` -/
def ROp.Purges : ROp → Prop
  | .add .. => False
  | .clear => False
  | _ => True

theorem St.stepOp_purge (s : St) {op : ROp} (h : op.Purges) : St.Purge s.kind s (s.stepOp op).1 := by
  cases op with
  | add => exact h.elim
  | clear => exact h.elim
  | rem id now => exact St.rem_purge s id now
  | get id now => exact St.get_purge s id now
  | search p now => exact St.search_purge s p now
  | findRules ev now => exact St.findRules_purge s ev now

theorem St.stepOp_cases {Q : St → St → Prop} (s : St) (purge : ∀ {s'}, St.Purge s.kind s s' → Q s s')
    (add : ∀ g x now, Q s (s.add g x now).1) (clear : Q s s.clear) (op : ROp) : Q s (s.stepOp op).1 := by
  cases op with
  | add g x now => exact add g x now
  | clear => exact clear
  | _ => exact purge (St.stepOp_purge s trivial)

theorem St.stepOp_fst (s : St) (op : ROp) : (s.stepOp op).1 = match op with
    | .add g x now => (s.add g x now).1
    | .rem id now => (s.rem id now).1
    | .get id now => (s.get id now).1
    | .search p now => (s.search p now).1
    | .findRules ev now => (s.findRules ev now).1
    | .clear => s.clear := by
  cases op <;> rfl

theorem St.stepOp_kind (s : St) (op : ROp) : (s.stepOp op).1.kind = s.kind :=
  St.stepOp_cases (Q := fun s s' => s'.kind = s.kind) s (fun h => h.le.kind)
    (fun g x now => by
      rcases add_shape s g x now with ⟨_, _, hf⟩ | ⟨_, _, _, ha⟩
      · exact hf.kind
      · exact ha.kind) rfl op

theorem St.runOps_inv {P : St → Prop} (step : ∀ s op, P s → P (s.stepOp op).1) (ops : List ROp) :
    ∀ {s : St}, P s → P (s.runOps ops) := by
  induction ops with
  | nil => intro s h; exact h
  | cons op rest ih => intro s h; exact ih (step s op h)

theorem St.runOps_append (s : St) (a b : List ROp) : s.runOps (a ++ b) = (s.runOps a).runOps b := by
  induction a generalizing s with
  | nil => rfl
  | cons op a ih => exact ih _

theorem St.runOps_kind (ops : List ROp) (s : St) : (s.runOps ops).kind = s.kind :=
  St.runOps_inv (P := fun t => t.kind = s.kind) (fun t op h => (St.stepOp_kind t op).trans h) ops rfl

theorem St.runOps_purge : ∀ (ops : List ROp) (s : St), (∀ op ∈ ops, op.Purges) → St.Purge s.kind s (s.runOps ops)
  | [], s, _ => .refl s
  | op :: ops, s, h => by
    have h2 := St.runOps_purge ops (s.stepOp op).1 fun o ho => h o (by simp [ho])
    rw [St.stepOp_kind] at h2
    exact (St.stepOp_purge s (h op (by simp))).trans h2

/-! ### the `Add`/`Rem` histories

`St.step` runs `Rem` under its second name `St.remOK` (RulioModel/StateInv). -/

/-- an operation of an `Add`/`Rem` history, as an operation of the `State` interface -/
def StOp.toROp : StOp → ROp
  | .add id x now => .add id x now
  | .rem id now => .rem id now

theorem St.step_eq (s : St) (op : StOp) : s.step op = (s.stepOp op.toROp).1 := by
  cases op with
  | add id x now => rfl
  | rem id now => exact congrArg Prod.fst (St.rem_eq_remOK s id now).symm

theorem St.run_eq (ops : List StOp) (s : St) : s.run ops = s.runOps (ops.map StOp.toROp) := by
  induction ops generalizing s with
  | nil => rfl
  | cons op ops ih => exact (ih (s.step op)).trans (by rw [St.step_eq]; rfl)

/-! ## pointwise invariants -/

namespace St.All
variable {P : String × Obj → Prop} {s s' : St}

theorem clear : St.All P s.clear := fun _ he => nomatch he

theorem added {g : String} {x : Obj} {now : Int} {id : String} {m : Obj} (h : St.All P s)
    (ha : Added s s' g x now id m) (hnew : P (id, memForm s.kind m)) : St.All P s' := by
  intro e he
  rw [ha.facts] at he
  rcases AM.mem_amSet he with rfl | he
  · exact hnew
  · exact h e he.1

/-- `Add` keeps it if the fact it stores, the in-memory form of the prepared fact, has it -/
theorem add (h : St.All P s) {g : String} {x : Obj} {now : Int}
    (hnew : ∀ id m x', prepareFact g s.freshId x now = .ok (id, m, x') → P (id, memForm s.kind m)) :
    St.All P (s.add g x now).1 := by
  rcases add_shape s g x now with ⟨_, _, hf⟩ | ⟨id, m, _, ha⟩
  · exact h.congr hf.facts
  · obtain ⟨x', hp⟩ := ha.prep
    exact h.added ha (hnew id m x' hp)

theorem stepOp (h : St.All P s) (op : ROp)
    (hadd : ∀ g x now, op = .add g x now →
      ∀ id m x', prepareFact g s.freshId x now = .ok (id, m, x') → P (id, memForm s.kind m)) :
    St.All P (s.stepOp op).1 := by
  cases op with
  | add g x now => exact h.add (hadd g x now rfl)
  | clear => exact St.All.clear
  | _ => exact h.purge (St.stepOp_purge s trivial)

end St.All
