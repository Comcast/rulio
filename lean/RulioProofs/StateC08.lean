import RulioProofs.StateCascade

/-! # C08 assembly: termination, exactness, durability for the public `rem` -/

theorem irem_var_ne_fuel (s : St) (id : String) (now : Int) (hv : isVar id = true) (f : Nat) :
    (St.irem (f + 2) s id now).2 ≠ .error "fuel" := by
  rw [St.irem_succ]
  cases amGet s.facts id with
  | some fact =>
    simp only
    cases hu : s.unindexOf id fact with
    | error e => simp only; intro h; injection h with h; exact unindexOf_err_ne_fuel hu h
    | ok s1 => simp only; rw [St.ideps_succ]; simp [hv, Except.map]
  | none => simp only; rw [St.ideps_succ]; simp [hv, Except.map]

theorem lrem_var_ne_fuel (s : St) (id : String) (now : Int) (hv : isVar id = true) (f : Nat) :
    (St.lrem (f + 1) s id now).2 ≠ .error "fuel" := by
  rw [St.lrem_succ]; simp [hv]

/-- `rem` of a non-variable id with at least the budget `St.fuelOK`, in a well-formed state where nothing but `id` is
expired: termination, exactness and the possible errors of C08 are readings of this -/
theorem remWith_total {s : St} {now : Int} {id : String} {g : Nat} (h : WF s) (hne : NoneExpiredBut s id now)
    (hid : isVar id = false) (hg : s.fuelOK ≤ g) :
    CascOut (fun s => s.kind = .indexed → UnindexOK s) s [id] (s.remWith g id now) (amHas s.facts id) := by
  simp only [St.remWith]
  simp only [St.fuelOK] at hg
  -- the cascade needs `3·|facts| + tiWidth + 6` (indexed) or `2·|facts| + 4` (linear); `St.fuel`, `6·|facts| + 12 +
  -- tiWidth`, is about twice that
  cases hk : s.kind with
  | indexed =>
    exact (((icascade now).total g).1 s id h hk hne hid (.inl (by omega))).imp_right fun ⟨hn, he⟩ => ⟨fun h' => hn (h' hk), he⟩
  | linear =>
    exact (((lcascade now).total g).1 s id h hk hne hid (.inl (by omega))).imp_right fun ⟨hn, he⟩ => ⟨fun _ => hn trivial, he⟩

theorem remWith_ne_fuel {s : St} {now : Int} (h : WF s) (id : String) (hne : NoneExpiredBut s id now)
    {g : Nat} (hg : s.fuelOK ≤ g) : (s.remWith g id now).2 ≠ .error "fuel" := by
  cases hv : isVar id with
  | false => exact (remWith_total h hne hv hg).ne_fuel
  | true =>
    simp only [St.remWith]
    simp only [St.fuelOK] at hg
    obtain ⟨g', rfl⟩ : ∃ g', g = g' + 2 := ⟨g - 2, by omega⟩
    cases s.kind with
    | indexed => exact irem_var_ne_fuel s id now hv g'
    | linear => exact lrem_var_ne_fuel s id now hv (g' + 1)

theorem remWith_ok {s : St} {now : Int} {id : String} {g : Nat} (h : WF s) (hne : NoneExpiredBut s id now)
    (hid : isVar id = false) (hun : s.kind = .indexed → UnindexOK s) (hg : s.fuelOK ≤ g) :
    ∃ s' b, s.remWith g id now = (s', .ok b) :=
  ⟨_, _, Prod.ext rfl ((remWith_total h hne hid hg).resolve_right fun h' => h'.1 hun).1⟩

/-- What a `Rem id` that answered `b` has made of `s`, in the terms of the specification: the facts left are
`specRem s.facts id`, `b` says whether `id` was in memory, storage has lost every id of the closure of `id` that was in
memory, and nothing outside the closure. (Of an id of the closure that is in storage but not in memory nothing is said:
there the two kinds differ, as the Go code does.) -/
structure RemSpec (s s' : St) (id : String) (b : Bool) : Prop where
  facts : s'.facts = specRem s.facts id
  flag : b = amHas s.facts id
  store_gone : ∀ k, k ∈ closure s.facts [id] → amHas s.facts k = true → amGet s'.store k = none
  store_kept : ∀ k, k ∉ closure s.facts [id] → amGet s'.store k = amGet s.store k

theorem remWith_spec {s s' : St} {now : Int} {id : String} {b : Bool} {g : Nat} (h : WF s) (hne : NoneExpiredBut s id now)
    (hid : isVar id = false) (hg : s.fuelOK ≤ g) (hr : s.remWith g id now = (s', .ok b)) : RemSpec s s' id b := by
  rcases remWith_total h hne hid hg with ⟨hv, D, hD⟩ | ⟨_, e, he, _⟩
  · rw [hr] at hv hD
    obtain ⟨hf, hiff⟩ := hD.exact
    refine ⟨hf, by injection hv, fun k hk hhas => ?_, fun k hk => ?_⟩
    · have hkeys : k ∈ keysOf s.facts := by
        rw [AM.amHas_eq] at hhas; exact (AM.amGet_isSome_iff _ _).1 hhas
      rw [hD.store, amGet_filterOut, if_pos ((hiff k hkeys).2 hk)]
    · rw [hD.store, amGet_filterOut, if_neg (fun h => hk (hD.sound k h))]
  · rw [hr] at he; cases he

theorem remWith_answers {s : St} {now : Int} {id : String} {g : Nat} (h : WF s) (hne : NoneExpiredBut s id now)
    (hid : isVar id = false) (hun : s.kind = .indexed → UnindexOK s) (hg : s.fuelOK ≤ g) :
    ∃ s' b, s.remWith g id now = (s', .ok b) ∧ RemSpec s s' id b :=
  have ⟨s', b, hr⟩ := remWith_ok h hne hid hun hg
  ⟨s', b, hr, remWith_spec h hne hid hg hr⟩

/-! ## deletion triggered by expiry (`Get` of an expired fact) -/

theorem getOK_expired {s : St} {id : String} {fact : Obj} {now : Int} (hwf : WF s)
    (hg : amGet s.facts id = some fact) (hx : checkExpiration fact now = .ok true)
    (hne : NoneExpiredBut s id now) (hun : s.kind = .indexed → UnindexOK s) :
    ∃ s' b, RemSpec s s' id b ∧ s.getOK id now = (s', .error "notFound") := by
  have hid : isVar id = false := hwf.ids (id, fact) (AM.amGet_mem hg)
  obtain ⟨s', b, hr, hs⟩ := remWith_answers (g := s.fuelOK) hwf hne hid hun (Nat.le_refl _)
  rw [← St.remOK_eq_remWith] at hr
  refine ⟨s', b, hs, ?_⟩
  simp only [St.getOK, hg, hx, hr]

/-! ## Boolean checks for concrete states (used by the non-vacuity examples) -/

def noneExpiredB (s : St) (now : Int) : Bool :=
  s.facts.all (fun e => match checkExpiration e.2 now with | .ok false => true | _ => false)

theorem noneExpired_of_check {s : St} {now : Int} (h : noneExpiredB s now = true) : NoneExpired s now :=
  St.All.of_all h fun e he => by split at he <;> first | assumption | cases he

def unindexOKB (s : St) : Bool := s.facts.all (fun e => !unindexErr e.1 e.2)

theorem unindexOK_of_check {s : St} (h : unindexOKB s = true) : UnindexOK s :=
  St.All.of_all h fun e he => by simpa using he

def noneExpiredButB (s : St) (id : String) (now : Int) : Bool :=
  s.facts.all (fun e => e.1 == id || (match checkExpiration e.2 now with | .ok false => true | _ => false))

theorem noneExpiredBut_of_check {s : St} {id : String} {now : Int} (h : noneExpiredButB s id now = true) :
    NoneExpiredBut s id now :=
  St.All.of_all h fun e he hne => by
    simp only [Bool.or_eq_true, beq_iff_eq, hne, false_or] at he
    split at he <;> first | assumption | cases he

def expiredB (s : St) (id : String) (now : Int) : Bool :=
  match amGet s.facts id with
  | some f => (match checkExpiration f now with | .ok true => true | _ => false)
  | none => false

theorem expired_of_check {s : St} {id : String} {now : Int} (h : expiredB s id now = true) :
    ∃ fact, amGet s.facts id = some fact ∧ checkExpiration fact now = .ok true := by
  simp only [expiredB] at h
  split at h
  · rename_i f hf
    split at h
    · rename_i hx; exact ⟨f, hf, hx⟩
    · cases h
  · cases h
