import RulioModel.QuerySpec
import RulioProofs.AssocMap
import RulioProofs.ExceptBind

/-! # Query evaluation and `ParseQuery` (C03)

Each equation of the model's functions (`execQ` and its companions, `parseQuery`) is stated once, as a
theorem of its own, and everything after it, `Props/C03.lean` included, goes through those. All operators except
`and` work binding by binding (`bindEach`); from that the compositional law `exec_additive` follows. -/

namespace QueryProofs
open QSpec

theorem bind_of_ok {α β} (x : Except LErr α) (a : α) (g : α → Except LErr β) (h : x = .ok a) :
    (do let r ← x; g r) = g a := by rw [h]; rfl
theorem bind_of_err {α β} (x : Except LErr α) (e : LErr) (g : α → Except LErr β) (h : x = .error e) :
    (do let r ← x; g r) = .error e := by rw [h]; rfl

/-! `Pointwise` (QuerySpec, the relation the statements of C03 and C04 are written with) has the constructors of core's
`List.Forall₂` and is a type of its own; what is needed of it is proved here (`mapM_of_forall₂`, `bindEach_ok_forall₂`
are about `Pointwise` as well). -/

theorem mapM_of_forall₂ {α β} (f : α → Except LErr β) :
    ∀ (l : List α) (r : List β), Pointwise (fun x y => f x = .ok y) l r → l.mapM f = .ok r
  := by
  intro l r h
  induction h with
  | nil => rfl
  | cons h _ ih => rw [List.mapM_cons, h, ih]; rfl

theorem pointwise_map {α β} (R : α → β → Prop) (f : α → β) :
    ∀ (l : List α), (∀ x ∈ l, R x (f x)) → Pointwise R l (l.map f)
  | [], _ => .nil
  | x :: xs, h => .cons (h x List.mem_cons_self) (pointwise_map R f xs fun y hy => h y (List.mem_cons_of_mem _ hy))

theorem pointwise_refl {α} (R : α → α → Prop) (l : List α) (h : ∀ x ∈ l, R x x) : Pointwise R l l := by
  induction l with
  | nil => exact .nil
  | cons x xs ih => exact .cons (h x List.mem_cons_self) (ih fun y hy => h y (List.mem_cons_of_mem _ hy))

theorem pointwise_append {α β} {R : α → β → Prop} {l₁ l₂ : List α} {m₁ m₂ : List β}
    (h₁ : Pointwise R l₁ m₁) (h₂ : Pointwise R l₂ m₂) : Pointwise R (l₁ ++ l₂) (m₁ ++ m₂) := by
  induction h₁ with
  | nil => exact h₂
  | cons h _ ih => exact .cons h ih

/-- `mapM`, then a function of the results that distributes over the list (`flatten` for `bindEach`, `filterMap id`
for `dispatch`): one more element in front -/
theorem mapM_then_cons {α β γ} (f : α → Except LErr β) (g : List β → List γ) (s : β → List γ)
    (hc : ∀ x xs, g (x :: xs) = s x ++ g xs) (a : α) (l : List α) :
    (do let r ← (a :: l).mapM f; pure (g r)) =
      (do let x ← f a; let rs ← (do let r ← l.mapM f; pure (g r)); pure (s x ++ rs)) := by
  rw [List.mapM_cons]
  cases f a with
  | error e => rfl
  | ok x =>
    cases l.mapM f with
    | error e => rfl
    | ok r => exact congrArg Except.ok (hc x r)

theorem mapM_then_append {α β γ} (f : α → Except LErr β) (g : List β → List γ)
    (hg : ∀ r₁ r₂, g (r₁ ++ r₂) = g r₁ ++ g r₂) (l₁ l₂ : List α) :
    (do let r ← (l₁ ++ l₂).mapM f; pure (g r)) =
      (do let r₁ ← (do let r ← l₁.mapM f; pure (g r)); let r₂ ← (do let r ← l₂.mapM f; pure (g r));
          pure (r₁ ++ r₂)) := by
  rw [List.mapM_append]
  cases l₁.mapM f with
  | error e => rfl
  | ok r₁ =>
    cases l₂.mapM f with
    | error e => rfl
    | ok r₂ => exact congrArg Except.ok (hg r₁ r₂)

theorem bindEach_nil (f : Bs → Except LErr (List Bs)) : bindEach f [] = .ok [] := rfl

theorem bindEach_cons (f : Bs → Except LErr (List Bs)) (b : Bs) (bs : List Bs) :
    bindEach f (b :: bs) = (do let r ← f b; let rs ← bindEach f bs; pure (r ++ rs)) :=
  mapM_then_cons f List.flatten id (fun _ _ => rfl) b bs

theorem bindEach_single (f : Bs → Except LErr (List Bs)) (b : Bs) : bindEach f [b] = f b := by
  rw [bindEach_cons]
  cases f b with
  | error e => rfl
  | ok r => exact congrArg Except.ok (List.append_nil r)

theorem bindEach_append (f : Bs → Except LErr (List Bs)) (b₁ b₂ : List Bs) :
    bindEach f (b₁ ++ b₂) = (do let r₁ ← bindEach f b₁; let r₂ ← bindEach f b₂; pure (r₁ ++ r₂)) :=
  mapM_then_append f List.flatten (fun _ _ => List.flatten_append) b₁ b₂

theorem bindEach_ok_of_forall (f : Bs → Except LErr (List Bs)) (g : Bs → List Bs) (bss : List Bs)
    (h : ∀ bs ∈ bss, f bs = .ok (g bs)) : bindEach f bss = .ok (bss.flatMap g) := by
  induction bss with
  | nil => rfl
  | cons b bs ih =>
    rw [bindEach_cons, h b List.mem_cons_self, ih fun x hx => h x (List.mem_cons_of_mem _ hx), List.flatMap_cons]
    rfl

theorem bindEach_all_nil (f : Bs → Except LErr (List Bs)) (bss : List Bs) (h : ∀ bs ∈ bss, f bs = .ok []) :
    bindEach f bss = .ok [] := by
  rw [bindEach_ok_of_forall f (fun _ => []) bss h]
  exact congrArg Except.ok (List.flatMap_eq_nil_iff.2 fun _ _ => rfl)

theorem bindEach_err_of_mem (f : Bs → Except LErr (List Bs)) (bss : List Bs) (bs : Bs) (e : LErr)
    (hm : bs ∈ bss) (h : f bs = .error e) : ∃ e', bindEach f bss = .error e' := by
  induction bss with
  | nil => cases hm
  | cons b rest ih =>
    rw [bindEach_cons]
    cases hb : f b with
    | error e' => exact ⟨e', rfl⟩
    | ok r =>
      cases hm with
      | head => rw [hb] at h; cases h
      | tail _ hm => obtain ⟨e', he'⟩ := ih hm; exact ⟨e', by rw [he']; rfl⟩

theorem bindEach_ok_forall₂ (f : Bs → Except LErr (List Bs)) (bss : List Bs) (r : List Bs)
    (h : bindEach f bss = .ok r) :
    ∃ per, Pointwise (fun bs x => f bs = .ok x) bss per ∧ r = per.flatten := by
  induction bss generalizing r with
  | nil => rw [bindEach_nil] at h; cases h; exact ⟨[], .nil, rfl⟩
  | cons b bs ih =>
    rw [bindEach_cons] at h
    obtain ⟨x, hb, h⟩ := Except.bind_eq_ok.1 h
    obtain ⟨rs, hbs, h⟩ := Except.bind_eq_ok.1 h
    obtain ⟨per, hp, rfl⟩ := ih rs hbs
    exact ⟨x :: per, .cons hb hp, by cases h; rfl⟩

theorem additive_congr {F G : List Bs → Except LErr (List Bs)} (h : ∀ bss, F bss = G bss) (hG : Additive G) :
    Additive F := by
  rw [funext h]; exact hG

theorem additive_of_append (F : List Bs → Except LErr (List Bs))
    (h : ∀ b₁ b₂, F (b₁ ++ b₂) = (do let r₁ ← F b₁; let r₂ ← F b₂; pure (r₁ ++ r₂))) : Additive F := by
  intro b₁ b₂
  rw [h]
  refine ⟨fun r₁ r₂ h1 h2 => by rw [h1, h2]; rfl, fun e h1 => ⟨e, by rw [h1]; rfl⟩, fun e h2 => ?_⟩
  cases F b₁ with
  | error e' => exact ⟨e', rfl⟩
  | ok r => exact ⟨e, by rw [h2]; rfl⟩

theorem bindEach_additive (f : Bs → Except LErr (List Bs)) : Additive (bindEach f) :=
  additive_of_append _ (bindEach_append f)

theorem additive_id : Additive (Except.ok : List Bs → Except LErr (List Bs)) :=
  additive_of_append _ fun _ _ => rfl

/-- additive functions compose; the error of the whole need not be that of the part, since `g` runs on all of
`f`'s result for the first part only after `f` has run on the second -/
theorem additive_comp (f g : List Bs → Except LErr (List Bs)) (hf : Additive f) (hg : Additive g) :
    Additive (fun bss => do let r ← f bss; g r) := by
  intro b₁ b₂
  obtain ⟨hf1, hf2, hf3⟩ := hf b₁ b₂
  have fails : ∀ e', f (b₁ ++ b₂) = .error e' → ∃ e'', (do let r ← f (b₁ ++ b₂); g r) = .error e'' :=
    fun e' he' => ⟨e', by rw [he']; rfl⟩
  dsimp only
  cases e1 : f b₁ with
  | error e₁ =>
    obtain ⟨e', he'⟩ := hf2 e₁ e1
    exact ⟨fun _ _ h1 _ => (nomatch h1), fun _ _ => fails e' he', fun _ _ => fails e' he'⟩
  | ok s₁ =>
    cases e2 : f b₂ with
    | error e₂ =>
      obtain ⟨e', he'⟩ := hf3 e₂ e2
      exact ⟨fun _ _ _ h2 => (nomatch h2), fun _ _ => fails e' he', fun _ _ => fails e' he'⟩
    | ok s₂ =>
      rw [hf1 s₁ s₂ e1 e2]
      exact hg s₁ s₂

/-! ## the equations of `execQ`; each operator other than `and` works binding by binding -/

theorem q_induct {P : Q → Prop} (empty : P .empty) (pattern : ∀ p l, P (.pattern p l)) (code : ∀ t, P (.code t))
    (and : ∀ qs, (∀ q ∈ qs, P q) → P (.and qs)) (or : ∀ qs sc, (∀ q ∈ qs, P q) → P (.or qs sc))
    (not : ∀ q, P q → P (.not q)) : ∀ q, P q :=
  Q.rec (motive_1 := P) (motive_2 := fun qs => ∀ q ∈ qs, P q) empty pattern code and or not
    (fun _ h => nomatch h)
    (fun _ _ hq hqs _ h => by
      cases h with
      | head => exact hq
      | tail _ h => exact hqs _ h)

theorem subst_obj (bs : Bs) (p : Obj) : subst bs (.obj p) = .obj (substO bs p) := by
  rw [subst]

theorem exec_empty_eq (srch : Srch) (bss : List Bs) : execQ srch .empty bss = .ok bss := execQ.eq_1 srch bss

theorem exec_pattern_eq (srch : Srch) (p : Obj) (l : List String) (bss : List Bs) :
    execQ srch (.pattern p l) bss = bindEach (patOne srch p) bss := by
  rw [execQ.eq_2]; unfold bindEach patOne
  simp only [subst_obj]

theorem exec_code_eq (srch : Srch) (t : J) (bss : List Bs) :
    execQ srch (.code t) bss = bindEach (codeOne t) bss := execQ.eq_3 srch bss t

theorem exec_and_execAnd (srch : Srch) (qs : List Q) (bss : List Bs) :
    execQ srch (.and qs) bss = execAnd srch qs bss := execQ.eq_4 srch bss qs

theorem execAnd_nil (srch : Srch) (bss : List Bs) : execAnd srch [] bss = .ok bss := execAnd.eq_1 srch bss

theorem execAnd_cons (srch : Srch) (q : Q) (qs : List Q) (bss : List Bs) :
    execAnd srch (q :: qs) bss = (do let r ← execQ srch q bss; execAnd srch qs r) := execAnd.eq_2 srch bss q qs

theorem execAnd_eq_foldlM (srch : Srch) : ∀ (qs : List Q) (bss : List Bs),
    execAnd srch qs bss = qs.foldlM (fun acc q => execQ srch q acc) bss
  | [], bss => execAnd_nil srch bss
  | q :: qs, bss => by
    rw [execAnd_cons, List.foldlM_cons]
    cases execQ srch q bss with
    | error e => rfl
    | ok r => exact execAnd_eq_foldlM srch qs r

theorem exec_or_eq (srch : Srch) (qs : List Q) (sc : Bool) (bss : List Bs) :
    execQ srch (.or qs sc) bss = bindEach (execOr srch qs sc) bss := execQ.eq_5 srch bss qs sc

theorem execOr_nil (srch : Srch) (sc : Bool) (bs : Bs) : execOr srch [] sc bs = .ok [] := execOr.eq_1 srch sc bs

theorem execOr_cons (srch : Srch) (q : Q) (qs : List Q) (sc : Bool) (bs : Bs) :
    execOr srch (q :: qs) sc bs = (do
      let more ← execQ srch q [bs]
      if sc && !more.isEmpty then pure more
      else do let rest ← execOr srch qs sc bs; pure (more ++ rest)) := execOr.eq_2 srch sc bs q qs

theorem exec_not_eq (srch : Srch) (q : Q) (bss : List Bs) :
    execQ srch (.not q) bss = bindEach (notOne (execQ srch q)) bss := by
  rw [execQ.eq_6]
  induction bss with
  | nil => exact execNot.eq_1 srch q
  | cons b bs ih =>
    rw [execNot.eq_2, bindEach_cons, ih]
    simp only [notOne]
    cases execQ srch q [b] with
    | error e => rfl
    | ok more =>
      cases bindEach (notOne (execQ srch q)) bs with
      | error e => rfl
      | ok r => cases more <;> rfl

/-! ## the compositional law -/

theorem execAnd_additive (srch : Srch) : ∀ qs, (∀ q ∈ qs, Additive (execQ srch q)) → Additive (execAnd srch qs)
  | [], _ => additive_congr (execAnd_nil srch) additive_id
  | q :: qs, h => additive_congr (execAnd_cons srch q qs)
      (additive_comp _ _ (h q List.mem_cons_self)
        (execAnd_additive srch qs fun x hx => h x (List.mem_cons_of_mem _ hx)))

theorem exec_additive (srch : Srch) : ∀ q, Additive (execQ srch q) :=
  q_induct (P := fun q => Additive (execQ srch q))
    (additive_congr (exec_empty_eq srch) additive_id)
    (fun p l => additive_congr (exec_pattern_eq srch p l) (bindEach_additive _))
    (fun t => additive_congr (exec_code_eq srch t) (bindEach_additive _))
    (fun qs ih => additive_congr (exec_and_execAnd srch qs) (execAnd_additive srch qs ih))
    (fun qs sc _ => additive_congr (exec_or_eq srch qs sc) (bindEach_additive _))
    (fun q _ => additive_congr (exec_not_eq srch q) (bindEach_additive _))

theorem execAnd_of_nil (srch : Srch) : ∀ qs, (∀ q ∈ qs, execQ srch q [] = .ok []) → execAnd srch qs [] = .ok []
  | [], _ => execAnd_nil srch []
  | q :: qs, h => by
    rw [execAnd_cons, bind_of_ok _ _ _ (h q List.mem_cons_self)]
    exact execAnd_of_nil srch qs fun x hx => h x (List.mem_cons_of_mem _ hx)

theorem exec_nil (srch : Srch) (q : Q) : execQ srch q [] = .ok [] :=
  q_induct (P := fun q => execQ srch q [] = .ok [])
    (exec_empty_eq srch [])
    (fun p l => exec_pattern_eq srch p l [])
    (fun t => exec_code_eq srch t [])
    (fun qs ih => (exec_and_execAnd srch qs []).trans (execAnd_of_nil srch qs ih))
    (fun qs sc _ => exec_or_eq srch qs sc [])
    (fun q _ => exec_not_eq srch q [])
    q

theorem exec_singletons (srch : Srch) (q : Q) : ∀ (bss : List Bs) (r : List Bs),
    execQ srch q bss = .ok r →
    ∃ per, Pointwise (fun bs x => execQ srch q [bs] = .ok x) bss per ∧ r = per.flatten
  | [], r, h => by
    rw [exec_nil] at h; cases h; exact ⟨[], .nil, rfl⟩
  | b :: bs, r, h => by
    obtain ⟨h1, h2, h3⟩ := exec_additive srch q [b] bs
    have h' : execQ srch q ([b] ++ bs) = .ok r := h
    cases e1 : execQ srch q [b] with
    | error e => obtain ⟨e', he'⟩ := h2 e e1; rw [he'] at h'; cases h'
    | ok r₁ =>
      cases e2 : execQ srch q bs with
      | error e => obtain ⟨e', he'⟩ := h3 e e2; rw [he'] at h'; cases h'
      | ok r₂ =>
        rw [h1 r₁ r₂ e1 e2] at h'
        cases h'
        obtain ⟨per, hp, hr⟩ := exec_singletons srch q bs r₂ e2
        exact ⟨r₁ :: per, .cons e1 hp, by rw [hr]; rfl⟩

/-! ## one incoming binding: `pattern`, `not`, `or` -/

theorem exec_pattern_one (srch : Srch) (p : Obj) (l : List String) (bs : Bs) (found : List Bs)
    (h : srch (substO bs p) = .ok found) : execQ srch (.pattern p l) [bs] = .ok (found.map (extendBs bs)) := by
  rw [exec_pattern_eq, bindEach_single]; unfold patOne; rw [h]; rfl

theorem exec_not_filter (srch : Srch) (q : Q) (res : Bs → List Bs) (bss : List Bs)
    (h : ∀ bs ∈ bss, execQ srch q [bs] = .ok (res bs)) :
    execQ srch (.not q) bss = .ok (bss.filter (fun bs => (res bs).isEmpty)) := by
  rw [exec_not_eq, bindEach_ok_of_forall _ (fun bs => if (res bs).isEmpty then [bs] else []) bss]
  · congr 1
    clear h
    induction bss with
    | nil => rfl
    | cons b bs ih =>
      rw [List.flatMap_cons, ih, List.filter_cons]
      cases (res b).isEmpty <;> rfl
  · intro bs hm
    unfold notOne; rw [bind_of_ok _ _ _ (h bs hm)]; rfl

theorem execOr_cons_err (srch : Srch) (q : Q) (qs : List Q) (sc : Bool) (bs : Bs) (e : LErr)
    (h : execQ srch q [bs] = .error e) : execOr srch (q :: qs) sc bs = .error e := by
  rw [execOr_cons, bind_of_err _ e _ h]

theorem execOr_cons_empty (srch : Srch) (q : Q) (qs : List Q) (sc : Bool) (bs : Bs)
    (h : execQ srch q [bs] = .ok []) : execOr srch (q :: qs) sc bs = execOr srch qs sc bs := by
  rw [execOr_cons, bind_of_ok _ _ _ h, if_neg (by simp)]
  cases execOr srch qs sc bs <;> rfl

theorem execOr_cons_sc (srch : Srch) (q : Q) (qs : List Q) (bs : Bs) (r : List Bs)
    (h : execQ srch q [bs] = .ok r) (hne : r ≠ []) : execOr srch (q :: qs) true bs = .ok r := by
  rw [execOr_cons, bind_of_ok _ _ _ h]
  cases r with
  | nil => exact absurd rfl hne
  | cons _ _ => rfl

theorem execOr_cons_nosc (srch : Srch) (q : Q) (qs : List Q) (bs : Bs) (r rest : List Bs)
    (h : execQ srch q [bs] = .ok r) (h2 : execOr srch qs false bs = .ok rest) :
    execOr srch (q :: qs) false bs = .ok (r ++ rest) := by
  rw [execOr_cons, bind_of_ok _ _ _ h, if_neg (by simp), bind_of_ok _ _ _ h2]; rfl

theorem execOr_all (srch : Srch) (bs : Bs) : ∀ (qs : List Q) (rs : List (List Bs)),
    Pointwise (fun q r => execQ srch q [bs] = .ok r) qs rs → execOr srch qs false bs = .ok rs.flatten
  := by
  intro qs rs h
  induction h with
  | nil => exact execOr_nil srch false bs
  | cons h _ ih => exact execOr_cons_nosc srch _ _ bs _ _ h ih

theorem execOr_first (srch : Srch) (bs : Bs) : ∀ (qs : List Q) (rs : List (List Bs)),
    Pointwise (fun q r => execQ srch q [bs] = .ok r) qs rs → execOr srch qs true bs = .ok (orFirst rs)
  := by
  intro qs rs h
  induction h with
  | nil => exact execOr_nil srch true bs
  | @cons q r qs rs h _ ih =>
    cases r with
    | nil => rw [execOr_cons_empty srch q qs true bs h, ih]; rfl
    | cons x xs => rw [execOr_cons_sc srch q qs bs _ h (List.cons_ne_nil x xs)]; rfl

theorem execOr_skip_empty (srch : Srch) (sc : Bool) (bs : Bs) (rest : List Q) : ∀ (pre : List Q),
    (∀ q ∈ pre, execQ srch q [bs] = .ok []) → execOr srch (pre ++ rest) sc bs = execOr srch rest sc bs
  | [], _ => rfl
  | q :: pre, h => by
    rw [List.cons_append, execOr_cons_empty srch q _ sc bs (h q List.mem_cons_self)]
    exact execOr_skip_empty srch sc bs rest pre fun q' hq' => h q' (List.mem_cons_of_mem _ hq')

theorem execOr_nosc_err (srch : Srch) (bs : Bs) (q : Q) (post : List Q) (e : LErr) : ∀ (pre : List Q),
    (∀ q' ∈ pre, ∃ r, execQ srch q' [bs] = .ok r) → execQ srch q [bs] = .error e →
    execOr srch (pre ++ q :: post) false bs = .error e
  | [], _, he => execOr_cons_err srch q post false bs e he
  | p :: pre, h, he => by
    obtain ⟨r, hr⟩ := h p List.mem_cons_self
    rw [List.cons_append, execOr_cons, bind_of_ok _ _ _ hr, if_neg (by simp),
      bind_of_err _ e _ (execOr_nosc_err srch bs q post e pre (fun q' hq' => h q' (List.mem_cons_of_mem _ hq')) he)]

/-! ## bindings as association lists -/

theorem get?_nil (k : String) : Bs.get? [] k = none := by rw [Bs.get?]

theorem get?_cons (k k' : String) (v : J) (r : Bs) :
    Bs.get? ((k', v) :: r) k = if k == k' then some v else Bs.get? r k := by
  rw [Bs.get?]

theorem filter_ne_of_get?_none (bs : Bs) (k : String) (h : Bs.get? bs k = none) : bs.filter (fun p => p.1 != k) = bs := by
  induction bs with
  | nil => rfl
  | cons kv bs ih =>
    rw [get?_cons] at h
    by_cases hk : k = kv.1
    · rw [if_pos (by simpa using hk)] at h; cases h
    · rw [if_neg (by simpa using hk)] at h
      rw [List.filter_cons, if_pos (by simpa using fun e => hk e.symm), ih h]

/-- `ExtendBindings` is a right-biased merge: the *last* entry of `y` for `k` wins, else `x`'s -/
theorem extendBs_get_last (x y : Bs) (k : String) :
    Bs.get? (extendBs x y) k = (Bs.getLast? y k).or (Bs.get? x k) := by
  unfold extendBs Bs.getLast?
  induction y generalizing x with
  | nil => rw [List.reverse_nil, get?_nil]; rfl
  | cons kv y ih =>
    rw [List.foldl_cons, ih, List.reverse_cons, Bs.get?_append, Bs.get?_set, get?_cons, get?_nil]
    cases Bs.get? y.reverse k with
    | some v => rfl
    | none => by_cases h : k = kv.1 <;> simp [h]

theorem extendBs_get (x y : Bs) (k : String) (hn : (y.map (·.1)).Nodup) :
    Bs.get? (extendBs x y) k = (Bs.get? y k).or (Bs.get? x k) := by
  have hr : (y.reverse.map (·.1)).Nodup := by
    rw [List.map_reverse]; exact List.pairwise_reverse.mpr (hn.imp Ne.symm)
  have : Bs.getLast? y k = Bs.get? y k :=
    Option.ext fun v => by rw [Bs.getLast?, Bs.get?_eq_some_iff _ k v hr, Bs.get?_eq_some_iff _ k v hn, List.mem_reverse]
  rw [extendBs_get_last, this]

/-! ## the template family: the two templates that theorems and instances name -/

theorem evalTmpl_echo (o : Obj) (env : Bs) (h : Obj.get? o "t" = some (.str "echo")) :
    evalTmpl (.obj o) env = .ok (.obj env) := by
  simp [evalTmpl, h]

theorem evalTmpl_throw (o : Obj) (env : Bs) (h : Obj.get? o "t" = some (.str "throw")) :
    evalTmpl (.obj o) env = .error "script" := by
  simp [evalTmpl, h]

/-! ## `ParseQuery` -/

theorem parse_fuel0 (j : J) : parseQuery 0 j = .error "fuel" := rfl

theorem parse_empty (n : Nat) : parseQuery (n + 1) (.obj []) = .ok .empty := rfl

theorem parse_nonmap (n : Nat) (j : J) (h : ∀ o, j ≠ .obj o) : parseQuery (n + 1) j = .error "syntax" := by
  cases j with
  | obj o => exact absurd rfl (h o)
  | _ => rfl

theorem parse_obj (n : Nat) (q : Obj) (hne : q ≠ []) :
    parseQuery (n + 1) (.obj q) =
      if Obj.has q "code" then
        (if Obj.has q "verif_bad" then .error "syntax" else .ok (.code ((Obj.get? q "verif_tmpl").getD .null)))
      else if Obj.has q "pattern" then
        (match Obj.get? q "pattern" with
         | some (.obj p) => .ok (.pattern p [])
         | _ => .error "syntax")
      else if Obj.has q "and" then
        (match Obj.get? q "and" with
         | some (.arr xs) => do let qs ← xs.mapM (parseQuery n); pure (.and qs)
         | _ => .error "syntax")
      else if Obj.has q "or" then
        (match Obj.get? q "or" with
         | some (.arr xs) => do
           let qs ← xs.mapM (parseQuery n)
           let sc ← (match (scKeys.filterMap (Obj.get? q)).head? with
             | none => pure false
             | some (.bool b) => pure b
             | some _ => .error "syntax" : Except LErr Bool)
           pure (.or qs sc)
         | _ => .error "syntax")
      else if Obj.has q "not" then
        (match Obj.get? q "not" with
         | some (.obj a) => do let q' ← parseQuery n (.obj a); pure (.not q')
         | _ => .error "syntax")
      else .error "syntax" := by
  cases q with
  | nil => exact absurd rfl hne
  | cons kv r => rfl

/-- the first of the listed spellings that is present, read off the values or off the keys -/
theorem sc_inline (q : Obj) (ks : List String) :
    (match (ks.filterMap (Obj.get? q)).head? with
      | none => pure false
      | some (.bool b) => pure b
      | some _ => .error "syntax" : Except LErr Bool) =
    (match ks.find? (Obj.has q) with
      | none => .ok false
      | some k =>
        match Obj.get? q k with
        | some (.bool b) => .ok b
        | _ => .error "syntax") := by
  induction ks with
  | nil => rfl
  | cons k ks ih =>
    have hh : Obj.has q k = (Obj.get? q k).isSome := rfl
    cases h : Obj.get? q k with
    | none => rw [List.filterMap_cons, h, List.find?_cons, hh, h]; exact ih
    | some v =>
      rw [List.filterMap_cons, h, List.find?_cons, hh, h, List.head?_cons]
      simp only [h, Option.isSome_some]
      cases v <;> rfl

theorem sz_pos (j : J) : 1 ≤ sz j := by cases j <;> simp [sz] <;> omega

theorem sz_mem_le {x : J} {xs : List J} (h : x ∈ xs) : sz x ≤ szL xs := by
  induction xs with
  | nil => cases h
  | cons y ys ih =>
    rw [szL]
    cases h with
    | head => omega
    | tail _ h => have := ih h; omega

theorem sz_lookup_le {k : String} {q : List (String × J)} {v : J} (h : lookupKey k q = some v) : sz v ≤ szO q := by
  induction q with
  | nil => simp [lookupKey] at h
  | cons kv r ih =>
    obtain ⟨k', w⟩ := kv
    rw [szO]
    rw [lookupKey] at h
    by_cases hk : (k == k') = true
    · rw [if_pos hk] at h; cases h; omega
    · rw [if_neg hk] at h; have := ih h; omega

theorem parse_fuel_irrelevant : ∀ (n m : Nat) (j : J), sz j ≤ n → sz j ≤ m → parseQuery n j = parseQuery m j
  | 0, _, j, h, _ => by have := sz_pos j; omega
  | _, 0, j, _, h => by have := sz_pos j; omega
  | n + 1, m + 1, j, hn, hm => by
    cases j with
    | obj q =>
      by_cases hne : q = []
      · rw [hne, parse_empty, parse_empty]
      -- below the map, both fuels are large enough again
      have sub : ∀ k v, Obj.get? q k = some v → sz v ≤ n ∧ sz v ≤ m := fun k v hv => by
        have := sz_lookup_le hv; rw [sz] at hn hm; omega
      have subL : ∀ k xs, Obj.get? q k = some (.arr xs) → xs.mapM (parseQuery n) = xs.mapM (parseQuery m) :=
        fun k xs hv => mapM_congr _ _ xs fun x hx => by
          have := sub k _ hv; have := sz_mem_le hx; rw [sz] at *
          exact parse_fuel_irrelevant n m x (by omega) (by omega)
      -- the tests and the lookups are the same for both fuels; only the recursive calls differ
      rw [parse_obj n q hne, parse_obj m q hne]
      cases Obj.has q "code" with
      | true => rfl
      | false =>
      rw [if_neg Bool.false_ne_true, if_neg Bool.false_ne_true]
      cases Obj.has q "pattern" with
      | true => rfl
      | false =>
      rw [if_neg Bool.false_ne_true, if_neg Bool.false_ne_true]
      cases Obj.has q "and" with
      | true =>
        rw [if_pos rfl, if_pos rfl]
        cases hv : Obj.get? q "and" with
        | none => rfl
        | some v => cases v with
          | arr xs => dsimp only; rw [subL _ xs hv]
          | _ => rfl
      | false =>
      rw [if_neg Bool.false_ne_true, if_neg Bool.false_ne_true]
      cases Obj.has q "or" with
      | true =>
        rw [if_pos rfl, if_pos rfl]
        cases hv : Obj.get? q "or" with
        | none => rfl
        | some v => cases v with
          | arr xs => dsimp only; rw [subL _ xs hv]
          | _ => rfl
      | false =>
      rw [if_neg Bool.false_ne_true, if_neg Bool.false_ne_true]
      cases Obj.has q "not" with
      | true =>
        rw [if_pos rfl, if_pos rfl]
        cases hv : Obj.get? q "not" with
        | none => rfl
        | some v => cases v with
          | obj a =>
            dsimp only
            rw [parse_fuel_irrelevant n m (.obj a) (sub _ _ hv).1 (sub _ _ hv).2]
          | _ => rfl
      | false => rfl
    | _ => rw [parse_nonmap n _ (by simp), parse_nonmap m _ (by simp)]

/-! ## `StripQuestionMarks` -/

theorem stripQ_eq (bs : Bs) :
    stripQ bs = (bs.filter (fun kv => !kv.1.isEmpty)).map (fun kv => (stripKey kv.1, kv.2)) := rfl

theorem stripKey_var (s : String) : stripKey ("?" ++ s) = s := by
  unfold stripKey
  rw [if_pos (by simp)]
  simp
  rw [← String.toList_inj, String.toList_copy_drop]
  simp

theorem stripQ_nil : stripQ [] = [] := rfl

theorem stripQ_cons (k : String) (v : J) (bs : Bs) :
    stripQ ((k, v) :: bs) = if k = "" then stripQ bs else (stripKey k, v) :: stripQ bs := by
  rw [stripQ_eq, stripQ_eq, List.filter_cons]
  by_cases h : k = ""
  · subst h; simp
  · simp [h]

theorem stripQ_map_var (kvs : List (String × J)) : stripQ (kvs.map fun kv => ("?" ++ kv.1, kv.2)) = kvs := by
  induction kvs with
  | nil => rfl
  | cons kv kvs ih => rw [List.map_cons, stripQ_cons, if_neg (by simp), ih, stripKey_var]

end QueryProofs
