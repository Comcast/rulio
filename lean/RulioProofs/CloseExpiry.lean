import RulioProofs.StateAll
import RulioModel.CloseFrag

/-! # C07: what `Search` and `FindRules` return and purge, and the indexed `Get`

A completed read returns only stored facts that are not expired, and has purged the expired facts it met: the linear
`Search` all of them, the indexed reads those among their candidates whose removal can start.  For
`IndexedState.rem` fails *before* touching memory only when the stored rule cannot leave the pattern index
(`unindexErr`, decidable on the fact alone); every later failure (cascade, budget) happens after the fact has been
erased from memory and storage. Hence: an expired fact is purged by the observing call iff `unindexErr id fact = false`.

`St.readLoop_spec` says it once for the loop of a read; the four loops are instances (`lsearchLoop_spec`,
`isearchLoop_spec`, `iFindRules_go_spec`; the linear `FindRules` only for its results, `lFindRules_go_results`), and the
public `St.search_*`, `St.findRules_*`, `St.get_expired_indexed` are read off them; who the candidates of the indexed
`Search` are is `TI.mem_search` (StateBasic) and `CandsOf` (StateSearch). -/

/-- A completed read returns, beside what it started with, hits `H` of facts it looked at and found not expired. And of
its candidates every stored expired fact it looks at (`u`) is gone from memory and storage: the loop removed it (`herase`),
or an earlier removal's cascade did, and removals only erase (`Shrinks`). -/
theorem St.readLoop_spec {β : Type} {R : ReadOps β} {now : Int} {u : String → Obj → Prop} {H : St → β → Prop}
    (hH : ∀ {s s1 x}, Shrinks s s1 → H s1 x → H s x)
    (hrm : ∀ f s id, Shrinks s (R.rm f s id).1)
    (herase : ∀ f s id fact, amGet s.facts id = some fact → u id fact → amGet (R.rm (f + 1) s id).1.facts id = none)
    (hlook : ∀ s id fact, amGet s.facts id = some fact → u id fact → R.look s id = some fact)
    (hexp : ∀ fact b, R.exp fact = .ok b → (b = true ↔ checkExpiration fact now = .ok true))
    (htest : ∀ s id fact x, R.look s id = some fact → checkExpiration fact now ≠ .ok true →
      R.test s id fact = .ok (some x) → H s x) :
    ∀ f s ids acc s' out, St.readLoop R f s ids acc = (s', .ok out) →
      (∀ r ∈ out, r ∈ acc ∨ H s r) ∧
      ∀ j ∈ ids, ∀ fact, amGet s.facts j = some fact → checkExpiration fact now = .ok true → u j fact →
        amGet s'.facts j = none ∧ amGet s'.store j = none := by
  intro f
  induction f with
  | zero => intro s ids acc s' out h; cases h
  | succ f ih =>
    intro s ids acc s' out h
    cases ids with
    | nil => cases h; exact ⟨fun r hr => .inl hr, fun j hj => nomatch hj⟩
    | cons id rest =>
      rw [St.readLoop] at h
      -- a step that leaves the state alone and whose candidate is not to be purged: the rest is the induction hypothesis
      have same : (∀ fact, amGet s.facts id = some fact → checkExpiration fact now = .ok true → u id fact → False) →
          ∀ acc', St.readLoop R f s rest acc' = (s', .ok out) →
          (∀ r ∈ out, r ∈ acc' ∨ H s r) ∧ ∀ j ∈ id :: rest, ∀ fact, amGet s.facts j = some fact →
            checkExpiration fact now = .ok true → u j fact → amGet s'.facts j = none ∧ amGet s'.store j = none :=
        fun hid acc' h =>
          have ⟨h1, h2⟩ := ih s rest acc' s' out h
          ⟨h1, fun j hj fact hf hx hu => (List.mem_cons.1 hj).elim (fun e => (hid fact (e ▸ hf) hx (e ▸ hu)).elim)
            (h2 j · fact hf hx hu)⟩
      cases hl : R.look s id with
      | none =>
        rw [hl] at h
        exact same (fun fact hf _ hu => by rw [hlook s id fact hf hu] at hl; cases hl) acc h
      | some fact =>
        rw [hl] at h
        dsimp only at h
        -- the fact looked at is the stored one whenever the candidate is to be purged
        have live : checkExpiration fact now ≠ .ok true → ∀ fact', amGet s.facts id = some fact' →
            checkExpiration fact' now = .ok true → u id fact' → False := fun hx fact' hf hx' hu => by
          rw [hlook s id fact' hf hu] at hl; cases hl; exact hx hx'
        rcases he : R.exp fact with e | _ | _ <;> rw [he] at h
        · cases h
        · have hx : checkExpiration fact now ≠ .ok true := fun hx => nomatch (hexp fact _ he).2 hx
          dsimp only at h
          rcases ht : R.test s id fact with e | _ | x <;> rw [ht] at h
          · cases h
          · exact same (live hx) acc h
          · obtain ⟨h1, h2⟩ := same (live hx) _ h
            refine ⟨fun r hr => (h1 r hr).elim (fun hr => ?_) .inr, h2⟩
            rcases List.mem_append.1 hr with hr | hr
            · exact .inl hr
            · exact .inr (List.mem_singleton.1 hr ▸ htest s id fact x hl hx ht)
        · dsimp only at h
          rcases hr : (R.rm f s id).2 with _ | e <;> rw [hr] at h
          · -- removed; the loop went on in the state the removal left
            dsimp only at h
            have hk := hrm f s id
            have hk' : Shrinks (R.rm f s id).1 s' := by
              have := St.readLoop_rel Shrinks.refl Shrinks.trans hrm f (R.rm f s id).1 rest acc
              rwa [h] at this
            obtain ⟨h1, h2⟩ := ih _ rest acc s' out h
            refine ⟨fun r hr => (h1 r hr).imp_right (hH hk), fun j hj fact' hf hx hu => ?_⟩
            -- `j` fell with the removal's cascade, or is the removed candidate itself, or the rest of the loop purges it
            rcases hk.gone_or_same hf with hg | hs
            · exact hk'.gone hg.1 hg.2
            · rcases List.mem_cons.1 hj with rfl | hj
              · cases f with
                | zero => cases h
                | succ g => rw [herase g s j fact' hf hu] at hs; cases hs
              · exact h2 j hj fact' hs hx hu
          · cases h

/-! ## `Search` -/

theorem reTest_hit {p : Obj} {id : String} {fact : Obj} {x} (h : reTest p id fact = .ok (some x)) :
    x.1 = id ∧ x.2.1 = fact := by
  unfold reTest at h
  split at h
  · cases h
  · split at h <;> cases h; exact ⟨rfl, rfl⟩

theorem strictExpiry_iff {now : Int} {fact : Obj} {b : Bool} (h : checkExpiration fact now = .ok b) :
    b = true ↔ checkExpiration fact now = .ok true := by
  rw [h]; exact ⟨fun e => e ▸ rfl, fun e => by injection e⟩

theorem lsearchLoop_spec {fuel : Nat} {s : St} {p : Obj} {ids : List String} {now : Int}
    {acc : List (String × Obj × List Bs)} {s' : St} {out : List (String × Obj × List Bs)}
    (h : St.lsearchLoop fuel s p ids now acc = (s', .ok out)) :
    (∀ r ∈ out, r ∈ acc ∨ (amGet s.facts r.1 = some r.2.1 ∧ checkExpiration r.2.1 now ≠ .ok true)) ∧
    (∀ j ∈ ids, ∀ f, amGet s.facts j = some f → checkExpiration f now = .ok true →
      amGet s'.facts j = none ∧ amGet s'.store j = none) := by
  rw [lsearchLoop_eq] at h
  have := St.readLoop_spec (R := lsearchOps p now) (now := now) (u := fun _ _ => True)
    (H := fun s r => amGet s.facts r.1 = some r.2.1 ∧ checkExpiration r.2.1 now ≠ .ok true)
    (fun {_ _ _} hk h => ⟨Shrinks.facts_sub hk h.1, h.2⟩) (fun f s id => (St.lrem_purge f s id now).shrinks)
    (fun f s id _ _ _ => (St.lrem_gone f s id now).1) (fun _ _ _ hg _ => hg)
    (fun _ _ h => strictExpiry_iff h)
    (fun s id fact x hl hx ht => by obtain ⟨h1, h2⟩ := reTest_hit ht; rw [h1, h2]; exact ⟨hl, hx⟩) _ _ _ _ _ _ h
  exact ⟨this.1, fun j hj f hf hx => this.2 j hj f hf hx trivial⟩

theorem irem_erases (f : Nat) {s : St} {id : String} {fact : Obj} (now : Int)
    (hg : amGet s.facts id = some fact) (hu : unindexErr id fact = false) :
    amGet (St.irem (f + 1) s id now).1.facts id = none ∧ amGet (St.irem (f + 1) s id now).1.store id = none := by
  rcases St.irem_gone f s id now with ⟨fact', e, hg', he, _⟩ | h
  · -- the removal cannot have stopped at the pattern index
    rw [hg] at hg'; cases hg'
    obtain ⟨s1, hs1⟩ := unindexOf_ok_iff (s := s).2 hu
    rw [hs1] at he; cases he
  · exact ⟨h.1, h.2 (.inl (by rw [hg]; nofun))⟩

theorem irem_blocked (f : Nat) {s : St} {id : String} {fact : Obj} (now : Int)
    (hg : amGet s.facts id = some fact) (hu : unindexErr id fact = true) :
    ∃ e, St.irem (f + 1) s id now = (s, .error e) := by
  rw [St.irem_succ, hg]
  cases h : s.unindexOf id fact with
  | error e => exact ⟨e, by simp only [h]⟩
  | ok s1 => rw [unindexOf_ok_iff.1 ⟨s1, h⟩] at hu; cases hu

theorem laxExpiry_iff {now : Int} (fact : Obj) (b : Bool) (h : laxExpiry now fact = .ok b) :
    b = true ↔ checkExpiration fact now = .ok true := by
  unfold laxExpiry at h
  injection h with h
  subst h
  split <;> simp_all

theorem isearchLoop_spec {fuel : Nat} {s : St} {p : Obj} {ids : List String} {now : Int}
    {acc : List (String × Obj × List Bs)} {s' : St} {out : List (String × Obj × List Bs)}
    (h : St.isearchLoop fuel s p ids now acc = (s', .ok out)) :
    (∀ r ∈ out, r ∈ acc ∨ (amGet s.facts r.1 = some r.2.1 ∧ checkExpiration r.2.1 now ≠ .ok true)) ∧
    (∀ j ∈ ids, ∀ f, amGet s.facts j = some f → checkExpiration f now = .ok true → unindexErr j f = false →
      amGet s'.facts j = none ∧ amGet s'.store j = none) := by
  rw [isearchLoop_eq] at h
  exact St.readLoop_spec (R := isearchOps p now) (now := now) (u := fun j f => unindexErr j f = false)
    (H := fun s r => amGet s.facts r.1 = some r.2.1 ∧ checkExpiration r.2.1 now ≠ .ok true)
    (fun {_ _ _} hk h => ⟨Shrinks.facts_sub hk h.1, h.2⟩) (fun f s id => (St.irem_purge f s id now).shrinks)
    (fun f s id _ hg hu => (irem_erases f now hg hu).1) (fun _ _ _ hg _ => hg) laxExpiry_iff
    (fun s id fact x hl hx ht => by obtain ⟨h1, h2⟩ := reTest_hit ht; rw [h1, h2]; exact ⟨hl, hx⟩) _ _ _ _ _ _ h

/-- `Search` (both implementations) returns only stored facts that are not expired at `now` -/
theorem St.search_results {s s' : St} {p : Obj} {now : Int} {out : List (String × Obj × List Bs)}
    (h : s.search p now = (s', .ok out)) :
    ∀ r ∈ out, amGet s.facts r.1 = some r.2.1 ∧ checkExpiration r.2.1 now ≠ .ok true := by
  intro r hr
  unfold St.search at h
  cases hk : s.kind
  · rw [hk] at h
    simp only [St.fuel_succ, St.isearch] at h
    split at h
    · cases h
    · exact ((isearchLoop_spec h).1 r hr).resolve_left nofun
  · rw [hk] at h
    simp only [St.fuel_succ, St.lsearch] at h
    exact ((lsearchLoop_spec h).1 r hr).resolve_left nofun

theorem St.search_purges_linear {s s' : St} {p : Obj} {now : Int} {out : List (String × Obj × List Bs)}
    (hk : s.kind = .linear) (h : s.search p now = (s', .ok out)) {id : String} {f : Obj}
    (hg : amGet s.facts id = some f) (hx : checkExpiration f now = .ok true) :
    amGet s'.facts id = none ∧ amGet s'.store id = none := by
  unfold St.search at h
  rw [hk] at h
  simp only [St.fuel_succ, St.lsearch] at h
  exact (lsearchLoop_spec h).2 id (AM.amGet_mem_keys hg) f hg hx

theorem St.search_purges_indexed {s s' : St} {p : Obj} {now : Int} {out : List (String × Obj × List Bs)}
    (hk : s.kind = .indexed) (h : s.search p now = (s', .ok out)) {ids : List String} (hc : s.cands p = .ok ids)
    {id : String} (hid : id ∈ ids) {f : Obj} (hg : amGet s.facts id = some f)
    (hx : checkExpiration f now = .ok true) (hu : unindexErr id f = false) :
    amGet s'.facts id = none ∧ amGet s'.store id = none := by
  unfold St.search at h
  rw [hk] at h
  simp only [St.fuel_succ, St.isearch_succ, hc] at h
  exact (isearchLoop_spec h).2 id hid f hg hx hu

/-! ## `FindRules` -/

theorem iFindRules_go_spec {now : Int} {fuel : Nat} {s : St} {ids : List String} {acc : List (String × Obj)}
    {s' : St} {out : List (String × Obj)} (h : St.iFindRules.go now fuel s ids acc = (s', .ok out)) :
    (∀ r ∈ out, r ∈ acc ∨ ∃ f f', amGet s.facts r.1 = some f ∧ checkExpiration f now ≠ .ok true ∧
      extractRule f true = .ok (some r.2, f')) ∧
    (∀ j ∈ ids, ∀ f, amGet s.facts j = some f → checkExpiration f now = .ok true → unindexErr j f = false →
      amGet s'.facts j = none ∧ amGet s'.store j = none) := by
  rw [iFindRules_go_eq] at h
  exact St.readLoop_spec (R := iFindOps now) (now := now) (u := fun j f => unindexErr j f = false)
    (H := fun s r => ∃ f f', amGet s.facts r.1 = some f ∧ checkExpiration f now ≠ .ok true ∧
      extractRule f true = .ok (some r.2, f'))
    (fun {_ _ _} hk ⟨f, f', h1, h2⟩ => ⟨f, f', Shrinks.facts_sub hk h1, h2⟩)
    (fun _ s id => (St.irem_purge _ s id now).shrinks)
    (fun _ s id _ hg hu => by
      show amGet (St.irem s.fuel s id now).1.facts id = none
      rw [St.fuel_succ]; exact (irem_erases _ now hg hu).1)
    (fun s id fact hg _ => show some ((amGet s.facts id).getD []) = some fact by rw [hg]; rfl) laxExpiry_iff
    (fun s id fact x hl hx ht => by
      dsimp only [iFindOps] at hl ht
      cases hl
      unfold ruleBodyAt at ht
      cases hg : amGet s.facts id with
      | none => rw [hg] at ht; cases ht
      | some f0 =>
        rw [hg] at ht hx
        simp only [] at ht
        split at ht <;> cases ht
        exact ⟨f0, _, hg, hx, by assumption⟩) _ _ _ _ _ _ h

theorem lFindRules_go_results {event : Obj} {now : Int} {fuel : Nat} {s : St} {ids : List String}
    {acc : List (String × Obj)} {s' : St} {out : List (String × Obj)}
    (h : St.lFindRules.go event now fuel s ids acc = (s', .ok out)) :
    ∀ r ∈ out, r ∈ acc ∨ ∃ f, amGet s.facts r.1 = some f ∧ checkExpiration f now ≠ .ok true ∧
      f.get? "rule" = some (.obj r.2) := by
  rw [lFindRules_go_eq] at h
  refine (St.readLoop_spec (R := lFindOps event now) (now := now) (u := fun _ _ => False)
    (H := fun s r => ∃ f, amGet s.facts r.1 = some f ∧ checkExpiration f now ≠ .ok true ∧
      f.get? "rule" = some (.obj r.2))
    (fun {_ _ _} hk ⟨f, h1, h2⟩ => ⟨f, Shrinks.facts_sub hk h1, h2⟩)
    (fun _ s id => (St.lrem_purge _ s id now).shrinks) nofun nofun
    (fun _ _ h => strictExpiry_iff h)
    (fun s id fact x hl hx ht => ?_) _ _ _ _ _ _ h).1
  dsimp only [lFindOps] at hl ht
  cases hg : amGet s.facts id with
  | none => rw [hg] at hl; cases hl
  | some f0 =>
    rw [hg] at hl
    simp only [Option.filter] at hl
    split at hl <;> cases hl
    obtain ⟨x1, x2⟩ := x
    obtain ⟨rfl, hr, _⟩ := linCand_some ht
    exact ⟨fact, hg, hx, hr⟩

/-- `FindRules` (both implementations) returns only rules of stored facts that are not expired at `now` -/
theorem St.findRules_results {s s' : St} {ev : Obj} {now : Int} {out : List (String × Obj)}
    (h : s.findRules ev now = (s', .ok out)) :
    ∀ r ∈ out, ∃ f, amGet s.facts r.1 = some f ∧ checkExpiration f now ≠ .ok true ∧
      ((∃ f', extractRule f true = .ok (some r.2, f')) ∨ f.get? "rule" = some (.obj r.2)) := by
  intro r hr
  unfold St.findRules at h
  cases hk : s.kind
  · rw [hk] at h
    simp only [St.iFindRules] at h
    split at h
    · cases h
    · obtain ⟨f, f', h1, h2, h3⟩ := ((iFindRules_go_spec h).1 r hr).resolve_left nofun
      exact ⟨f, h1, h2, Or.inl ⟨f', h3⟩⟩
  · rw [hk] at h
    simp only [St.lFindRules] at h
    obtain ⟨f, h1, h2, h3⟩ := (lFindRules_go_results h r hr).resolve_left nofun
    exact ⟨f, h1, h2, Or.inr h3⟩

theorem St.findRules_purges_indexed {s s' : St} {ev : Obj} {now : Int} {out : List (String × Obj)}
    (hk : s.kind = .indexed) (h : s.findRules ev now = (s', .ok out)) {ids : List String}
    (hc : piSearch s.ri ev = .ok ids) {id : String} (hid : id ∈ ids) {f : Obj} (hg : amGet s.facts id = some f)
    (hx : checkExpiration f now = .ok true) (hu : unindexErr id f = false) :
    amGet s'.facts id = none ∧ amGet s'.store id = none := by
  unfold St.findRules at h
  rw [hk] at h
  simp only [St.iFindRules, hc] at h
  exact (iFindRules_go_spec h).2 id hid f hg hx hu

/-! ## `Get` -/

/-- indexed `Get` of an expired fact: purged iff its rule can leave the pattern index -/
theorem St.get_expired_indexed {s : St} (hk : s.kind = .indexed) {id : String} {f : Obj} {now : Int}
    (hg : amGet s.facts id = some f) (hx : checkExpiration f now = .ok true) :
    (unindexErr id f = false →
      amGet (s.get id now).1.facts id = none ∧ amGet (s.get id now).1.store id = none) ∧
    (unindexErr id f = true → ∃ e, s.get id now = (s, .error e)) := by
  have hrem : s.rem id now = St.irem s.fuel s id now := by rw [St.rem, hk]
  constructor
  · intro hu
    rw [(St.get_of_expired hg hx).1, hrem, St.fuel_succ]
    exact irem_erases _ now hg hu
  · intro hu
    obtain ⟨e, he⟩ : ∃ e, St.irem s.fuel s id now = (s, .error e) := by
      rw [St.fuel_succ]; exact irem_blocked _ now hg hu
    rw [St.get_eq, hg]
    simp only [hx, hrem, he]
    exact ⟨e, rfl⟩

/-! ## the Boolean check of the non-vacuity examples -/

theorem purgeCand_of_check {s : St} {p : Obj} {id : String} {now : Int} (h : purgeCandB s p id now = true) :
    ∃ f, amGet s.facts id = some f ∧ checkExpiration f now = .ok true ∧ unindexErr id f = false ∧
      ∀ term, term ∈ extractTerms p → term ∈ extractTerms f := by
  simp only [purgeCandB] at h
  split at h
  · rename_i f hf
    simp only [Bool.and_eq_true, Bool.not_eq_true', List.all_eq_true, List.contains_iff_mem] at h
    obtain ⟨⟨h1, h2⟩, h3⟩ := h
    refine ⟨f, hf, ?_, h2, fun t ht => h3 t ht⟩
    split at h1
    · assumption
    · cases h1
  · cases h
