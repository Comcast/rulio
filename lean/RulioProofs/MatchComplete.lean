import RulioProofs.MatchSound

/-! # Completeness of the matcher model with respect to `pmv` (C05)

The matcher compares a *critical* variable (one that occurs twice or was bound beforehand) with the data value at
its position through `match(binding, fact)`, data used as a pattern.  It finds a specification binding `τ` provided
that call succeeds when both are the value `τ` gives the variable: `Agree w w`.  That scalars agree with
themselves (`gmatch_scalar`, MatchBase) and that every well-formed datum with distinct map keys does (`gmatch_refl`,
MatchRefl) is what `complete_min` (MatchTop) is instantiated with. -/

/-- completeness statement for one pattern: every specification binding `τ` that extends the incoming bindings and
binds the critical variables to values that agree with themselves is approximated from below by a returned binding -/
def CompleteJ (τ : Bs) (p : J) : Prop :=
  patOK p = true → ∀ (d : J) (bs : Bs) (bss : List Bs), dataOK d = true →
    matchJ p d bs = .ok bss → bs.Ext τ → Crit (fun w => Agree w w) τ (varsOf p) bs → pmv τ p d = true →
      ∃ σ ∈ bss, σ.Ext τ

theorem matchStr_complete {τ : Bs} {s : String} {f : J} {bs : Bs} {out : List Bs} (hv : isVar s = true)
    (h : matchStr s f bs = .ok out) (hτ : bs.Ext τ) (hsc : Crit (fun w => Agree w w) τ (varsOf (.str s)) bs)
    (hpm : pmStr τ s f = true) : ∃ σ ∈ out, σ.Ext τ := by
  by_cases hq : s = "?"
  · subst hq
    rw [matchStr_var hv] at h
    cases h
    exact ⟨bs, List.mem_singleton.2 rfl, hτ⟩
  · rw [varsOf_var hv hq] at hsc
    have hτs := (pmStr_var_iff hv hq).1 hpm
    rcases matchStr_var_ok hv hq h with ⟨_, rfl⟩ | ⟨b, hg, rfl⟩
    · exact ⟨_, List.mem_singleton.2 rfl, Bs.set_ext hτ hτs⟩
    · obtain rfl : b = f := Option.some.inj ((hτ s b hg).symm.trans hτs)
      have hself : 0 < gmatch b b := hsc s (List.mem_singleton.2 rfl) (Or.inr (by simp [hg])) b hτs
      exact ⟨bs, List.mem_replicate.2 ⟨by omega, rfl⟩, hτ⟩

theorem matchO_complete (τ : Bs) (fm : List (String × J)) (hfm : dataOKO fm = true) :
    ∀ (kvs : List (String × J)),
    (∀ kv ∈ kvs, isVar kv.1 = false) → (∀ kv ∈ kvs, patOK kv.2 = true) → (∀ kv ∈ kvs, CompleteJ τ kv.2) →
    ∀ (bss out : List Bs), matchO kvs fm bss = .ok out →
      ∀ b ∈ bss, b.Ext τ → Crit (fun w => Agree w w) τ (varsOfO kvs) b →
        (∀ kv ∈ kvs, ∃ dv, lookupKey kv.1 fm = some dv ∧ pmv τ kv.2 dv = true) →
        ∃ σ ∈ out, σ.Ext τ := by
  intro kvs
  induction kvs with
  | nil =>
      intro _ _ _ bss out h b hb hτ _ _
      rw [matchJ_eqns.o_nil] at h
      cases h
      exact ⟨b, hb, hτ⟩
  | cons kv r ihr' =>
      obtain ⟨k, v⟩ := kv
      intro hk hp ih bss out h b hb hτ hsc hpm
      obtain ⟨hk0, hkr⟩ := List.forall_mem_cons.1 hk
      obtain ⟨hpv, hpr⟩ := List.forall_mem_cons.1 hp
      obtain ⟨ihv, ihr⟩ := List.forall_mem_cons.1 ih
      obtain ⟨⟨fv, hl, hpmv⟩, hpmr⟩ := List.forall_mem_cons.1 hpm
      rw [matchO_cons_some hk0 hl] at h
      rw [varsOfO_cons_const hk0] at hsc
      obtain ⟨accs, hacc, h⟩ := Except.bind_eq_ok.1 h
      obtain ⟨rb, _, hrb⟩ := mapM_ok_mem_left hacc hb
      obtain ⟨σ1, hσ1, hσ1τ⟩ := ihv hpv fv b rb (lookupKey_dataOK hfm hl) hrb hτ hsc.left hpmv
      exact ihr' hkr hpr ihr _ out h σ1 ((mem_flat_mapM hacc).2 ⟨b, hb, rb, hrb, hσ1⟩)
        hσ1τ (hsc.right_of_dom (runJ v hpv fv b rb σ1 hrb hσ1).1.dom) hpmr

/-- If what the specification still has to lay (`cs ++ zs`) can be laid over what a branch has left, some branch that
`matchA` returns can still take `zs`.  All branches share the scalar set `sc0`, the scalar and the structured facts are
kept apart, and `ns` is set only if there are no structured facts. -/
theorem matchA_complete (τ : Bs) : ∀ (cs : List J),
    (∀ x ∈ cs, isVarElem x = false) → (∀ x ∈ cs, patOK x = true) → (∀ x ∈ cs, CompleteJ τ x) →
    ∀ (ns : Bool) (branches : List (List Bs × List J × List J)) (sc0 : List J)
      (out : List (List Bs × List J × List J)),
      (∀ br ∈ branches, br.2.1 = sc0) → (∀ y ∈ sc0, y.isScalar = true) →
      (∀ br ∈ branches, ∀ y ∈ br.2.2, y.isScalar = false ∧ dataOK y = true) →
      (ns = true → ∀ br ∈ branches, br.2.2 = []) →
      matchA cs ns branches = .ok out →
      ∀ br ∈ branches, ∀ b ∈ br.1, b.Ext τ → Crit (fun w => Agree w w) τ (varsOfL cs) b →
        ∀ zs, pmA τ (cs ++ zs) (br.2.2 ++ br.2.1) = true →
          ∃ br' ∈ out, ∃ σ' ∈ br'.1, σ'.Ext τ ∧ pmA τ zs (br'.2.2 ++ br'.2.1) = true := by
  intro cs
  induction cs with
  | nil =>
      intro _ _ _ ns branches sc0 out _ _ _ _ h br hbr b hb hτ _ zs hz
      rw [matchJ_eqns.a_nil] at h
      cases h
      exact ⟨br, hbr, b, hb, hτ, hz⟩
  | cons x cs ihcs =>
      intro hv hp ih ns branches sc0 out hsc hscal hst hns h br hbr b hb hτ hSC zs hz
      obtain ⟨hvx, hv'⟩ := List.forall_mem_cons.1 hv
      obtain ⟨hpx, hp'⟩ := List.forall_mem_cons.1 hp
      obtain ⟨ihx, ih'⟩ := List.forall_mem_cons.1 ih
      have hbrsc : br.2.1 = sc0 := hsc br hbr
      rw [hbrsc] at hz
      obtain ⟨d, hdmem, hxd, hrest⟩ := pmA_cons_elim hz
      simp only [varsOfL] at hSC
      by_cases hx : x.isScalar = true
      · obtain rfl : d = x := (pmv_scalar_const hx (isVarElem_false hvx) d).1 hxd
        have hxm : d ∈ sc0 := (List.mem_append.1 hdmem).resolve_left
          (fun hm => by have := (hst br hbr d hm).1; rw [hx] at this; cases this)
        rw [matchA_cons_scalar hvx hx] at h
        cases branches with
        | nil => cases hbr
        | cons br0 tail =>
          obtain ⟨b0, sc, st0⟩ := br0
          obtain rfl : sc = sc0 := hsc (b0, sc, st0) List.mem_cons_self
          simp only [List.contains_eq_mem, hxm, decide_true, if_true] at h
          rw [varsOf_scalar_const hx hvx, List.nil_append] at hSC
          refine ihcs hv' hp' ih' ns _ (sc.erase d) out ?_ ?_ ?_ ?_ h
            (br.1, br.2.1.erase d, br.2.2) (List.mem_map.2 ⟨br, hbr, rfl⟩) b hb hτ hSC zs ?_
          · intro br1 hbr1
            obtain ⟨br2, hbr2, rfl⟩ := List.mem_map.1 hbr1
            simp [hsc br2 hbr2]
          · exact fun y hy => hscal y (List.mem_of_mem_erase hy)
          · intro br1 hbr1
            obtain ⟨br2, hbr2, rfl⟩ := List.mem_map.1 hbr1
            exact hst br2 hbr2
          · intro hn br1 hbr1
            obtain ⟨br2, hbr2, rfl⟩ := List.mem_map.1 hbr1
            exact hns hn br2 hbr2
          · rw [hbrsc]
            exact hrest _ (((List.perm_cons_erase hxm).append_left _).trans List.perm_middle)
      · have hx' : x.isScalar = false := by simpa using hx
        have hdst : d ∈ br.2.2 := (List.mem_append.1 hdmem).resolve_right
          (fun hm => by have := hscal d hm; rw [pmv_struct hx' hxd] at this; cases this)
        cases ns with
        | true => rw [hns rfl br hbr] at hdst; cases hdst
        | false =>
          rw [matchA_cons_struct hx'] at h
          obtain ⟨nbs, hnbs, h⟩ := Except.bind_eq_ok.1 h
          have hnb := matchA_struct_nb hnbs
          obtain ⟨rest, hfr⟩ := splitNth_mem hdst
          obtain ⟨per, _, hf⟩ := mapM_ok_mem_left hnbs hbr
          obtain ⟨one, _, hg⟩ := mapM_ok_mem_left hf hfr
          obtain ⟨accs, hacc, _⟩ := Except.bind_eq_ok.1 hg
          obtain ⟨rb, _, hrb⟩ := mapM_ok_mem_left hacc hb
          obtain ⟨σ1, hσ1, hσ1τ⟩ := ihx hpx d b rb (hst br hbr d hdst).2 hrb hτ hSC.left hxd
          have hσ1m : σ1 ∈ accs.flatMap id := (mem_flat_mapM hacc).2 ⟨b, hb, rb, hrb, hσ1⟩
          have hbr1 : (accs.flatMap id, br.2.1, rest) ∈ nbs.flatMap (fun per => per.flatMap id) :=
            (hnb _).2 ⟨br, hbr, (d, rest), hfr, accs, hacc,
              List.isEmpty_eq_false_iff.2 (List.ne_nil_of_mem hσ1m), rfl⟩
          have hfrp := splitNth_perm hfr
          refine ihcs hv' hp' ih' false _ sc0 out ?_ hscal ?_ (fun hn => nomatch hn) h
            (accs.flatMap id, br.2.1, rest) hbr1 σ1 hσ1m hσ1τ
            (hSC.right_of_dom (runJ x hpx d b rb σ1 hrb hσ1).1.dom) zs ?_
          · intro br1 hbr1
            obtain ⟨br2, hbr2, fr, _, accs2, _, _, rfl⟩ := (hnb br1).1 hbr1
            exact hsc br2 hbr2
          · intro br1 hbr1
            obtain ⟨br2, hbr2, fr, hfr2, accs2, _, _, rfl⟩ := (hnb br1).1 hbr1
            exact fun y hy => hst br2 hbr2 y ((splitNth_perm (y := fr.1) (r := fr.2) hfr2).mem_iff.2
              (List.mem_cons_of_mem _ hy))
          · rw [hbrsc]
            exact hrest _ (hfrp.append_right _)

theorem completeJ (τ : Bs) : ∀ p, CompleteJ τ p := by
  intro p
  induction p using J.patInd with
  | hconst x hx hv =>
    intro _ d bs bss _ h hτ _ hpm
    rw [matchJ_const hx hv, (pmv_scalar_const hx (isVarElem_false hv) d).1 hpm] at h
    cases h
    exact ⟨bs, mem_ite_singleton.2 ⟨beq_self_eq_true x, rfl⟩, hτ⟩
  | hvar s hs =>
    intro _ d bs bss _ h hτ hsc hpm
    rw [matchJ_eqns.str] at h
    rw [pmv_str] at hpm
    exact matchStr_complete hs h hτ hsc hpm
  | hobj kvs ih =>
    intro hp d bs bss hd h hτ hsc hpm
    obtain ⟨fm, rfl, hpmO⟩ := pmv_obj_inv hpm
    rw [matchJ_obj_ok hp] at h
    rw [varsOf_obj] at hsc
    have hp' := (patOK_obj_iff kvs).1 hp
    exact matchO_complete τ fm (by simpa [dataOK] using hd) kvs hp'.1 hp'.2 ih [bs] bss h
      bs (List.mem_singleton.2 rfl) hτ hsc ((pmO_const_iff τ fm kvs fm hp'.1).1 hpmO)
  | harr xs ih =>
    intro hp d bs bss hd h hτ hsc hpm
    obtain ⟨fa, rfl, hpmA⟩ := pmv_arr_inv hpm
    obtain ⟨branches, hbr, hcase⟩ := matchJ_arr_ok hp h
    simp only [dataOK, Bool.and_eq_true] at hd
    have hdl := dataOKL_iff.1 hd.2
    -- the one place where `dataOK` is needed: the matcher drops repeated scalars of a data array (`eraseDups`), and the
    -- specification could use both copies (one for a constant, one for the array variable); distinct scalars all stay
    rw [distinctJ_eraseDups hd.1] at hbr
    have hcsv : ∀ x ∈ xs.filter (fun x => !isVarElem x), isVarElem x = false :=
      fun x hx => by simpa using (List.mem_filter.1 hx).2
    have hcsp : ∀ x ∈ xs.filter (fun x => !isVarElem x), patOK x = true :=
      fun x hx => ((patOK_arr_iff xs).1 hp).2.2 x (List.mem_filter.1 hx).1
    rw [varsOf_arr] at hsc
    have hvars := varsOfL_perm (consts_vars_perm xs)
    rw [varsOfL_append] at hvars
    have hsc' := hsc.perm hvars.symm
    obtain ⟨br', hbr', σ', hσ', hσ'τ, hres⟩ := matchA_complete τ (xs.filter (fun x => !isVarElem x)) hcsv hcsp
      (fun x hx => ih x (List.mem_filter.1 hx).1)
      _ _ (fa.filter J.isScalar) branches (by simp)
      (fun y hy => (List.mem_filter.1 hy).2)
      (by
        intro br hbr y hy
        cases List.mem_singleton.1 hbr
        have := List.mem_filter.1 hy
        exact ⟨by simpa using this.2, hdl y this.1⟩)
      (by
        intro hn br hbr
        cases List.mem_singleton.1 hbr
        simpa using hn)
      hbr _ (List.mem_singleton.2 rfl) bs (List.mem_singleton.2 rfl) hτ hsc'.left (xs.filter isVarElem)
      (pmA_of_subperm (consts_vars_perm xs).symm
        (List.perm_append_comm.trans (List.filter_append_perm J.isScalar fa)).symm.subperm hpmA)
    rcases hcase with ⟨_, hmem⟩ | ⟨s, hsv, hs, _, hmem⟩
    · exact ⟨σ', (hmem σ').2 ⟨br', hbr', hσ'⟩, hσ'τ⟩
    · rw [hsv] at hres
      rw [hsv, varsOfL, varsOfL, List.append_nil] at hsc'
      obtain ⟨d, hd', hsd, _⟩ := pmA_cons_elim hres
      rw [pmv_str] at hsd
      obtain ⟨rest, hfr⟩ := splitNth_mem hd'
      obtain ⟨q, hq, hqsub⟩ := hmem br' hbr' _ hfr σ' hσ'
      -- what `σ'` binds beyond `bs` gives the condition for the variable
      obtain ⟨br, hbrm, b, hb, hBA, _⟩ := matchA_run _ hcsv hcsp (fun x _ => runJ x) _ _
        (fa.filter J.isScalar) branches (by simp) hbr br' hbr' σ' hσ'
      cases List.mem_singleton.1 hbrm
      cases List.mem_singleton.1 hb
      obtain ⟨σ, hσ, hστ⟩ := matchStr_complete hs hq hσ'τ (hsc'.right_of_dom hBA.dom) hsd
      exact ⟨σ, hqsub σ hσ, hστ⟩
