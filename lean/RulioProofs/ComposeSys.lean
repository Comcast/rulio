import RulioProofs.SysParents

/-! # Composition, system side: on a location without parents the ancestor walk of `searchRulesAncestors` is the
location's own rule search -/

/-- the location is written back; the duplicate-id test passes because a single location's candidates carry pairwise
distinct ids (`hnd`) -/
theorem sysSearchRulesAnc_single (sys : Sys) (c : Ctx) (n : String) (ev : Obj) (now : Int) (l : Loc)
    (hget : sys.get? n = some l) (hname : l.name = n)
    (hnp : amGet l.st.facts (genPropId "" "parents") = none)
    (hnd : ∀ rs, (locSearchRules c ev now l).2 = .ok rs → (rs.map (·.1)).Nodup) :
    sysSearchRulesAnc sys c n ev now =
      (((sys.put l).put (locSearchRules c ev now l).1), (locSearchRules c ev now l).2) := by
  have hget1 : (sys.put l).get? n = some l := by
    unfold Sys.put Sys.get?
    rw [hname]
    exact AM.amGet_amSet_self sys n l
  unfold sysSearchRulesAnc ancestorFuel
  have hdo : doAncestors (sys.length + 2) sys n now (tagged (fun _ => locSearchRules c ev now)) [] =
      (((sys.put l).put (locSearchRules c ev now l).1),
        (locSearchRules c ev now l).2.map (fun a => [(n, a)])) := by
    have hat : sys.at n (locGetParentsRaw now) = (sys.put l, .ok []) := by
      rw [Sys.at_some _ hget, getParents_of_absent (genPropId_parents ▸ hnp)]
    rw [doAncestors_leaf hat, Sys.at_some _ hget1]
    simp only [tagged, LM.bind]
    rcases hr : locSearchRules c ev now l with ⟨l', r⟩
    cases r with
    | error e => simp [Except.map]
    | ok a => simp [Except.map, LM.pure]
  rw [hdo]
  rcases hr : locSearchRules c ev now l with ⟨l', r⟩
  cases r with
  | error e => simp [Except.map]
  | ok a =>
    have := hnd a (by rw [hr])
    simp only [Except.map, firstVisits, List.contains_nil, Bool.false_eq_true, if_false, List.flatten_cons, List.flatten_nil,
      List.append_nil]
    rw [eraseDups_of_nodup this]
    simp
