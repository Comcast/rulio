import RulioProofs.MatchUnfold

/-! # What the matcher returns (C05): `runJ`, for any datum -/

open List

/-- the statement for one pattern, in the form that threads through the recursion: every returned binding extends the
incoming one by exactly the variables of the pattern, and lays the pattern over the datum (any datum) under the scalar
condition on the final bindings `τ` -/
def RunJ (p : J) : Prop :=
  patOK p = true → ∀ (d : J) (bs : Bs) (bss : List Bs) (σ : Bs), matchJ p d bs = .ok bss → σ ∈ bss →
    Binds σ bs (varsOf p) ∧ ∀ τ, σ.Ext τ → SC τ (varsOf p) bs → pmv τ p d = true

theorem matchStr_run {s : String} {f : J} {bs : Bs} {out : List Bs} {σ : Bs} (hv : isVar s = true)
    (h : matchStr s f bs = .ok out) (hσ : σ ∈ out) :
    Binds σ bs (varsOf (.str s)) ∧ ∀ τ, σ.Ext τ → SC τ (varsOf (.str s)) bs → pmStr τ s f = true := by
  by_cases hq : s = "?"
  · subst hq
    rw [matchStr_var hv] at h
    cases h
    rw [List.mem_singleton.1 hσ, varsOf_anon]
    exact ⟨Binds.refl _, fun τ _ _ => pmStr_anon τ f⟩
  · rw [varsOf_var hv hq]
    rcases matchStr_var_ok hv hq h with ⟨hg, rfl⟩ | ⟨b, hg, rfl⟩
    · rw [List.mem_singleton.1 hσ]
      have hget : (bs.set s f).get? s = some f := by rw [Bs.get?_set, if_pos rfl]
      refine ⟨⟨Bs.ext_set f hg, fun k hk => ?_, fun y hy => ?_⟩, fun τ hτ _ => ?_⟩
      · rw [Bs.get?_set] at hk
        by_cases hks : k = s
        · exact Or.inr (List.mem_singleton.2 hks)
        · rw [if_neg hks] at hk; exact Or.inl hk
      · rw [List.mem_singleton.1 hy, hget]; simp
      · exact (pmStr_var_iff hv hq).2 (hτ s f hget)
    · -- a bound variable: the binding is matched against the fact; on scalars that is equality
      obtain ⟨hn, rfl⟩ := List.mem_replicate.1 hσ
      refine ⟨⟨Bs.Ext.refl _, DomLe.refl _ _, fun y hy => by rw [List.mem_singleton.1 hy, hg]; simp⟩,
        fun τ hτ hsc => ?_⟩
      have hτs : τ.get? s = some b := hτ s b hg
      have hbs : b.isScalar = true := by
        simpa [scalarAt, hτs] using hsc s (List.mem_singleton.2 rfl) (Or.inr (by simp [hg]))
      rw [gmatch_scalar hbs] at hn
      rw [pmStr_var hv hq, hτs]
      by_contra hbf
      exact hn (if_neg hbf)

theorem matchO_run (fm : List (String × J)) : ∀ (kvs : List (String × J)),
    (∀ kv ∈ kvs, isVar kv.1 = false) → (∀ kv ∈ kvs, patOK kv.2 = true) → (∀ kv ∈ kvs, RunJ kv.2) →
    ∀ (bss out : List Bs) (σ : Bs), matchO kvs fm bss = .ok out → σ ∈ out →
      ∃ b ∈ bss, Binds σ b (varsOfO kvs) ∧
        ∀ τ, σ.Ext τ → SC τ (varsOfO kvs) b →
          ∀ kv ∈ kvs, ∃ dv, lookupKey kv.1 fm = some dv ∧ pmv τ kv.2 dv = true := by
  intro kvs
  induction kvs with
  | nil =>
      intro _ _ _ bss out σ h hσ
      rw [matchJ_eqns.o_nil] at h
      cases h
      exact ⟨σ, hσ, Binds.refl _, fun τ _ _ kv hkv => nomatch hkv⟩
  | cons kv r ihr' =>
      obtain ⟨k, v⟩ := kv
      intro hk hp ih bss out σ h hσ
      obtain ⟨hk0, hkr⟩ := List.forall_mem_cons.1 hk
      obtain ⟨hpv, hpr⟩ := List.forall_mem_cons.1 hp
      obtain ⟨ihv, ihr⟩ := List.forall_mem_cons.1 ih
      rw [varsOfO_cons_const hk0]
      cases hl : lookupKey k fm with
      | none => rw [matchO_cons_none hk0 hl hpv] at h; cases h; cases hσ
      | some fv =>
        rw [matchO_cons_some hk0 hl] at h
        obtain ⟨accs, hacc, h⟩ := Except.bind_eq_ok.1 h
        obtain ⟨σ1, hσ1, hB2, hc2⟩ := ihr' hkr hpr ihr _ out σ h hσ
        obtain ⟨b, hb, rb, hrb, hσ1⟩ := (mem_flat_mapM hacc).1 hσ1
        obtain ⟨hB1, hc1⟩ := ihv hpv fv b rb σ1 hrb hσ1
        exact ⟨b, hb, hB1.trans hB2, fun τ hτ hsc => List.forall_mem_cons.2
          ⟨⟨fv, hl, hc1 τ (hB2.ext.trans hτ) hsc.left⟩, hc2 τ hτ (hsc.right_of_dom hB1.dom)⟩⟩

theorem matchA_struct_nb {x : J} {branches : List (List Bs × List J × List J)}
    {nbs : List (List (List (List Bs × List J × List J)))}
    (h : branches.mapM (fun br =>
          (splitNth br.2.2).mapM (fun fr =>
            (br.1.mapM (fun b => matchJ x fr.1 b)) >>= fun acc =>
              pure (if (acc.flatMap id).isEmpty then [] else [(acc.flatMap id, br.2.1, fr.2)]))) = .ok nbs)
    (br1 : List Bs × List J × List J) :
    br1 ∈ nbs.flatMap (fun per => per.flatMap id) ↔
      ∃ br ∈ branches, ∃ fr ∈ splitNth br.2.2, ∃ accs, br.1.mapM (fun b => matchJ x fr.1 b) = .ok accs ∧
        (accs.flatMap id).isEmpty = false ∧ br1 = (accs.flatMap id, br.2.1, fr.2) := by
  constructor
  · intro hm
    obtain ⟨per, hper, hm⟩ := List.mem_flatMap.1 hm
    obtain ⟨br, hbr, hf⟩ := mapM_ok_mem_right h hper
    obtain ⟨fr, hfr, one, hg, hm⟩ := (mem_flat_mapM hf).1 hm
    obtain ⟨accs, hacc, hg⟩ := Except.bind_eq_ok.1 hg
    cases hg
    split at hm
    · cases hm
    · rename_i he
      exact ⟨br, hbr, fr, hfr, accs, hacc, (Bool.not_eq_true _).mp he, List.mem_singleton.1 hm⟩
  · rintro ⟨br, hbr, fr, hfr, accs, hacc, he, rfl⟩
    obtain ⟨per, hper, hf⟩ := mapM_ok_mem_left h hbr
    refine List.mem_flatMap.2 ⟨per, hper, (mem_flat_mapM hf).2 ⟨fr, hfr, _, ?_, List.mem_singleton.2 rfl⟩⟩
    rw [hacc]
    show Except.ok _ = _
    rw [if_neg (by rw [he]; exact Bool.false_ne_true)]

/-- Whatever `zs` the specification can still lay over what a returned branch has left, it lays `cs ++ zs` over what the
branch it came from started with.  All branches share the scalar set `sc0`. -/
theorem matchA_run : ∀ (cs : List J),
    (∀ x ∈ cs, isVarElem x = false) → (∀ x ∈ cs, patOK x = true) → (∀ x ∈ cs, RunJ x) →
    ∀ (ns : Bool) (branches : List (List Bs × List J × List J)) (sc0 : List J)
      (out : List (List Bs × List J × List J)),
      (∀ br ∈ branches, br.2.1 = sc0) → matchA cs ns branches = .ok out →
      ∀ br' ∈ out, ∀ σ' ∈ br'.1,
        ∃ br ∈ branches, ∃ b ∈ br.1, Binds σ' b (varsOfL cs) ∧
          ∀ τ, σ'.Ext τ → SC τ (varsOfL cs) b → ∀ zs,
            pmA τ zs (br'.2.2 ++ br'.2.1) = true → pmA τ (cs ++ zs) (br.2.2 ++ br.2.1) = true := by
  intro cs
  induction cs with
  | nil =>
      intro _ _ _ ns branches sc0 out _ h br' hbr' σ' hσ'
      rw [matchJ_eqns.a_nil] at h
      cases h
      exact ⟨br', hbr', σ', hσ', Binds.refl _, fun _ _ _ _ h => h⟩
  | cons x cs ihcs =>
      intro hv hp ih ns branches sc0 out hsc h br' hbr' σ' hσ'
      obtain ⟨hvx, hv'⟩ := List.forall_mem_cons.1 hv
      obtain ⟨hpx, hp'⟩ := List.forall_mem_cons.1 hp
      obtain ⟨ihx, ih'⟩ := List.forall_mem_cons.1 ih
      simp only [varsOfL]
      by_cases hx : x.isScalar = true
      · -- scalar constant: removed from the scalar set, which all branches share
        rw [matchA_cons_scalar hvx hx] at h
        cases branches with
        | nil => cases h; cases hbr'
        | cons br0 tail =>
          obtain ⟨b0, sc, st0⟩ := br0
          obtain rfl : sc = sc0 := hsc (b0, sc, st0) List.mem_cons_self
          by_cases hc : sc.contains x = true
          · simp only [hc, if_true] at h
            obtain ⟨br1, hbr1, b, hb, hB, hc2⟩ :=
              ihcs hv' hp' ih' ns _ (sc.erase x) out
                (fun br hbr => by obtain ⟨br2, hbr2, rfl⟩ := List.mem_map.1 hbr; simp [hsc br2 hbr2])
                h br' hbr' σ' hσ'
            obtain ⟨br, hbr, rfl⟩ := List.mem_map.1 hbr1
            rw [varsOf_scalar_const hx hvx]
            refine ⟨br, hbr, b, hb, hB, fun τ hτ hsc2 zs hz =>
              pmA_cons_of ((pmv_scalar_const hx (isVarElem_false hvx) x).2 rfl) ?_ (hc2 τ hτ hsc2 zs hz)⟩
            rw [hsc br hbr]
            exact ((perm_cons_erase (by simpa using hc)).append_left _).trans perm_middle
          · simp only [hc, Bool.false_eq_true, if_false] at h
            cases h; cases hbr'
      · have hx' : x.isScalar = false := by simpa using hx
        cases ns with
        | true => rw [matchA_cons_struct_ns hx'] at h; cases h; cases hbr'
        | false =>
          rw [matchA_cons_struct hx'] at h
          obtain ⟨nbs, hnbs, h⟩ := Except.bind_eq_ok.1 h
          have hnb := matchA_struct_nb hnbs
          obtain ⟨br1, hbr1, σ1, hσ1, hB2, hc2⟩ :=
            ihcs hv' hp' ih' false _ sc0 out
              (fun br1 hbr1 => by obtain ⟨br, hbr, _, _, _, _, _, rfl⟩ := (hnb br1).1 hbr1; exact hsc br hbr)
              h br' hbr' σ' hσ'
          obtain ⟨br, hbr, fr, hfr, accs, hacc, _, rfl⟩ := (hnb br1).1 hbr1
          obtain ⟨b, hb, rb, hrb, hσ1⟩ := (mem_flat_mapM hacc).1 hσ1
          obtain ⟨hB1, hc1⟩ := ihx hpx fr.1 b rb σ1 hrb hσ1
          exact ⟨br, hbr, b, hb, hB1.trans hB2, fun τ hτ hsc2 zs hz =>
            pmA_cons_of (hc1 τ (hB2.ext.trans hτ) hsc2.left)
              ((splitNth_perm (y := fr.1) (r := fr.2) hfr).append_right _)
              (hc2 τ hτ (hsc2.right_of_dom hB1.dom) zs hz)⟩

theorem runJ : ∀ p, RunJ p := by
  intro p
  induction p using J.patInd with
  | hconst x hx hv =>
    intro _ d bs bss σ h hσ
    rw [matchJ_const hx hv] at h
    cases h
    obtain ⟨hxd, rfl⟩ := mem_ite_singleton.1 hσ
    rw [varsOf_scalar_const hx hv]
    exact ⟨Binds.refl _, fun τ _ _ => (pmv_scalar_const hx (isVarElem_false hv) d).2 (eq_of_beq hxd).symm⟩
  | hvar s hs =>
    intro _ d bs bss σ h hσ
    rw [matchJ_eqns.str] at h
    obtain ⟨hB, hc⟩ := matchStr_run hs h hσ
    exact ⟨hB, fun τ hτ hsc => by rw [pmv_str]; exact hc τ hτ hsc⟩
  | hobj kvs ih =>
    intro hp d bs bss σ h hσ
    obtain ⟨fm, rfl⟩ := (matchJ_struct_mem h hσ).1 kvs rfl
    rw [matchJ_obj_ok hp] at h
    have hp' := (patOK_obj_iff kvs).1 hp
    obtain ⟨b, hb, hB, hc⟩ := matchO_run fm kvs hp'.1 hp'.2 ih [bs] bss σ h hσ
    cases List.mem_singleton.1 hb
    rw [varsOf_obj]
    refine ⟨hB, fun τ hτ hsc => ?_⟩
    rw [pmv_obj]
    exact (pmO_const_iff τ fm kvs fm hp'.1).2 (hc τ hτ hsc)
  | harr xs ih =>
    intro hp d bs bss σ h hσ
    obtain ⟨fa, rfl⟩ := (matchJ_struct_mem h hσ).2 xs rfl
    obtain ⟨branches, hbr, hcase⟩ := matchJ_arr_ok hp h
    have hA := matchA_run (xs.filter (fun x => !isVarElem x))
      (fun x hx => by simpa using (List.mem_filter.1 hx).2)
      (fun x hx => ((patOK_arr_iff xs).1 hp).2.2 x (List.mem_filter.1 hx).1)
      (fun x hx => ih x (List.mem_filter.1 hx).1) _ _ (fa.filter J.isScalar).eraseDups branches (by simp) hbr
    have hvars := varsOfL_perm (consts_vars_perm xs)
    rw [varsOfL_append] at hvars
    -- the facts the matcher starts from are among the datum's
    have hfa : (fa.filter (fun y => !y.isScalar) ++ (fa.filter J.isScalar).eraseDups) <+~ fa :=
      ((List.subperm_append_left _).2 (eraseDups_sublist _ _ (Nat.le_refl _)).subperm).trans
        (List.perm_append_comm.trans (List.filter_append_perm J.isScalar fa)).subperm
    rw [varsOf_arr]
    rcases hcase with ⟨hnv, hmem⟩ | ⟨s, hsv, hs, hmem⟩
    · obtain ⟨br', hbr', hσ'⟩ := (hmem σ).1 hσ
      obtain ⟨br, hbrm, b, hb, hB, hc⟩ := hA br' hbr' σ hσ'
      cases List.mem_singleton.1 hbrm
      cases List.mem_singleton.1 hb
      rw [hnv, varsOfL, List.append_nil] at hvars
      refine ⟨hB.perm hvars, fun τ hτ hsc => ?_⟩
      rw [pmv_arr]
      exact pmA_of_subperm (consts_vars_perm xs) hfa
        (hc τ hτ (hsc.perm hvars.symm) _ (by rw [hnv]; exact pmA_nil _ _))
    · obtain ⟨br', hbr', fr, hfr, σ', hσ', q, hq, hσq⟩ := hmem.1 σ hσ
      obtain ⟨hBS, hcS⟩ := matchStr_run hs hq hσq
      obtain ⟨br, hbrm, b, hb, hBA, hcA⟩ := hA br' hbr' σ' hσ'
      cases List.mem_singleton.1 hbrm
      cases List.mem_singleton.1 hb
      rw [hsv, varsOfL, varsOfL, List.append_nil] at hvars
      refine ⟨(hBA.trans hBS).perm hvars, fun τ hτ hsc => ?_⟩
      have hsc' := hsc.perm hvars.symm
      rw [pmv_arr]
      refine pmA_of_subperm (consts_vars_perm xs) hfa (hcA τ (hBS.ext.trans hτ) hsc'.left _ ?_)
      rw [hsv]
      exact pmA_cons_of (by rw [pmv_str]; exact hcS τ hτ (hsc'.right_of_dom hBA.dom))
        (splitNth_perm (y := fr.1) (r := fr.2) hfr) (pmA_nil _ _)

/-- `runJ` without the clause that every variable of the pattern is bound: the form `match_sound` and
`match_result_minimal` use (`match_result_binds_all` reads that clause off `runJ`) -/
theorem soundJ (p : J) : patOK p = true → ∀ (d : J) (bs : Bs) (bss : List Bs) (σ : Bs),
    matchJ p d bs = .ok bss → σ ∈ bss →
      bs.Ext σ ∧ DomLe σ bs (varsOf p) ∧ ∀ τ, σ.Ext τ → SC τ (varsOf p) bs → pmv τ p d = true :=
  fun hp d bs bss σ h hσ =>
    let ⟨hB, hc⟩ := runJ p hp d bs bss σ h hσ
    ⟨hB.ext, hB.dom, hc⟩
