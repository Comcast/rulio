import RulioProofs.Cache

/-! # The concurrent protocol of the location cache: holders are counted, the instance in use is never dropped

Threads run `Open`, the call, `Release` as the atomic steps of `cstep`.  `cstep_cases` lists the eight shapes a step can
have; every invariant below is proved by going through that list once: `PInv` (holders are counted), `DInv` (the data are
those of direct operation), `LInv` (every answer is in the log), `Phase` (one load while first requests overlap).
`installs cfg = true` is a hypothesis of `pinv_cstep`, `dinv_cstep` and `phase_step` (it enters through `LoadOrigin.facts`):
otherwise `loadC` hands out an instance that no table entry holds, and `PInv.held` fails. -/

section conc
variable {sem : LocSem}

/-- the name a thread has opened and not released yet (whether or not the open succeeded) -/
def pcHolds (pc : PC sem) (n : String) : Bool :=
  match pc with
  | .opened r _ => decide (r.name = n)
  | .releasing m _ _ => decide (m = n)
  | _ => false

def pcInst (pc : PC sem) : Option (String × Nat) :=
  match pc with
  | .opened r i => some (r.name, i)
  | .releasing n (some i) _ => some (n, i)
  | _ => none

/-- number of threads between their `Open` and their `Release` of `n` -/
def cnt (n : String) (pcs : List (PC sem)) : Nat := pcs.countP (pcHolds · n)

def entPending (table : List (String × HEntry)) (n : String) : Nat :=
  match kget table n with
  | some e => e.pending
  | none => 0

theorem pcHolds_start (r : Req sem) (m : String) : pcHolds (PC.start r) m = false := rfl
theorem pcHolds_done (i : Option Nat) (o : Out sem) (m : String) : pcHolds (PC.done i o) m = false := rfl
theorem pcHolds_opened (r : Req sem) (i : Nat) (m : String) : pcHolds (PC.opened r i) m = decide (r.name = m) := rfl
theorem pcHolds_releasing (n : String) (i : Option Nat) (o : Out sem) (m : String) :
    pcHolds (PC.releasing n i o) m = decide (n = m) := rfl

/-! ### the shapes of a step -/

/-- where the entry that `Open` loads into comes from: an entry without a Location that is still held (one more
holder), or a new one -/
def LoadOrigin (cfg : Cfg) (c : CSt sem) (r : Req sem) (now : Int) (e : HEntry) (installed : Bool) : Prop :=
  (∃ e0, kget c.table r.name = some e0 ∧ e0.inst = none ∧ e = { e0 with pending := e0.pending + 1 } ∧ installed = true) ∨
  (kget c.table r.name = none ∧ e = { expires := newExpires cfg now, pending := 1, inst := none } ∧ installed = installs cfg)

/-- the state after thread `tid` has run the call of `r` through instance `i`, writing `x.1`, answering `x.2` -/
def CSt.called (c : CSt sem) (tid : Nat) (r : Req sem) (i : Nat) (x : Option (sem.L × sem.S) × Out sem) : CSt sem :=
  { c with insts := (match x.1 with | none => c.insts | some p => setNth c.insts i (r.name, p.1)),
           store := (match x.1 with | none => c.store | some p => kset c.store r.name p.2),
           log := c.log ++ [(r, x.2)], pcs := setNth c.pcs tid (.releasing r.name (some i) x.2) }

/-- `Step cfg now tid c pc pc' c'`: thread `tid`, at `pc`, takes its atomic step at time `now`; it arrives at `pc'` and the
state goes from `c` to `c'`.  `Open`: served from the cache, refused after the second look at the marker, loaded, load
refused; the call (`callL` through the instance held, whatever the request); `Release`: no entry, the entry stays, the
entry goes.  `relKept` carries no side condition (`relC` keeps the entry only while another holder remains or
its instance has not expired): `Step` over-approximates `cstep`, and the invariants hold of the larger relation. -/
inductive Step (cfg : Cfg) (now : Int) (tid : Nat) (c : CSt sem) : PC sem → PC sem → CSt sem → Prop where
  | served (r : Req sem) (e0 : HEntry) (i : Nat) (nm : String) (l : sem.L) :
      kget c.table r.name = some e0 → e0.inst = some i → c.insts[i]? = some (nm, l) →
      (reqCheck r && cfg.checkExistence && !sem.created l) = false →
      Step cfg now tid c (.start r) (.opened r i)
        { c with table := kset c.table r.name { e0 with pending := e0.pending + 1 }, pcs := setNth c.pcs tid (.opened r i) }
  | refused (r : Req sem) (e0 : HEntry) (i : Nat) (nm : String) (l : sem.L) :
      kget c.table r.name = some e0 → e0.inst = some i → c.insts[i]? = some (nm, l) →
      (reqCheck r && cfg.checkExistence && !sem.created l) = true →
      Step cfg now tid c (.start r) (.releasing r.name none .notFound)
        { c with table := kset c.table r.name { e0 with pending := e0.pending + 1 }, log := c.log ++ [(r, .notFound)],
                 pcs := setNth c.pcs tid (.releasing r.name none .notFound) }
  | loaded (r : Req sem) (e : HEntry) (installed : Bool) :
      LoadOrigin cfg c r now e installed →
      (reqCheck r && cfg.checkExistence && !sem.created (sem.load now (storeOf c.store r.name))) = false →
      Step cfg now tid c (.start r) (.opened r c.insts.length)
        { c with loads := c.loads ++ [r.name], insts := c.insts ++ [(r.name, sem.load now (storeOf c.store r.name))],
                 table := (if installed then kset c.table r.name
                     (loadedEntry e c.insts.length now (sem.cacheTTL (sem.load now (storeOf c.store r.name)))) else c.table),
                 pcs := setNth c.pcs tid (.opened r c.insts.length) }
  | loadRefused (r : Req sem) (e : HEntry) (installed : Bool) :
      LoadOrigin cfg c r now e installed →
      (reqCheck r && cfg.checkExistence && !sem.created (sem.load now (storeOf c.store r.name))) = true →
      Step cfg now tid c (.start r) (.releasing r.name none .notFound)
        { c with loads := c.loads ++ [r.name], table := (if installed then kset c.table r.name e else c.table),
                 log := c.log ++ [(r, .notFound)], pcs := setNth c.pcs tid (.releasing r.name none .notFound) }
  | callX (r : Req sem) (i : Nat) (nm : String) (l : sem.L) : c.insts[i]? = some (nm, l) →
      Step cfg now tid c (.opened r i) (.releasing r.name (some i) (callL r l (storeOf c.store r.name)).2)
        (c.called tid r i (callL r l (storeOf c.store r.name)))
  | relAbsent (n : String) (inst : Option Nat) (out : Out sem) : kget c.table n = none →
      Step cfg now tid c (.releasing n inst out) (.done inst out) { c with pcs := setNth c.pcs tid (.done inst out) }
  | relKept (n : String) (inst : Option Nat) (out : Out sem) (e : HEntry) : kget c.table n = some e →
      Step cfg now tid c (.releasing n inst out) (.done inst out)
        { c with table := kset c.table n { e with pending := e.pending - 1 }, pcs := setNth c.pcs tid (.done inst out) }
  -- `pending ≤ 1`: the count of `n` goes to 0 with this holder (`pinv_cstep`)
  | relDropped (n : String) (inst : Option Nat) (out : Out sem) (e : HEntry) : kget c.table n = some e → e.pending ≤ 1 →
      Step cfg now tid c (.releasing n inst out) (.done inst out)
        { c with table := kdel c.table n, pcs := setNth c.pcs tid (.done inst out) }

def afterStep (tid : Nat) (x : CSt sem × PC sem) : CSt sem := { x.1 with pcs := setNth x.1.pcs tid x.2 }

theorem loadC_step (cfg : Cfg) (tid : Nat) (c : CSt sem) (r : Req sem) (now : Int) (e : HEntry) (installed : Bool)
    (ho : LoadOrigin cfg c r now e installed) :
    Step cfg now tid c (.start r) (loadC cfg c r e installed now).2 (afterStep tid (loadC cfg c r e installed now)) := by
  unfold loadC
  by_cases hb : (reqCheck r && cfg.checkExistence && !sem.created (sem.load now (storeOf c.store r.name))) = true
  · simp only [hb, if_true]; exact .loadRefused r e installed ho hb
  · simp only [hb, Bool.false_eq_true, if_false]; exact .loaded r e installed ho (Bool.eq_false_iff.mpr hb)

theorem openC_step (cfg : Cfg) (tid : Nat) (c : CSt sem) (r : Req sem) (now : Int) :
    openC cfg c r now = (c, .start r) ∨
    Step cfg now tid c (.start r) (openC cfg c r now).2 (afterStep tid (openC cfg c r now)) := by
  unfold openC
  cases hk : kget c.table r.name with
  | none => exact Or.inr (loadC_step cfg tid c r now _ _ (Or.inr ⟨hk, rfl, rfl⟩))
  | some e0 =>
    simp only
    split
    next i hi =>
      unfold servedC
      cases hg : c.insts[i]? with
      | none => exact Or.inl rfl
      | some p =>
        by_cases hb : (reqCheck r && cfg.checkExistence && !sem.created p.2) = true
        · simp only [hb, if_true]; exact Or.inr (.refused r e0 i p.1 p.2 hk hi hg hb)
        · simp only [hb, Bool.false_eq_true, if_false]; exact Or.inr (.served r e0 i p.1 p.2 hk hi hg (Bool.eq_false_iff.mpr hb))
    next hi => exact Or.inr (loadC_step cfg tid c r now _ _ (Or.inl ⟨e0, hk, hi, rfl, rfl⟩))

theorem callC_step (cfg : Cfg) (now : Int) (tid : Nat) (c : CSt sem) (r : Req sem) (i : Nat) :
    callC c r i = (c, .opened r i) ∨ Step cfg now tid c (.opened r i) (callC c r i).2 (afterStep tid (callC c r i)) := by
  unfold callC
  cases hg : c.insts[i]? with
  | none => exact Or.inl rfl
  | some p =>
    refine Or.inr ?_
    have hs := Step.callX (cfg := cfg) (now := now) (tid := tid) r i p.1 p.2 hg
    cases r with
    | api n op => exact hs
    | create n =>
      cases hc : sem.created p.2 with
      | true =>
        have hx : callL (.create n) p.2 (storeOf c.store (Req.create n : Req sem).name) = (none, .created false) := by
          simp only [callL, hc, if_true]
        rw [hx] at hs
        simp only [hc, if_true]; exact hs
      | false =>
        have hx : callL (.create n) p.2 (storeOf c.store (Req.create n : Req sem).name) =
            (some (sem.mark p.2 (storeOf c.store (Req.create n : Req sem).name)), .created true) := by
          simp only [callL, hc, Bool.false_eq_true, if_false]
        rw [hx] at hs
        simp only [hc, Bool.false_eq_true, if_false]; exact hs
    | peek n => exact hs

theorem relC_step (cfg : Cfg) (now : Int) (tid : Nat) (c : CSt sem) (n : String) (inst : Option Nat) (out : Out sem) :
    Step cfg now tid c (.releasing n inst out) (.done inst out) (afterStep tid (relC c n now, .done inst out)) := by
  unfold relC
  cases hk : kget c.table n with
  | none => exact .relAbsent n inst out hk
  | some e =>
    unfold releasedEntry
    by_cases hb : (decide (0 < e.pending - 1) || (e.inst.isSome && decide (now < e.expires))) = true
    · simp only [hb, if_true]; exact .relKept n inst out e hk
    · simp only [hb, Bool.false_eq_true, if_false]
      refine .relDropped n inst out e hk ?_
      simp only [Bool.or_eq_true, decide_eq_true_eq, not_or] at hb
      omega

/-- **every step has one of the shapes of `Step`** (or changes nothing: an unknown or finished thread, a dangling
pointer).  Before `cases` on the `Step`, `generalize cstep cfg c tid now = c'`: with that index unfolded the elimination
fails. -/
theorem cstep_cases (cfg : Cfg) (c : CSt sem) (tid : Nat) (now : Int) :
    cstep cfg c tid now = c ∨ ∃ pc pc', c.pcs[tid]? = some pc ∧ Step cfg now tid c pc pc' (cstep cfg c tid now) := by
  unfold cstep
  cases hpc : c.pcs[tid]? with
  | none => exact Or.inl rfl
  | some pc =>
    have hstuck : afterStep tid (c, pc) = c := by simp only [afterStep, setNth_self hpc]
    cases pc with
    | done i o => exact Or.inl rfl
    | start r =>
      rcases openC_step cfg tid c r now with h | h
      · exact Or.inl (by simp only [h]; exact hstuck)
      · exact Or.inr ⟨_, _, rfl, h⟩
    | opened r i =>
      rcases callC_step cfg now tid c r i with h | h
      · exact Or.inl (by simp only [h]; exact hstuck)
      · exact Or.inr ⟨_, _, rfl, h⟩
    | releasing n inst out => exact Or.inr ⟨_, _, rfl, relC_step cfg now tid c n inst out⟩

/-- `.done` works on no name; no `Step` starts there, so the value given is never consulted -/
def PC.name : PC sem → String
  | .start r => r.name
  | .opened r _ => r.name
  | .releasing n _ _ => n
  | .done _ _ => ""

theorem Step.pcs_eq {cfg : Cfg} {now : Int} {tid : Nat} {c b : CSt sem} {pc pc' : PC sem} (h : Step cfg now tid c pc pc' b) :
    b.pcs = setNth c.pcs tid pc' := by
  cases h <;> rfl

theorem pcHolds_name {pc : PC sem} {m : String} (h : m ≠ pc.name) : pcHolds pc m = false := by
  cases pc with
  | opened r i => exact decide_eq_false fun e => h e.symm
  | releasing n inst out => exact decide_eq_false fun e => h e.symm
  | _ => rfl

theorem Step.others {cfg : Cfg} {now : Int} {tid : Nat} {c b : CSt sem} {pc pc' : PC sem} (h : Step cfg now tid c pc pc' b)
    (m : String) (hm : m ≠ pc.name) : kget b.table m = kget c.table m := by
  cases h with
  | served | refused | relKept => exact (kget_kset _ _ _ _).trans (if_neg hm)
  | loaded r e installed | loadRefused r e installed =>
    cases installed
    · rfl
    · exact (kget_kset _ _ _ _).trans (if_neg hm)
  | relDropped => exact (kget_kdel _ _ _).trans (if_neg hm)
  | _ => rfl

/-- the call (`Step.callX`) leaves table and loads alone and moves the thread to its `Release` -/
theorem Step.call {cfg : Cfg} {now : Int} {tid : Nat} {c b : CSt sem} {r : Req sem} {i : Nat} {pc' : PC sem}
    (h : Step cfg now tid c (.opened r i) pc' b) :
    b.table = c.table ∧ b.loads = c.loads ∧ b.insts.length = c.insts.length ∧ ∃ out, pc' = .releasing r.name (some i) out := by
  cases h
  refine ⟨rfl, rfl, ?_, _, rfl⟩
  simp only [CSt.called]
  split
  · rfl
  · simp [setNth_eq_set]

theorem holdsInst_eq (c : CSt sem) (t : Nat) :
    holdsInst c t = (match c.pcs[t]? with | some pc => pcInst pc | none => none) := by
  unfold holdsInst
  cases h : c.pcs[t]? with
  | none => rfl
  | some pc =>
    cases pc with
    | releasing n inst out => cases inst <;> rfl
    | _ => rfl

theorem pcInst_holds (pc : PC sem) (n : String) (i : Nat) (h : pcInst pc = some (n, i)) : pcHolds pc n = true := by
  cases pc with
  | releasing m inst out => cases inst <;> simp_all [pcInst, pcHolds]
  | _ => simp_all [pcInst, pcHolds]

theorem cnt_pos (n : String) (l : List (PC sem)) (t : Nat) (pc : PC sem) (h : l[t]? = some pc) (hp : pcHolds pc n = true) :
    0 < cnt n l :=
  List.countP_pos_iff.mpr ⟨pc, List.mem_of_getElem? h, hp⟩

theorem cnt_setNth (n : String) (l : List (PC sem)) (i : Nat) (old new : PC sem) (h : l[i]? = some old) :
    cnt n (setNth l i new) + (if pcHolds old n then 1 else 0) = cnt n l + (if pcHolds new n then 1 else 0) := by
  rw [setNth_eq_set]; exact List.countP_set_add (pcHolds · n) h new

theorem entPending_kset (table : List (String × HEntry)) (n m : String) (e : HEntry) :
    entPending (kset table n e) m = if m = n then e.pending else entPending table m := by
  by_cases h : m = n <;> simp [entPending, kget_kset, h]

theorem entPending_of_get {table : List (String × HEntry)} {n : String} {e : HEntry} (h : kget table n = some e) :
    entPending table n = e.pending := by
  simp only [entPending, h]

theorem entPending_kdel (table : List (String × HEntry)) (n m : String) :
    entPending (kdel table n) m = if m = n then 0 else entPending table m := by
  by_cases h : m = n <;> simp [entPending, kget_kdel, h]

theorem getElem?_append_of_some {α : Type} {l : List α} {j : Nat} {x : α} (h : l[j]? = some x) (l' : List α) :
    (l ++ l')[j]? = some x := by
  rw [List.getElem?_append_left (List.getElem?_eq_some_iff.mp h).1, h]

/-- the protocol invariant: every entry counts its holders, what a thread holds is what the table has -/
structure PInv (c : CSt sem) : Prop where
  count : ∀ n, entPending c.table n = cnt n c.pcs
  held : ∀ (t : Nat) (pc : PC sem) (n : String) (i : Nat), c.pcs[t]? = some pc → pcInst pc = some (n, i) →
    ∃ e, kget c.table n = some e ∧ e.inst = some i
  valid : ∀ n e i, kget c.table n = some e → e.inst = some i → ∃ l, c.insts[i]? = some (n, l)

theorem PInv.inst {c : CSt sem} (hI : PInv c) {t : Nat} {pc : PC sem} {n : String} {i : Nat}
    (hpc : c.pcs[t]? = some pc) (hi : pcInst pc = some (n, i)) : ∃ l, c.insts[i]? = some (n, l) := by
  obtain ⟨e, he, hei⟩ := hI.held t pc n i hpc hi
  exact hI.valid n e i he hei

/-- what a thread holds is what the table has for that name, and the entry counts the thread among its holders -/
theorem PInv.holds {c : CSt sem} (hI : PInv c) {t : Nat} {n : String} {i : Nat} (h : holdsInst c t = some (n, i)) :
    ∃ e, kget c.table n = some e ∧ e.inst = some i ∧ 0 < e.pending := by
  rw [holdsInst_eq] at h
  cases hp : c.pcs[t]? with
  | none => simp only [hp] at h; cases h
  | some pc =>
    simp only [hp] at h
    obtain ⟨e, he, hi⟩ := hI.held t pc n i hp h
    have hc := hI.count n
    have hpos := cnt_pos n c.pcs t pc hp (pcInst_holds pc n i h)
    rw [entPending_of_get he] at hc
    exact ⟨e, he, hi, by omega⟩

theorem Step.insts {cfg : Cfg} {now : Int} {tid : Nat} {c b : CSt sem} {pc pc' : PC sem} (h : Step cfg now tid c pc pc' b)
    (hn : ∀ n i, pcInst pc = some (n, i) → ∃ l, c.insts[i]? = some (n, l))
    (j : Nat) (nm : String) (l : sem.L) (hj : c.insts[j]? = some (nm, l)) : ∃ l', b.insts[j]? = some (nm, l') := by
  have hset : ∀ (n : String) (i : Nat) (l2 : sem.L), (∃ l0, c.insts[i]? = some (n, l0)) →
      ∃ l', (setNth c.insts i (n, l2))[j]? = some (nm, l') := by
    intro n i l2 ⟨l0, h0⟩
    rw [getElem?_setNth h0]
    split
    · next hji => subst hji; rw [h0] at hj; cases hj; exact ⟨l2, rfl⟩
    · exact ⟨l, hj⟩
  cases h with
  | loaded r e installed ho hb =>
    exact ⟨l, getElem?_append_of_some hj _⟩
  | callX r i nm' l0 hg =>
    simp only [CSt.called]
    split
    · exact ⟨l, hj⟩
    · exact hset r.name i _ (hn r.name i rfl)
  | _ => exact ⟨l, hj⟩

/-- `PInv` after a step of thread `tid` that touches the table entry of `n0` only. Left to show for `n0`: its count moves with the
thread (`hcnt`), an instance in the entry stays or the entry has lost its last holder (`hkeep`), the thread holds what the table
has (`hnew`), and that instance exists (`hval0`). -/
theorem pinv_step {c b : CSt sem} {tid : Nat} {pc pc' : PC sem} (n0 : String) (hI : PInv c) (hpc : c.pcs[tid]? = some pc)
    (hp : b.pcs = setNth c.pcs tid pc') (hothers : ∀ m, m ≠ n0 → kget b.table m = kget c.table m)
    (hpc0 : ∀ m, m ≠ n0 → pcHolds pc m = false)
    (hinsts : ∀ (j : Nat) (nm : String) (l : sem.L), c.insts[j]? = some (nm, l) → ∃ l', b.insts[j]? = some (nm, l'))
    (hpc' : ∀ m, m ≠ n0 → pcHolds pc' m = false)
    (hcnt : entPending b.table n0 + (if pcHolds pc n0 then 1 else 0) = entPending c.table n0 + (if pcHolds pc' n0 then 1 else 0))
    (hkeep : ∀ e i, kget c.table n0 = some e → e.inst = some i →
        (∃ e', kget b.table n0 = some e' ∧ e'.inst = some i) ∨ entPending b.table n0 = 0)
    (hnew : ∀ n i, pcInst pc' = some (n, i) → ∃ e', kget b.table n = some e' ∧ e'.inst = some i)
    (hval0 : ∀ e i, kget b.table n0 = some e → e.inst = some i → ∃ l, b.insts[i]? = some (n0, l)) :
    PInv b := by
  have hcount : ∀ n, entPending b.table n = cnt n b.pcs := by
    intro n
    rw [hp]
    have hs := cnt_setNth n c.pcs tid pc pc' hpc
    have hold := hI.count n
    by_cases hn : n = n0
    · subst hn; omega
    · have e1 : entPending b.table n = entPending c.table n := by simp only [entPending, hothers n hn]
      rw [hpc0 n hn, hpc' n hn] at hs
      simp at hs
      omega
  refine ⟨hcount, ?_, ?_⟩
  · intro t pct n i hget hinst
    simp only [hp, getElem?_setNth hpc] at hget
    split at hget
    · cases hget; exact hnew n i hinst
    · obtain ⟨e, he, hei⟩ := hI.held t pct n i hget hinst
      by_cases hn : n = n0
      · subst hn
        rcases hkeep e i he hei with h | h
        · exact h
        · have hpos := cnt_pos n b.pcs t pct (by rw [hp, getElem?_setNth hpc, if_neg ‹_›]; exact hget)
            (pcInst_holds pct n i hinst)
          have := hcount n
          omega
      · exact ⟨e, by rw [hothers n hn]; exact he, hei⟩
  · intro n e i he hei
    by_cases hn : n = n0
    · subst hn; exact hval0 e i he hei
    · rw [hothers n hn] at he
      obtain ⟨l, hl⟩ := hI.valid n e i he hei
      exact hinsts i n l hl

/-- when the cache installs: the loaded entry is installed, counts one holder more than the table did, and had no instance -/
theorem LoadOrigin.facts {cfg : Cfg} {c : CSt sem} {r : Req sem} {now : Int} {e : HEntry} {installed : Bool}
    (ho : LoadOrigin cfg c r now e installed) (hinst : installs cfg = true) :
    installed = true ∧ e.pending = entPending c.table r.name + 1 ∧ e.inst = none ∧
    ∀ e1 j, kget c.table r.name = some e1 → e1.inst ≠ some j := by
  rcases ho with ⟨e0, h1, h2, rfl, rfl⟩ | ⟨h1, rfl, rfl⟩
  · refine ⟨rfl, by simp [entPending, h1], h2, ?_⟩
    intro e1 j he; rw [h1] at he; cases he; rw [h2]; exact nofun
  · refine ⟨hinst, by simp [entPending, h1], rfl, ?_⟩
    intro e1 j he; rw [h1] at he; cases he

theorem pinv_cstep (cfg : Cfg) (hinst : installs cfg = true) (c : CSt sem) (tid : Nat) (now : Int) (hI : PInv c) :
    PInv (cstep cfg c tid now) := by
  rcases cstep_cases cfg c tid now with h | ⟨pc, pc', hpc, hs⟩
  · rw [h]; exact hI
  generalize cstep cfg c tid now = c' at hs ⊢
  have hi := hs.insts (fun n i hi => hI.inst hpc hi)
  cases pc with
  | done i o => cases hs
  | start r =>
    have hstep := pinv_step r.name hI hpc hs.pcs_eq hs.others (fun _ hm => pcHolds_name hm) hi
    cases hs with
    | served _ e0 i nm l hk hi' hg hb =>
      refine hstep (fun _ hm => pcHolds_name hm) ?_ ?_ ?_ ?_
      · simp [entPending_kset, entPending_of_get hk, pcHolds]
      · intro e j he hj; rw [hk] at he; cases he
        exact Or.inl ⟨_, kget_kset_self _ _ _, hj⟩
      · intro n j hnj; cases hnj; exact ⟨_, kget_kset_self _ _ _, hi'⟩
      · intro e j he hj; simp [kget_kset] at he; subst he
        exact hI.valid r.name e0 j hk hj
    | refused _ e0 i nm l hk hi' hg hb =>
      refine hstep (fun _ hm => pcHolds_name hm) ?_ ?_ ?_ ?_
      · simp [entPending_kset, entPending_of_get hk, pcHolds]
      · intro e j he hj; rw [hk] at he; cases he
        exact Or.inl ⟨_, kget_kset_self _ _ _, hj⟩
      · intro n j hnj; cases hnj
      · intro e j he hj; simp [kget_kset] at he; subst he
        exact hI.valid r.name e0 j hk hj
    | loaded _ e installed ho' hb =>
      obtain ⟨rfl, hpend, hnone, hno⟩ := ho'.facts hinst
      refine hstep (fun _ hm => pcHolds_name hm) ?_ ?_ ?_ ?_
      · simp [entPending_kset, loadedEntry, pcHolds, hpend]
      · intro e1 j he hj; exact absurd hj (hno e1 j he)
      · intro n j hnj; cases hnj; exact ⟨_, kget_kset_self _ _ _, rfl⟩
      · intro e1 j he hj; simp [kget_kset] at he; subst he; cases hj
        exact ⟨_, List.getElem?_concat_length⟩
    | loadRefused _ e installed ho' hb =>
      obtain ⟨rfl, hpend, hnone, hno⟩ := ho'.facts hinst
      refine hstep (fun _ hm => pcHolds_name hm) ?_ ?_ ?_ ?_
      · simp [entPending_kset, pcHolds, hpend]
      · intro e1 j he hj; exact absurd hj (hno e1 j he)
      · intro n j hnj; cases hnj
      · intro e1 j he hj; simp [kget_kset] at he; subst he; rw [hnone] at hj; cases hj
  | opened r i =>
    have hstep := pinv_step r.name hI hpc hs.pcs_eq hs.others (fun _ hm => pcHolds_name hm) hi
    obtain ⟨ht, -, -, out, rfl⟩ := hs.call
    obtain ⟨e, he, hei⟩ := hI.held tid _ r.name i hpc rfl
    refine hstep (fun _ hm => pcHolds_name hm) ?_ ?_ ?_ ?_
    · simp [ht, pcHolds]
    · intro e1 j h1 h2; exact Or.inl ⟨e1, ht ▸ h1, h2⟩
    · intro n j hnj; cases hnj; exact ⟨e, ht ▸ he, hei⟩
    · intro e1 j h1 h2; rw [ht] at h1
      obtain ⟨l1, hl1⟩ := hI.valid _ e1 j h1 h2
      exact hi j _ l1 hl1
  | releasing n inst out =>
    have hstep := pinv_step n hI hpc hs.pcs_eq hs.others (fun _ hm => pcHolds_name hm) hi
    -- this thread is counted
    have hpos : 1 ≤ entPending c.table n := by
      have := cnt_pos n c.pcs tid _ hpc (by simp [pcHolds])
      have := hI.count n
      omega
    cases hs with
    | relAbsent _ _ _ hk => simp [entPending, hk] at hpos
    | relKept _ _ _ e hk =>
      rw [entPending_of_get hk] at hpos
      refine hstep (fun _ _ => rfl) ?_ ?_ ?_ ?_
      · simp [entPending_kset, entPending_of_get hk, pcHolds]; omega
      · intro e1 j h1 h2; rw [hk] at h1; cases h1
        exact Or.inl ⟨_, kget_kset_self _ _ _, h2⟩
      · intro m j hnj; cases hnj
      · intro e1 j h1 h2; simp [kget_kset] at h1; subst h1
        exact hI.valid n e j hk h2
    | relDropped _ _ _ e hk hle =>
      rw [entPending_of_get hk] at hpos
      refine hstep (fun _ _ => rfl) ?_ ?_ ?_ ?_
      · simp [entPending_kdel, entPending_of_get hk, pcHolds]; omega
      · intro e1 j h1 h2; exact Or.inr (by simp [entPending_kdel])
      · intro m j hnj; cases hnj
      · intro e1 j h1 h2; simp [kget_kdel] at h1

theorem pcs_cinit {store : List (String × sem.S)} {reqs : List (Req sem)} {t : Nat} {pc : PC sem}
    (h : (cinit store reqs : CSt sem).pcs[t]? = some pc) : ∃ r, reqs[t]? = some r ∧ pc = .start r := by
  simp only [cinit, List.getElem?_map, Option.map_eq_some_iff] at h
  obtain ⟨r, hr, rfl⟩ := h
  exact ⟨r, hr, rfl⟩

theorem crun_inv (cfg : Cfg) {I : CSt sem → Prop} (hstep : ∀ c tid now, I c → I (cstep cfg c tid now)) :
    ∀ (sched : List (Nat × Int)) (c : CSt sem), I c → I (crun cfg c sched) := by
  intro sched
  induction sched with
  | nil => intro c h; exact h
  | cons a rest ih => intro c h; exact ih _ (hstep c a.1 a.2 h)

theorem pinv_init (store : List (String × sem.S)) (reqs : List (Req sem)) : PInv (cinit store reqs : CSt sem) := by
  have hc : ∀ (n : String) (l : List (Req sem)), cnt n (l.map PC.start) = 0 := by
    intro n l
    refine List.countP_eq_zero.mpr fun pc hpc => ?_
    obtain ⟨r, -, rfl⟩ := List.mem_map.mp hpc
    simp [pcHolds_start]
  refine ⟨?_, ?_, ?_⟩
  · intro n; simp only [cinit, entPending, kget]; exact (hc n reqs).symm
  · intro t pc n i h hi
    obtain ⟨r, -, rfl⟩ := pcs_cinit h
    cases hi
  · intro n e i h; simp [cinit, kget] at h

/-! ### transparency under overlap: the answers, in the order in which they were determined, are those of direct
operation -/

theorem runD_append (check : Bool) : ∀ (h1 : List (Req sem × Int × Int)) (d : DSt sem) (x : Req sem × Int × Int),
    runD check d (h1 ++ [x]) =
      ((reqD check (runD check d h1).1 x.1 x.2.1).1, (runD check d h1).2 ++ [(reqD check (runD check d h1).1 x.1 x.2.1).2]) := by
  intro h1
  induction h1 with
  | nil => intro d x; obtain ⟨r, t1, t2⟩ := x; simp [runD]
  | cons a rest ih =>
    intro d x
    obtain ⟨r, t1, t2⟩ := a
    simp only [List.cons_append, runD]
    rw [ih]

/-- the data invariant: cached instances are faithful to the storage, the storage is what direct operation of the
logged requests produces, a thread that passed the check still sees the marker, and the requests not yet called keep it
(`keeps`: the hypothesis `ReqKeeps` of the theorem, carried along) -/
structure DInv (h : ReloadOK sem) (check : Bool) (s0 : List (String × sem.S)) (c : CSt sem) (d : DSt sem) : Prop where
  faithful : ∀ (n : String) (e : HEntry) (i : Nat) (l : sem.L), kget c.table n = some e → e.inst = some i →
    c.insts[i]? = some (n, l) → h.R l (storeOf c.store n)
  dir : ∀ n t, (dget d n t).2 = storeOf c.store n ∧ h.R (dget d n t).1 (storeOf c.store n)
  lin : runD check { base := s0 } (logHist c) = (d, c.log.map (·.2))
  marked : check = true → ∀ (t : Nat) (r : Req sem) (i : Nat) (l : sem.L), c.pcs[t]? = some (.opened r i) → reqCheck r = true →
    c.insts[i]? = some (r.name, l) → sem.created l = true
  keeps : ∀ (t : Nat) (r : Req sem), (c.pcs[t]? = some (.start r) ∨ ∃ i, c.pcs[t]? = some (.opened r i)) → ReqKeeps sem check r

/-- one more logged answer. Direct operation reads clock `0` (`logHist`): under `ReloadOK` the time of a load does not matter -/
theorem lin_step (check : Bool) (s0 : List (String × sem.S)) (c c' : CSt sem) (d d' : DSt sem) (r : Req sem) (o : Out sem)
    (hl : runD check { base := s0 } (logHist c) = (d, c.log.map (·.2))) (hlog : c'.log = c.log ++ [(r, o)])
    (hreq : reqD check d r 0 = (d', o)) :
    runD check { base := s0 } (logHist c') = (d', c'.log.map (·.2)) := by
  unfold logHist at hl ⊢
  rw [hlog, List.map_append, List.map_append]
  simp only [List.map]
  rw [runD_append, hl]
  simp only [hreq]

/-- a thread that is before its call after a step was so before, with the same request (for `DInv.keeps`) -/
theorem Step.todo {cfg : Cfg} {now : Int} {tid : Nat} {c b : CSt sem} {pc pc' : PC sem} (h : Step cfg now tid c pc pc' b) (r : Req sem)
    (hr : pc' = .start r ∨ ∃ i, pc' = .opened r i) : pc = .start r ∨ ∃ i, pc = .opened r i := by
  cases h <;> rcases hr with hr | ⟨i, hr⟩ <;> cases hr <;> exact Or.inl rfl

/-- `DInv` after a step of thread `tid`: `faithful`, `dir`, `lin` are asked of the new state as they stand; `marked` for the thread
itself (`hown`) and for the others (`hrest`); `keeps` carries over because a thread that is before its call was so before
(`htodo`, from `Step.todo`). -/
theorem dinv_step {h : ReloadOK sem} {check : Bool} {s0 : List (String × sem.S)} {c b : CSt sem} {d d' : DSt sem}
    {tid : Nat} {pc pc' : PC sem} (hD : DInv h check s0 c d) (hpc : c.pcs[tid]? = some pc)
    (hp : b.pcs = setNth c.pcs tid pc') (htodo : ∀ r, (pc' = .start r ∨ ∃ i, pc' = .opened r i) → (pc = .start r ∨ ∃ i, pc = .opened r i))
    (hfaith : ∀ n e i l, kget b.table n = some e → e.inst = some i → b.insts[i]? = some (n, l) → h.R l (storeOf b.store n))
    (hdir : ∀ n t, (dget d' n t).2 = storeOf b.store n ∧ h.R (dget d' n t).1 (storeOf b.store n))
    (hlin : runD check { base := s0 } (logHist b) = (d', b.log.map (·.2)))
    (hown : check = true → ∀ (r : Req sem) (i : Nat) (l : sem.L), pc' = PC.opened r i → reqCheck r = true → b.insts[i]? = some (r.name, l) → sem.created l = true)
    (hrest : check = true → ∀ (t : Nat) (r : Req sem) (i : Nat) (l : sem.L), c.pcs[t]? = some (PC.opened r i) → reqCheck r = true → b.insts[i]? = some (r.name, l) →
      sem.created l = true) :
    DInv h check s0 b d' := by
  refine ⟨hfaith, hdir, hlin, ?_, ?_⟩
  · intro hc t r i l hget
    simp only [hp, getElem?_setNth hpc] at hget
    split at hget
    · exact hown hc r i l (Option.some.inj hget)
    · exact hrest hc t r i l hget
  · intro t r hget
    simp only [hp, getElem?_setNth hpc] at hget
    split at hget
    · next ht =>
      subst ht
      simp only [Option.some.injEq] at hget
      rcases htodo r hget with h0 | ⟨i, h0⟩ <;> subst h0
      · exact hD.keeps t r (Or.inl hpc)
      · exact hD.keeps t r (Or.inr ⟨i, hpc⟩)
    · exact hD.keeps t r hget

def InstsFrom (t' t : List (String × HEntry)) : Prop :=
  ∀ m e j, kget t' m = some e → e.inst = some j → ∃ e0, kget t m = some e0 ∧ e0.inst = some j

theorem instsFrom_kset {t : List (String × HEntry)} {n : String} {e' : HEntry}
    (hi : ∀ j, e'.inst = some j → ∃ e0, kget t n = some e0 ∧ e0.inst = some j) : InstsFrom (kset t n e') t := by
  intro m e j he hj
  rw [kget_kset] at he
  split at he
  · next hm => subst hm; cases he; exact hi j hj
  · exact ⟨e, he, hj⟩

theorem instsFrom_kdel (t : List (String × HEntry)) (n : String) : InstsFrom (kdel t n) t := by
  intro m e j he hj
  rw [kget_kdel] at he
  split at he
  · cases he
  · exact ⟨e, he, hj⟩

theorem DInv.faithful_from {h : ReloadOK sem} {check : Bool} {s0 : List (String × sem.S)} {c : CSt sem} {d : DSt sem}
    (hD : DInv h check s0 c d) {t' : List (String × HEntry)} (hf : InstsFrom t' c.table) (n : String) (e : HEntry) (i : Nat)
    (l : sem.L) (he : kget t' n = some e) (hi : e.inst = some i) (hl : c.insts[i]? = some (n, l)) :
    h.R l (storeOf c.store n) := by
  obtain ⟨e0, h0, h1⟩ := hf n e i he hi
  exact hD.faithful n e0 i l h0 h1 hl

/-- the call keeps the data invariant: the instance the thread holds is the cached one (`PInv`) and so faithful
(`call_sim`); it wrote nothing, or it wrote `p` -/
theorem dinv_call (h : ReloadOK sem) {cfg : Cfg} {now : Int} {s0 : List (String × sem.S)} {c b : CSt sem} {d : DSt sem}
    {tid : Nat} {r : Req sem} {i : Nat} {pc' : PC sem} (hP : PInv c) (hD : DInv h cfg.checkExistence s0 c d)
    (hpc : c.pcs[tid]? = some (.opened r i)) (hs : Step cfg now tid c (.opened r i) pc' b) :
    ∃ d', DInv h cfg.checkExistence s0 b d' := by
  have htodo := hs.todo
  cases hs with
  | callX _ _ nm l hg =>
    obtain ⟨e, he, hei⟩ := hP.held tid _ r.name i hpc rfl
    obtain ⟨l0, hl0⟩ := hP.valid r.name e i he hei
    rw [hl0] at hg; cases hg
    have hR0 : h.R l (storeOf c.store r.name) := hD.faithful r.name e i l he hei hl0
    have hchk : (reqCheck r && cfg.checkExistence && !sem.created l) = false := by
      cases hc : (reqCheck r && cfg.checkExistence) with
      | false => rfl
      | true =>
        simp only [Bool.and_eq_true] at hc
        simp [hD.marked hc.2 tid r i l hpc hc.1 hl0]
    obtain ⟨e1, e2, e3⟩ := call_sim h cfg.checkExistence d r 0 (hD.dir r.name) hR0 hchk
    have hmk := fun hc hl => callL_marked (s := storeOf c.store r.name) (hD.keeps tid r (Or.inr ⟨i, hpc⟩)) hc (l := l) hl
    generalize callL r l (storeOf c.store r.name) = x at *
    obtain ⟨w, o⟩ := x
    refine ⟨_, dinv_step hD hpc rfl htodo ?_ ?_ (lin_step _ s0 c _ d _ r o hD.lin rfl (Prod.ext rfl e1))
      (fun _ _ _ _ h => nomatch h) ?_⟩
    · cases w with
      | none => exact hD.faithful
      | some p =>
        intro n e1' j l' he1 hj hl'
        have he1 : kget c.table n = some e1' := he1
        simp only [CSt.called, getElem?_setNth hl0, storeOf_kset] at hl' ⊢
        split at hl'
        · cases hl'; rw [if_pos rfl]; exact e2 p rfl
        · next hji =>
          have hn : n ≠ r.name := by
            intro hn; subst hn
            rw [he] at he1; cases he1
            rw [hei] at hj; cases hj; exact hji rfl
          rw [if_neg hn]
          exact hD.faithful n e1' j l' he1 hj hl'
    · intro m t
      have hst : storeOf (c.called tid r i (w, o)).store m = if m = r.name then (wrView none (storeOf c.store r.name) w).2
          else storeOf c.store m := by
        cases w with
        | none =>
          split
          · next hm => rw [hm]; rfl
          · rfl
        | some p => exact storeOf_kset _ _ _ _
      rw [hst]
      split
      · next hm => subst hm; exact e3 none t
      · next hm => rw [reqD_other _ d r 0 m t hm]; exact hD.dir m t
    · cases w with
      | none => exact hD.marked
      | some p =>
        intro hc t r' i' l' hget hrc hl'
        simp only [CSt.called, getElem?_setNth hl0] at hl'
        split at hl'
        · next hji =>
          subst hji
          obtain ⟨hname, rfl⟩ := Prod.mk.inj (Option.some.inj hl')
          exact hmk hc (hD.marked hc t r' i' l hget hrc (by rw [hl0, hname])) p rfl
        · exact hD.marked hc t r' i' l' hget hrc hl'


theorem dinv_cstep (h : ReloadOK sem) (cfg : Cfg) (hinst : installs cfg = true) (s0 : List (String × sem.S))
    (c : CSt sem) (tid : Nat) (now : Int) (d : DSt sem) (hP : PInv c) (hD : DInv h cfg.checkExistence s0 c d) :
    ∃ d', DInv h cfg.checkExistence s0 (cstep cfg c tid now) d' := by
  rcases cstep_cases cfg c tid now with h1 | ⟨pc, pc', hpc, hs⟩
  · rw [h1]; exact ⟨d, hD⟩
  generalize cstep cfg c tid now = c' at hs ⊢
  have htodo := hs.todo
  cases pc with
  | done i o => cases hs
  | start r =>
    cases hs with
    | served _ e0 i nm l hk hi hg hb =>
      refine ⟨d, dinv_step hD hpc rfl htodo (hD.faithful_from (instsFrom_kset fun j hj => ⟨e0, hk, hj⟩)) hD.dir hD.lin ?_ hD.marked⟩
      intro hc r' i' l' hpc' hrc hl'
      cases hpc'
      rw [hg] at hl'; cases hl'
      simpa [hrc, hc] using hb
    | refused _ e0 i nm l hk hi hg hb =>
      obtain ⟨l0, hl0⟩ := hP.valid r.name e0 i hk hi
      rw [hg] at hl0; cases hl0
      have hR := hD.faithful r.name e0 i l hk hi hg
      exact ⟨d, dinv_step hD hpc rfl htodo (hD.faithful_from (instsFrom_kset fun j hj => ⟨e0, hk, hj⟩)) hD.dir
        (lin_step _ s0 c _ d d r .notFound hD.lin rfl (refuse_sim h _ d r 0 (hD.dir r.name 0).2 hR hb))
        (fun _ _ _ _ h => nomatch h) hD.marked⟩
    | loaded _ e installed ho hb =>
      obtain ⟨rfl, -, -, -⟩ := ho.facts hinst
      refine ⟨d, dinv_step hD hpc rfl htodo ?_ hD.dir hD.lin ?_ ?_⟩
      · intro n e1 j l' he hj hl'
        simp only [↓reduceIte, kget_kset] at he
        split at he
        · next hn =>
          subst hn; cases he; cases hj
          simp only [List.getElem?_concat_length] at hl'; cases hl'
          exact h.load_R _ _
        · obtain ⟨l0, hl0⟩ := hP.valid n e1 j he hj
          simp only [getElem?_append_of_some hl0] at hl'
          exact hD.faithful n e1 j l' he hj (hl0.trans hl')
      · intro hc r' i' l' hpc' hrc hl'
        cases hpc'
        simp only [List.getElem?_concat_length] at hl'; cases hl'
        simpa [hrc, hc] using hb
      · intro hc t r' i' l' hget hrc hl'
        obtain ⟨l0, hl0⟩ := hP.inst hget rfl
        simp only [getElem?_append_of_some hl0] at hl'
        exact hD.marked hc t r' i' l' hget hrc (hl0.trans hl')
    | loadRefused _ e installed ho hb =>
      obtain ⟨rfl, -, hnone, -⟩ := ho.facts hinst
      exact ⟨d, dinv_step hD hpc rfl htodo
        (hD.faithful_from (instsFrom_kset fun j hj => by rw [hnone] at hj; cases hj)) hD.dir
        (lin_step _ s0 c _ d d r .notFound hD.lin rfl (refuse_sim h _ d r 0 (hD.dir r.name 0).2 (h.load_R now _) hb))
        (fun _ _ _ _ h => nomatch h) hD.marked⟩
  | opened r i => exact dinv_call h hP hD hpc hs
  | releasing n inst out =>
    cases hs with
    | relAbsent _ _ _ hk => exact ⟨d, dinv_step hD hpc rfl htodo hD.faithful hD.dir hD.lin (fun _ _ _ _ h => nomatch h) hD.marked⟩
    | relKept _ _ _ e hk =>
      exact ⟨d, dinv_step hD hpc rfl htodo (hD.faithful_from (instsFrom_kset fun j hj => ⟨e, hk, hj⟩)) hD.dir hD.lin
        (fun _ _ _ _ h => nomatch h) hD.marked⟩
    | relDropped _ _ _ e hk _ =>
      exact ⟨d, dinv_step hD hpc rfl htodo (hD.faithful_from (instsFrom_kdel _ _)) hD.dir hD.lin
        (fun _ _ _ _ h => nomatch h) hD.marked⟩

theorem dinv_init (h : ReloadOK sem) (check : Bool) (s0 : List (String × sem.S)) (reqs : List (Req sem))
    (hk : ∀ r ∈ reqs, ReqKeeps sem check r) :
    DInv h check s0 (cinit s0 reqs : CSt sem) { base := s0 } := by
  refine ⟨?_, ?_, rfl, ?_, ?_⟩
  · intro n e i l he; simp [cinit, kget] at he
  · intro n t; exact ⟨rfl, h.load_R _ _⟩
  · intro _ t r i l hget
    obtain ⟨r0, -, h0⟩ := pcs_cinit hget
    cases h0
  · intro t r hor
    rcases hor with hget | ⟨i, hget⟩ <;> obtain ⟨r0, hr, h0⟩ := pcs_cinit hget <;> cases h0
    exact hk r (List.mem_of_getElem? hr)

theorem dinv_crun (h : ReloadOK sem) (cfg : Cfg) (hinst : installs cfg = true) (s0 : List (String × sem.S))
    (sched : List (Nat × Int)) (c : CSt sem) (d : DSt sem) (hP : PInv c) (hD : DInv h cfg.checkExistence s0 c d) :
    PInv (crun cfg c sched) ∧ ∃ d', DInv h cfg.checkExistence s0 (crun cfg c sched) d' :=
  crun_inv cfg (I := fun c => PInv c ∧ ∃ d, DInv h cfg.checkExistence s0 c d)
    (fun c tid now ⟨hP, d, hD⟩ => ⟨pinv_cstep cfg hinst c tid now hP, dinv_cstep h cfg hinst s0 c tid now d hP hD⟩)
    sched c ⟨hP, d, hD⟩

/-! ### every answer is in the log -/

/-- what is known about a thread at `pc`: it runs the request `reqs[t]`; once its answer is determined, request and
answer are in the log -/
def LProp (reqs : List (Req sem)) (log : List (Req sem × Out sem)) (t : Nat) : PC sem → Prop
  | .start r => reqs[t]? = some r
  | .opened r _ => reqs[t]? = some r
  | .releasing _ _ o => ∃ r, reqs[t]? = some r ∧ (r, o) ∈ log
  | .done _ o => ∃ r, reqs[t]? = some r ∧ (r, o) ∈ log

def LInv (reqs : List (Req sem)) (c : CSt sem) : Prop :=
  ∀ (t : Nat) (pc : PC sem), c.pcs[t]? = some pc → LProp reqs c.log t pc

theorem Step.log_mono {cfg : Cfg} {now : Int} {tid : Nat} {c b : CSt sem} {pc pc' : PC sem} (h : Step cfg now tid c pc pc' b)
    (p : Req sem × Out sem) (hp : p ∈ c.log) : p ∈ b.log := by
  cases h <;> first | exact hp | exact List.mem_append_left _ hp

theorem Step.lprop {cfg : Cfg} {now : Int} {tid : Nat} {c b : CSt sem} {pc pc' : PC sem} (h : Step cfg now tid c pc pc' b)
    (reqs : List (Req sem)) (t : Nat) (hl : LProp reqs c.log t pc) : LProp reqs b.log t pc' := by
  cases h with
  | served | loaded | relAbsent | relKept | relDropped => exact hl
  | _ => exact ⟨_, hl, List.mem_append_right _ (List.mem_singleton_self _)⟩

/-- `LProp` survives a log that only grows -/
theorem linv_mono (reqs : List (Req sem)) (log log' : List (Req sem × Out sem))
    (hmono : ∀ p, p ∈ log → p ∈ log') (t : Nat) (pc : PC sem) (h : LProp reqs log t pc) : LProp reqs log' t pc := by
  cases pc with
  | start r => exact h
  | opened r i => exact h
  | releasing n inst o => obtain ⟨r, h1, h2⟩ := h; exact ⟨r, h1, hmono _ h2⟩
  | done i o => obtain ⟨r, h1, h2⟩ := h; exact ⟨r, h1, hmono _ h2⟩

theorem linv_cstep (cfg : Cfg) (reqs : List (Req sem)) (c : CSt sem) (tid : Nat) (now : Int) (hL : LInv reqs c) :
    LInv reqs (cstep cfg c tid now) := by
  rcases cstep_cases cfg c tid now with h | ⟨pc, pc', hpc, hs⟩
  · rw [h]; exact hL
  generalize cstep cfg c tid now = c' at hs ⊢
  intro t pct hget
  simp only [hs.pcs_eq, getElem?_setNth hpc] at hget
  split at hget
  · next ht => subst ht; cases hget; exact hs.lprop reqs t (hL t pc hpc)
  · exact linv_mono reqs c.log c'.log hs.log_mono t pct (hL t pct hget)

/-- an answer that is determined is in the log, with the thread's request -/
theorem linv_answer {reqs : List (Req sem)} {c : CSt sem} (hL : LInv reqs c) {t : Nat} {o : Out sem}
    (ha : answerOf c t = some o) : ∃ r, reqs[t]? = some r ∧ (r, o) ∈ c.log := by
  unfold answerOf at ha
  cases hp : c.pcs[t]? with
  | none => simp [hp] at ha
  | some pc =>
    have := hL t pc hp
    cases pc with
    | start r => simp [hp] at ha
    | opened r i => simp [hp] at ha
    | releasing n inst o' => simp [hp] at ha; subst ha; exact this
    | done inst o' => simp [hp] at ha; subst ha; exact this

theorem linv_init (store : List (String × sem.S)) (reqs : List (Req sem)) : LInv reqs (cinit store reqs : CSt sem) := by
  intro t pc hget
  obtain ⟨r, hr, rfl⟩ := pcs_cinit hget
  exact hr

/-! ### concurrent first requests: one load -/

/-- the requests for `n` overlap: nobody has released yet.  `k` instances existed before, so the one instance that a
load creates is instance `k`.  Once somebody is done (`over`) nothing more is claimed. -/
inductive Phase (cfg : Cfg) (n : String) (k : Nat) (c : CSt sem) : Prop where
  | fresh : kget c.table n = none → c.loads = [] → c.insts.length = k →
      (∀ (t : Nat) (pc : PC sem), c.pcs[t]? = some pc →
        ∃ r, pc = PC.start r ∧ r.name = n ∧ (reqCheck r && cfg.checkExistence) = false) → Phase cfg n k c
  | loaded (e : HEntry) : kget c.table n = some e → e.inst = some k → c.loads = [n] →
      (∀ (t : Nat) (pc : PC sem), c.pcs[t]? = some pc →
        (∃ r, pc = PC.start r ∧ r.name = n ∧ (reqCheck r && cfg.checkExistence) = false) ∨
        (∃ r, pc = PC.opened r k ∧ r.name = n) ∨ (∃ o, pc = PC.releasing n (some k) o)) → Phase cfg n k c
  | over (t : Nat) : isDone c t = true → Phase cfg n k c

theorem isDone_mono (cfg : Cfg) (c : CSt sem) (tid : Nat) (now : Int) (t : Nat) (h : isDone c t = true) :
    isDone (cstep cfg c tid now) t = true := by
  rcases cstep_cases cfg c tid now with h1 | ⟨pc, pc', hpc, hs⟩
  · rw [h1]; exact h
  generalize cstep cfg c tid now = c' at hs ⊢
  unfold isDone at h ⊢
  simp only [hs.pcs_eq, getElem?_setNth hpc]
  by_cases ht : t = tid
  · subst ht; rw [hpc] at h; cases hs <;> cases h
  · rw [if_neg ht]; exact h

theorem phase_step (cfg : Cfg) (hinst : installs cfg = true) (n : String) (k : Nat) (c : CSt sem) (tid : Nat) (now : Int)
    (hp : Phase cfg n k c) : Phase cfg n k (cstep cfg c tid now) := by
  rcases cstep_cases cfg c tid now with h1 | ⟨pc, pc', hpc, hs⟩
  · rw [h1]; exact hp
  have hdone := isDone_mono cfg c tid now
  generalize cstep cfg c tid now = c' at hs hdone ⊢
  -- the threads after the step: `tid` is at `pc'`, the others are where they were
  have hthreads : ∀ {P : PC sem → Prop}, P pc' → (∀ (t : Nat) (pct : PC sem), c.pcs[t]? = some pct → P pct) →
      ∀ (t : Nat) (pct : PC sem), c'.pcs[t]? = some pct → P pct := by
    intro P h' hall t pct hget
    rw [hs.pcs_eq, getElem?_setNth hpc] at hget
    split at hget
    · cases hget; exact h'
    · exact hall t pct hget
  cases hp with
  | over t ht => exact Phase.over t (hdone t ht)
  | fresh htab hloads hinsts hpcs =>
    obtain ⟨r, rfl, rfl, hchk⟩ := hpcs tid pc hpc
    cases hs with
    | served _ e0 i nm l hk => rw [htab] at hk; cases hk
    | refused _ e0 i nm l hk => rw [htab] at hk; cases hk
    | loadRefused _ e installed ho hb => rw [hchk] at hb; cases hb
    | loaded _ e installed ho hb =>
      obtain ⟨rfl, -, -, -⟩ := ho.facts hinst
      refine Phase.loaded _ (kget_kset_self _ _ _) (by simp [loadedEntry, hinsts]) (by simp [hloads])
        (hthreads (Or.inr (Or.inl ⟨r, by simp [hinsts], rfl⟩)) (fun t pct h => Or.inl (hpcs t pct h)))
  | loaded e htab hsome hloads hpcs =>
    rcases hpcs tid pc hpc with ⟨r, rfl, rfl, hchk⟩ | ⟨r, rfl, rfl⟩ | ⟨o, rfl⟩
    · cases hs with
      | served _ e0 i nm l hk hi =>
        rw [htab] at hk; cases hk
        rw [hsome] at hi; cases hi
        exact Phase.loaded _ (kget_kset_self _ _ _) hsome hloads (hthreads (Or.inr (Or.inl ⟨r, rfl, rfl⟩)) hpcs)
      | refused _ e0 i nm l hk hi hg hb => rw [hchk] at hb; cases hb
      | loaded _ e1 installed ho => exact absurd hsome ((ho.facts hinst).2.2.2 e k htab)
      | loadRefused _ e1 installed ho => exact absurd hsome ((ho.facts hinst).2.2.2 e k htab)
    · obtain ⟨ht, hl, -, out, rfl⟩ := hs.call
      exact Phase.loaded e (ht ▸ htab) hsome (hl ▸ hloads) (hthreads (Or.inr (Or.inr ⟨out, rfl⟩)) hpcs)
    · refine Phase.over tid ?_
      cases hs <;> simp [isDone, getElem?_setNth hpc]

theorem phase_init (cfg : Cfg) (n : String) (store : List (String × sem.S)) (reqs : List (Req sem))
    (hreqs : ∀ r ∈ reqs, r.name = n ∧ (reqCheck r && cfg.checkExistence) = false) :
    Phase cfg n 0 (cinit store reqs : CSt sem) := by
  refine Phase.fresh rfl rfl rfl ?_
  intro t pc h
  obtain ⟨r, hr, rfl⟩ := pcs_cinit h
  exact ⟨r, rfl, hreqs r (List.mem_of_getElem? hr)⟩

/-- what `Phase` says while nobody is done: at most one load, and whoever holds an instance holds instance `k` -/
theorem phase_facts (cfg : Cfg) (n : String) (k : Nat) (c : CSt sem) (hp : Phase cfg n k c) (hnd : ∀ t, isDone c t = false) :
    c.loads.length ≤ 1 ∧ (∀ t i, instOf c t = some i → i = k) ∧ (∀ t i, instOf c t = some i → c.loads = [n]) := by
  cases hp with
  | over t ht => rw [hnd t] at ht; cases ht
  | fresh htab hloads hinsts hpcs =>
    refine ⟨by simp [hloads], ?_, ?_⟩ <;>
    · intro t i h
      unfold instOf at h
      cases hpc : c.pcs[t]? with
      | none => simp [hpc] at h
      | some pc => obtain ⟨r, hr, _⟩ := hpcs t pc hpc; subst hr; simp [hpc] at h
  | loaded e htab hsome hloads hpcs =>
    refine ⟨by simp [hloads], ?_, ?_⟩
    · intro t i h
      unfold instOf at h
      cases hpc : c.pcs[t]? with
      | none => simp [hpc] at h
      | some pc =>
        rcases hpcs t pc hpc with ⟨r, hr, _⟩ | ⟨r, hr, _⟩ | ⟨o, hr⟩ <;> subst hr <;> simp [hpc] at h
        · exact h.symm
        · exact h.symm
    · intro t i _; exact hloads

end conc
