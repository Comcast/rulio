import RulioModel.Loc

/-! # `firstVisits`: of the visits an ancestor walk makes, the first per location counts -/

/-- the kept visits with their labels -/
def firstVisitsT {β} : List (String × β) → List String → List (String × β)
  | [], _ => []
  | (m, b) :: rest, seen => if seen.contains m then firstVisitsT rest seen else (m, b) :: firstVisitsT rest (m :: seen)

theorem firstVisits_eq_map {β} (ls : List (String × β)) (seen : List String) :
    firstVisits ls seen = (firstVisitsT ls seen).map (·.2) := by
  induction ls generalizing seen with
  | nil => simp [firstVisits, firstVisitsT]
  | cons x rest ih =>
    obtain ⟨m, b⟩ := x
    simp only [firstVisits, firstVisitsT]
    split
    · exact ih seen
    · simp [ih]

theorem firstVisitsT_sublist {β} (ls : List (String × β)) (seen : List String) :
    (firstVisitsT ls seen).Sublist ls := by
  induction ls generalizing seen with
  | nil => simp [firstVisitsT]
  | cons x rest ih =>
    obtain ⟨m, b⟩ := x
    simp only [firstVisitsT]
    split
    · exact (ih seen).cons _
    · exact (ih (m :: seen)).cons_cons _

theorem firstVisitsT_not_seen {β} (ls : List (String × β)) (seen : List String) :
    ∀ x ∈ firstVisitsT ls seen, x.1 ∉ seen := by
  induction ls generalizing seen with
  | nil => simp [firstVisitsT]
  | cons x rest ih =>
    obtain ⟨m, b⟩ := x
    simp only [firstVisitsT]
    split
    · exact ih seen
    · rename_i hc
      intro y hy
      rcases List.mem_cons.mp hy with rfl | hy
      · simpa using hc
      · intro hmem
        exact ih (m :: seen) y hy (List.mem_cons_of_mem _ hmem)

/-- **one visit per location**: the labels of the kept visits are pairwise distinct -/
theorem firstVisitsT_nodup {β} (ls : List (String × β)) (seen : List String) :
    ((firstVisitsT ls seen).map (·.1)).Nodup := by
  induction ls generalizing seen with
  | nil => simp [firstVisitsT]
  | cons x rest ih =>
    obtain ⟨m, b⟩ := x
    simp only [firstVisitsT]
    split
    · exact ih seen
    · simp only [List.map_cons, List.nodup_cons]
      refine ⟨?_, ih (m :: seen)⟩
      intro hm
      obtain ⟨y, hy, hym⟩ := List.mem_map.mp hm
      exact firstVisitsT_not_seen rest (m :: seen) y hy (by rw [hym]; exact List.mem_cons_self)

/-- **no location is lost**: every location the walk visited (and that was not seen before) has a kept visit -/
theorem firstVisitsT_covers {β} (ls : List (String × β)) (seen : List String) :
    ∀ x ∈ ls, x.1 ∉ seen → ∃ y ∈ firstVisitsT ls seen, y.1 = x.1 := by
  induction ls generalizing seen with
  | nil => intro x hx; cases hx
  | cons z rest ih =>
    obtain ⟨m, b⟩ := z
    intro x hx hns
    simp only [firstVisitsT]
    split
    · rename_i hc
      rcases List.mem_cons.mp hx with rfl | hx
      · exact absurd (by simpa using hc) hns
      · exact ih seen x hx hns
    · rcases List.mem_cons.mp hx with rfl | hx
      · exact ⟨(m, b), List.mem_cons_self, rfl⟩
      · by_cases hxm : x.1 = m
        · exact ⟨(m, b), List.mem_cons_self, hxm.symm⟩
        · obtain ⟨y, hy, hyx⟩ := ih (m :: seen) x hx (by
            intro h; rcases List.mem_cons.mp h with h | h
            · exact hxm h
            · exact hns h)
          exact ⟨y, List.mem_cons_of_mem _ hy, hyx⟩

theorem firstVisitsT_of_nodup {β} (ls : List (String × β)) (seen : List String)
    (hnd : (ls.map (·.1)).Nodup) (hdis : ∀ x ∈ ls, x.1 ∉ seen) : firstVisitsT ls seen = ls := by
  induction ls generalizing seen with
  | nil => simp [firstVisitsT]
  | cons z rest ih =>
    obtain ⟨m, b⟩ := z
    simp only [List.map_cons, List.nodup_cons] at hnd
    simp only [firstVisitsT]
    have hm : ¬ seen.contains m = true := by
      have := hdis (m, b) List.mem_cons_self
      simpa using this
    rw [if_neg hm]
    congr 1
    apply ih (m :: seen) hnd.2
    intro x hx hmem
    rcases List.mem_cons.mp hmem with h | h
    · exact hnd.1 (List.mem_map.mpr ⟨x, hx, h⟩)
    · exact hdis x (List.mem_cons_of_mem _ hx) h
