import RulioProofs.StateFrame
import RulioProofs.StateMatch

/-! # Search of both states when nothing is expired: a pure stScan over the candidate ids -/

/-- the re-match loop of both `search` functions without the expiry branch -/
def stScan (facts : List (String × Obj)) (p : Obj) :
    List String → List (String × Obj × List Bs) → Except LErr (List (String × Obj × List Bs))
  | [], acc => .ok acc
  | i :: rest, acc =>
    match amGet facts i with
    | none => stScan facts p rest acc
    | some fact =>
      match matchesJ (.obj p) (.obj fact) with
      | .error e => .error e
      | .ok bss => stScan facts p rest (if bss.isEmpty then acc else acc ++ [(i, fact, bss)])

theorem matchesJ_err_ne_fuel {p d : J} {e : LErr} (h : matchesJ p d = .error e) : e ≠ "fuel" := by
  simp only [matchesJ] at h
  split at h
  · cases h
  · rename_i e' _; injection h with h; subst h; cases e' <;> decide

theorem scan_ne_fuel {facts : List (String × Obj)} {p : Obj} {ids : List String} {acc} :
    stScan facts p ids acc ≠ .error "fuel" := by
  induction ids generalizing acc with
  | nil => simp [stScan]
  | cons i rest ih =>
    simp only [stScan]
    split
    · exact ih
    · split
      · rename_i e he
        intro h; injection h with h
        exact matchesJ_err_ne_fuel he h
      · exact ih

theorem amGet_noneExpired {s : St} {now : Int} (hne : NoneExpired s now) {i : String} {fact : Obj}
    (h : amGet s.facts i = some fact) : checkExpiration fact now = .ok false :=
  hne (i, fact) (AM.amGet_mem h)

theorem stScan_eq_pureScan (facts : List (String × Obj)) (p : Obj) : ∀ ids acc, stScan facts p ids acc =
    pureScan (fun id => match amGet facts id with | none => .ok none | some fact => reTest p id fact) ids acc
  | [], _ => rfl
  | i :: rest, acc => by
    rw [stScan, pureScan]
    cases amGet facts i with
    | none => exact stScan_eq_pureScan facts p rest acc
    | some fact =>
      simp only [reTest]
      cases matchesJ (.obj p) (.obj fact) with
      | error e => rfl
      | ok bss => cases bss <;> exact stScan_eq_pureScan facts p rest _

/-- the indexed search as a pure function of the state (valid when nothing is expired: `isearch_eq_ispec`, StateC02) -/
def St.ispec (s : St) (p : Obj) : Except LErr (List (String × Obj × List Bs)) :=
  match s.cands p with
  | .error e => .error e
  | .ok ids => stScan s.facts p ids []

/-- the linear search as a pure function of the state, every stored id a candidate (`lsearch_eq_lspec`, StateC02) -/
def St.lspec (s : St) (p : Obj) : Except LErr (List (String × Obj × List Bs)) :=
  stScan s.facts p (s.facts.map (·.1)) []

/-- Where nothing is expired the indexed search is quiet: out of fuel, or it leaves the state alone and answers the scan
of its candidates `c`, for this and every larger budget; one unit per candidate and two more suffice. -/
theorem isearch_spec {s : St} {now : Int} (hne : NoneExpired s now) {p : Obj} {c : List String} (hc : s.cands p = .ok c)
    (f : Nat) :
    (St.isearch f s p now = (s, .error "fuel") ∨ ∀ d, St.isearch (f + d) s p now = (s, stScan s.facts p c [])) ∧
    (c.length + 1 < f → St.isearch f s p now = (s, stScan s.facts p c [])) := by
  cases f with
  | zero => exact ⟨Or.inl rfl, fun h => absurd h (Nat.not_lt_zero _)⟩
  | succ f =>
    simp only [Nat.add_right_comm f 1, St.isearch_succ, hc, isearchLoop_eq, stScan_eq_pureScan]
    have h := St.readLoop_quiet (R := isearchOps p now) (s := s)
      (fun id fact hg => by simp only [isearchOps, laxExpiry, amGet_noneExpired hne hg]) f c []
    exact ⟨h.1, fun hf => h.2 (Nat.lt_of_succ_lt_succ hf)⟩

/-- the same for the linear search, whose candidates are all stored ids -/
theorem lsearch_spec {s : St} {now : Int} (hne : NoneExpired s now) (p : Obj) (f : Nat) :
    (St.lsearch f s p now = (s, .error "fuel") ∨
      ∀ d, St.lsearch (f + d) s p now = (s, stScan s.facts p (s.facts.map (·.1)) [])) ∧
    (s.facts.length + 1 < f → St.lsearch f s p now = (s, stScan s.facts p (s.facts.map (·.1)) [])) := by
  cases f with
  | zero => exact ⟨Or.inl rfl, fun h => absurd h (Nat.not_lt_zero _)⟩
  | succ f =>
    simp only [Nat.add_right_comm f 1, St.lsearch_succ, lsearchLoop_eq, stScan_eq_pureScan]
    have h := St.readLoop_quiet (R := lsearchOps p now) (s := s) (fun id fact hg => amGet_noneExpired hne hg) f
      (s.facts.map (·.1)) []
    exact ⟨h.1, fun hf => h.2 (by simp; omega)⟩

theorem ispec_ne_fuel {s : St} {p : Obj} (h : s.cands p ≠ .error "fuel") : s.ispec p ≠ .error "fuel" := by
  simp only [St.ispec]
  split
  · rename_i e he; intro h2; injection h2 with h2; subst h2; exact h he
  · exact scan_ne_fuel

theorem lspec_ne_fuel {s : St} {p : Obj} : s.lspec p ≠ .error "fuel" := scan_ne_fuel

/-- What `SearchForIDs` hands to the search loop. It never fails; when the index is complete every stored fact that
carries all the terms of the pattern is among the candidates; no id twice; no more than the widest list of the index,
unless the pattern has no term and every stored id is a candidate. -/
structure CandsOf (s : St) (p : Obj) (c : List String) : Prop where
  eq : s.cands p = .ok c
  complete : TIOK s → ∀ {i f}, (i, f) ∈ s.facts → (∀ t, t ∈ extractTerms p → t ∈ extractTerms f) → i ∈ c
  nodup : KeysNodup s → TINodup s → c.Nodup
  width : extractTerms p ≠ [] → c.length ≤ tiWidth s.ti
  length : c.length ≤ s.facts.length + tiWidth s.ti

theorem St.cands_ok (s : St) (p : Obj) : ∃ c, CandsOf s p c := by
  cases hts : extractTerms p with
  | nil =>
    exact ⟨_, by rw [St.cands, hts]; rfl, fun _ _ _ hm _ => List.mem_map.2 ⟨_, hm, rfl⟩, fun hk _ => hk,
      fun h => absurd hts h, by simp⟩
  | cons t ts =>
    have hsub : ((TI.ids s.ti t).filter fun i => ts.all fun t' => (TI.ids s.ti t').contains i).Sublist
        (TI.ids s.ti t) := List.filter_sublist
    have hw : ∀ {l c : List String}, c.Sublist l → (l = [] ∨ (t, l) ∈ s.ti) → c.length ≤ tiWidth s.ti := fun hs h =>
      Nat.le_trans hs.length_le (h.elim (fun e => e ▸ Nat.zero_le _) tiWidth_le_of_mem)
    refine ⟨_, by rw [St.cands, hts]; exact TI.search_eq s.ti t ts, fun htiok i f hm hsubt => ?_, fun _ hnd => ?_,
      fun _ => hw hsub (TI.ids_mem _ _), Nat.le_trans (hw hsub (TI.ids_mem _ _)) (Nat.le_add_left _ _)⟩
    · exact (TI.mem_search (TI.search_eq s.ti t ts) i).2
        ⟨by simp, fun t' ht' => htiok i f hm t' (hsubt t' (hts ▸ ht'))⟩
    · exact ((TI.ids_mem s.ti t).elim (fun e => e ▸ List.nodup_nil) (hnd _)).sublist hsub

theorem cands_ne_fuel (s : St) (p : Obj) : s.cands p ≠ .error "fuel" := by
  obtain ⟨c, hc⟩ := St.cands_ok s p; rw [hc.eq]; nofun

theorem cands_of_terms {s : St} {p : Obj} (htiok : TIOK s) {id : String} {f : Obj} (hm : (id, f) ∈ s.facts)
    (hsub : ∀ t, t ∈ extractTerms p → t ∈ extractTerms f) : ∃ ids, s.cands p = .ok ids ∧ id ∈ ids :=
  let ⟨c, hc⟩ := St.cands_ok s p; ⟨c, hc.eq, hc.complete htiok hm hsub⟩

/-- what the scan collects for the candidate `i`: the stored fact with its bindings, if the matcher answers any -/
def stHit (facts : List (String × Obj)) (p : Obj) (i : String) : Option (String × Obj × List Bs) :=
  match amGet facts i with
  | none => none
  | some fact =>
    match matchesJ (.obj p) (.obj fact) with
    | .ok bss => if bss.isEmpty then none else some (i, fact, bss)
    | .error _ => none

/-- the matcher fails on no stored candidate -/
def ScanOK (facts : List (String × Obj)) (p : Obj) (ids : List String) : Prop :=
  ∀ i, i ∈ ids → ∀ fact, amGet facts i = some fact → ∃ bss, matchesJ (.obj p) (.obj fact) = .ok bss

theorem scan_eq_of_ok {facts : List (String × Obj)} {p : Obj} {ids : List String} (h : ScanOK facts p ids) (acc) :
    stScan facts p ids acc = .ok (acc ++ ids.filterMap (stHit facts p)) := by
  induction ids generalizing acc with
  | nil => simp [stScan]
  | cons i rest ih =>
    have hrest : ScanOK facts p rest := fun j hj => h j (List.mem_cons_of_mem _ hj)
    simp only [stScan, List.filterMap_cons, stHit]
    cases hg : amGet facts i with
    | none => simp only; exact ih hrest acc
    | some fact =>
      obtain ⟨bss, hb⟩ := h i (by simp) fact hg
      simp only [hb]
      rw [ih hrest]
      by_cases hemp : bss.isEmpty = true
      · simp [hemp]
      · simp [hemp]

/-- the fact stored under `i` names `id` in its `deleteWith` -/
def depPred (F : List (String × Obj)) (id : String) (i : String) : Bool :=
  match amGet F i with | some fact => depOn fact id | none => false

theorem hit_depPat_map (facts : List (String × Obj)) (id : String) (hid : isVar id = false) (ids : List String) :
    (ids.filterMap (stHit facts (depPat id))).map (·.1) = ids.filter (depPred facts id) := by
  induction ids with
  | nil => rfl
  | cons i rest ih =>
    simp only [List.filterMap_cons, List.filter_cons]
    cases hg : amGet facts i with
    | none => simp only [stHit, depPred, hg]; exact ih
    | some fact =>
      simp only [stHit, depPred, hg, matchesJ_depPat id hid fact]
      by_cases hd : depOn fact id = true
      · simp [hd, ih]
      · simp [hd, ih]

/-- One quiet search for the dependents of `i`, for a `search` as `isearch_spec` and `lsearch_spec` describe it over the
candidates `c`: it is out of fuel, only if `f ≤ n + 1`, or it leaves the state alone and finds the candidates that name `i`. -/
theorem dep_search {search : Nat → St × Except LErr (List (String × Obj × List Bs))} {s : St} {i : String}
    (hi : isVar i = false) {c : List String} {n : Nat}
    (h : ∀ f, (search f = (s, .error "fuel") ∨ ∀ d, search (f + d) = (s, stScan s.facts (depPat i) c [])) ∧
      (n + 1 < f → search f = (s, stScan s.facts (depPat i) c []))) (f : Nat) :
    (search f = (s, .error "fuel") ∧ f ≤ n + 1) ∨
    ∃ found, search f = (s, .ok found) ∧ found.map (·.1) = c.filter (depPred s.facts i) := by
  have hsc := scan_eq_of_ok (fun _ _ fact _ => ⟨_, matchesJ_depPat i hi fact⟩ : ScanOK s.facts (depPat i) c) []
  rw [hsc] at h
  by_cases hf : n + 1 < f
  · exact .inr ⟨_, (h f).2 hf, hit_depPat_map s.facts i hi c⟩
  · exact (h f).1.imp (fun h1 => ⟨h1, by omega⟩) fun h1 => ⟨_, h1 0, hit_depPat_map s.facts i hi c⟩
