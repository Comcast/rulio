import RulioModel.ComposeFrag
import RulioProofs.MatchTop
import RulioProofs.StateC02

/-! # Composition, matcher side: C05's soundness / totality in the form the state theorems consume -/

theorem noRepeats_iff_nodup : ∀ {l : List String}, noRepeats l = true ↔ l.Nodup
  | [] => by simp [noRepeats]
  | x :: xs => by simp [noRepeats, noRepeats_iff_nodup (l := xs)]

theorem noRepeats_count {l : List String} (h : noRepeats l = true) (y : String) : count y l ≤ 1 := by
  have := List.nodup_iff_count.1 (noRepeats_iff_nodup.1 h) y
  rwa [List.count_eq_length_filter] at this

theorem matchesJ_total {p d : J} (hp : patOK p = true) (hd : dataOK d = true) : ∃ bss, matchesJ p d = .ok bss :=
  let ⟨bss, hr⟩ := matchJ_total (bs := []) hp (dataOK_ground d hd) (fun _ h => nomatch h)
  ⟨bss, matchesJ_ok_iff.2 hr⟩

theorem match_nonempty_pmv {p d : Obj} {bss : List Bs} (hp : patOK (.obj p) = true)
    (hlin : linearPattern p = true) (hm : matchesJ (.obj p) (.obj d) = .ok bss) (hne : bss ≠ []) :
    ∃ σ, σ ∈ bss ∧ pmv σ (.obj p) (.obj d) = true :=
  matchesJ_nonempty_pmv hp (noRepeats_count hlin) hm hne

/-- **C05 discharges the matcher hypothesis of C02**: it holds of every linear pattern of the matcher fragment,
whatever the facts (`(matcherSound_of_frag hp hlin).on F` for the stored ones) -/
theorem matcherSound_of_frag {p : Obj} (hp : patOK (.obj p) = true) (hlin : linearPattern p = true) :
    MatcherSound p := fun _ _ hm hne =>
  let ⟨σ, _, hσ⟩ := match_nonempty_pmv hp hlin hm hne
  ⟨σ, hσ⟩

theorem FactsOK.for {s : St} (h : FactsOK s) (p : Obj) : FactsOKFor s.facts p := fun e he => Or.inl (h e he)

theorem specSearch_total {F : List (String × Obj)} {p : Obj} (hp : patOK (.obj p) = true) (hF : FactsOKFor F p)
    (now : Int) : ∃ R, specSearch F p now = .ok R := by
  unfold specSearch
  simp only [bind, Except.bind]
  split
  · next e herr =>
    -- a failing `mapM` has a failing call; none fails
    obtain ⟨⟨id, f⟩, ha, hf⟩ := mapM_error herr
    have : ∃ bss, matchesJ (.obj p) (.obj f) = .ok bss := by
      rcases hF (id, f) (List.mem_filter.1 ha).1 with hd | h0
      · exact matchesJ_total hp hd
      · exact ⟨[], h0⟩
    obtain ⟨bss, hb⟩ := this
    simp [hb, pure, Except.pure] at hf
  · exact ⟨_, rfl⟩

theorem noOptVarsL_iff {xs : List J} : noOptVarsL xs = true ↔ ∀ x ∈ xs, noOptVars x = true :=
  listAll_iff (by rw [noOptVarsL]) (fun _ _ => by rw [noOptVarsL])
theorem noOptVarsO_iff {kvs : List (String × J)} : noOptVarsO kvs = true ↔ ∀ kv ∈ kvs, noOptVars kv.2 = true :=
  listAll_iff (f := fun kv : String × J => noOptVars kv.2) (by rw [noOptVarsO]) (fun ⟨_, _⟩ _ => by rw [noOptVarsO])

theorem patOK_noVarKeys_noOptVars : ∀ p : J, patOK p = true → noVarKeys p = true ∧ noOptVars p = true := by
  intro p
  induction p using J.ind' with
  | hnull => intro _; simp [noVarKeys, noOptVars]
  | hbool b => intro _; simp [noVarKeys, noOptVars]
  | hnum n => intro _; simp [noVarKeys, noOptVars]
  | hstr s => intro h; simpa [noVarKeys, noOptVars, patOK] using h
  | harr xs ih =>
    intro h
    simp only [patOK, Bool.and_eq_true] at h
    have hl := patOKL_iff.1 h.2
    simp only [noVarKeys, noOptVars]
    exact ⟨noVarKeysL_iff.2 (fun x hx => (ih x hx (hl x hx)).1), noOptVarsL_iff.2 (fun x hx => (ih x hx (hl x hx)).2)⟩
  | hobj kvs ih =>
    intro h
    simp only [patOK, Bool.and_eq_true, List.all_eq_true, Bool.not_eq_true'] at h
    have hl := patOKO_iff.1 h.2
    simp only [noVarKeys, noOptVars]
    exact ⟨noVarKeysO_iff.2 (fun kv hkv => ⟨h.1 kv hkv, (ih kv hkv (hl kv hkv)).1⟩),
      noOptVarsO_iff.2 (fun kv hkv => (ih kv hkv (hl kv hkv)).2)⟩

theorem patOK_termOK {p : Obj} (hp : patOK (.obj p) = true) : TermOK p = true := by
  have := patOK_noVarKeys_noOptVars (.obj p) hp
  simp only [noVarKeys, noOptVars] at this
  simp [TermOK, this.1, this.2]
