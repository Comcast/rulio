import RulioProofs.C13
import RulioProofs.PrepareFact
import RulioProofs.AssocMap

/-! # C13 — what the State does with a `when` or `when.pattern` that is not a map, and with a `rule` that is not a map -/

namespace C13

theorem get?_append_ne (o : Obj) (k k' : String) (v : J) (h : (k == k') = false) : Obj.get? (o ++ [(k', v)]) k = Obj.get? o k := by
  rw [Obj.get?_eq, Obj.get?_eq, AM.amGet_append, AM.amGet_cons, if_neg (ne_of_beq_false h)]
  exact Option.or_none

theorem lookupKey_head (k : String) (v : J) (r : List (String × J)) : lookupKey k ((k, v) :: r) = some v := by
  simp [lookupKey]

/-- the fact `AddRule` hands to the state carries the rule body under `rule`, its first member -/
theorem wrapper_rule (rule' : Obj) (e : Bool) (x : Int) : (ruleWrapper rule' e x).get? "rule" = some (.obj rule') := by
  unfold ruleWrapper
  cases e <;> simp only [Bool.false_eq_true, if_false, if_true] <;> split <;> exact lookupKey_head ..

/-- The repaired `GetRulePatterns` against the shared sequential model, which keeps an explicit panic for the unrepaired
source: that one panics exactly on the documents `badWhen`, and elsewhere the two answer the same. -/
theorem getRulePattern_eq (r : Obj) :
    getRulePattern r = if badWhen r then .error "panic" else .ok (getRulePatternR r) := by
  unfold getRulePattern getRulePatternR badWhen
  rcases r.get? "when" with _ | (_ | _ | _ | _ | _ | w) <;> try rfl
  simp only
  rcases Obj.get? w "pattern" with _ | (_ | _ | _ | _ | _ | _) <;> rfl

/-- a `when` or `when.pattern` that is not a map gives no pattern -/
theorem badWhen_noPattern (r : Obj) (h : badWhen r = true) : noPattern r = true := by
  revert h
  unfold badWhen noPattern getRulePatternR
  rcases r.get? "when" with _ | (_ | _ | _ | _ | _ | w) <;> try exact fun _ => rfl
  simp only
  rcases Obj.get? w "pattern" with _ | (_ | _ | _ | _ | _ | _) <;> simp

theorem getRulePatternR_set_expires (r : Obj) (v : J) : getRulePatternR (Obj.set r "expires" v) = getRulePatternR r := by
  unfold getRulePatternR
  rw [Obj.get?_set_ne r v (by decide)]

theorem unindexRuleR_noPattern (s : St) (id : String) (r : Obj) (h : noPattern r = true) : unindexRuleR s id r = .ok s := by
  unfold unindexRuleR
  rw [Option.isNone_iff_eq_none.1 h]

theorem indexRuleR_noPattern (s : St) (id : String) (r : Obj) (h : noPattern r = true) : indexRuleR s id r = (s, some "syntax") := by
  unfold indexRuleR
  rw [Option.isNone_iff_eq_none.1 h]

/-- the memory of a state up to its rule (pattern) index -/
def memory (s : St) : List (String × Obj) × List (String × J) × TI := (s.facts, s.store, s.ti)

theorem unindexRuleR_memory {s s1 : St} {id : String} {r : Obj} (h : unindexRuleR s id r = .ok s1) : memory s1 = memory s := by
  unfold unindexRuleR at h
  split at h
  · cases h; rfl
  · split at h <;> cases h
    rfl

theorem indexRuleR_memory (s : St) (id : String) (r : Obj) : memory (indexRuleR s id r).1 = memory s := by
  unfold indexRuleR
  split <;> rfl

theorem unindexPreviousR_memory {s s1 : St} {id : String} {o : Option Obj} (h : unindexPreviousR s id = .ok (s1, o)) : memory s1 = memory s := by
  unfold unindexPreviousR at h
  split at h
  · cases h; rfl
  · split at h
    · next old _ _ =>
      cases hu : unindexRuleR s id old with
      | error e => rw [hu] at h; cases h
      | ok s2 => rw [hu] at h; cases h; exact unindexRuleR_memory hu
    · cases h; rfl

/-! ## `PrepareFact` / `ExtractRule` keep the rule body up to its `expires` -/

/-- `r'` is `r` with `expires` set any number of times (on the way through `Add`, twice at most: `setExpires` and
`ExtractRule` both mirror the fact's expiry into the rule) -/
inductive UpToExpires (r : Obj) : Obj → Prop where
  | same : UpToExpires r r
  | set {r' : Obj} (v : J) : UpToExpires r r' → UpToExpires r (Obj.set r' "expires" v)

theorem UpToExpires.trans {a b c : Obj} (h1 : UpToExpires a b) (h2 : UpToExpires b c) : UpToExpires a c := by
  induction h2 with
  | same => exact h1
  | set v _ ih => exact .set v ih

theorem UpToExpires.noPattern {r r' : Obj} (h : UpToExpires r r') : noPattern r' = noPattern r := by
  induction h with
  | same => rfl
  | set v _ ih => unfold C13.noPattern at ih ⊢; rw [getRulePatternR_set_expires, ih]

theorem UpToExpires.schedule {r r' : Obj} (h : UpToExpires r r') : Obj.has r' "schedule" = Obj.has r "schedule" := by
  induction h with
  | same => rfl
  | set v _ ih => exact (congrArg Option.isSome (Obj.get?_set_ne _ _ (by decide))).trans ih

theorem setExpires_rule {fact : Obj} {now : Int} {f' : Obj} {e : Bool} {x : Int} {r : Obj}
    (h : setExpires fact now = .ok (f', e, x)) (hr : fact.get? "rule" = some (.obj r)) :
    ∃ r', f'.get? "rule" = some (.obj r') ∧ UpToExpires r r' := by
  have p := setExpires_post h
  cases e with
  | false => obtain ⟨_, rfl, _⟩ := p.plain rfl; exact ⟨r, hr, .same⟩
  | true =>
    -- the rule body receives the fact's `expires`
    rcases p.rule rfl with ⟨hn, _⟩ | ⟨r', m0, hr', rfl⟩
    · rw [hr] at hn; cases hn
    · rw [hr] at hr'; cases hr'; exact ⟨_, Obj.get?_set_self _ _ _, .set _ .same⟩

theorem extractRule_rule (fact : Obj) (req : Bool) {r : Obj} (hr : fact.get? "rule" = some (.obj r)) :
    ∃ r' fact', extractRule fact req = .ok (some r', fact') ∧ UpToExpires r r' := by
  rw [extractRule_obj hr]
  cases fact.get? "expires" with
  | some e => exact ⟨_, _, rfl, .set _ .same⟩
  | none => exact ⟨_, _, rfl, .same⟩

/-! ## `IndexedState.Add` of a rule body that cannot be indexed -/

/-- the new rule has no pattern and no schedule: rejected with the syntax error; the rule it would have replaced is back
in the index; facts, storage and term index are as before -/
theorem indexNewR_rejects (s : St) (id : String) (r : Obj) (replaced : Option Obj)
    (hs : Obj.has r "schedule" = false) (hp : noPattern r = true) :
    ∃ s', indexNewR s id (some r) replaced = (s', some "syntax") ∧ memory s' = memory s := by
  unfold indexNewR
  simp only [hs, Bool.false_eq_true, if_false, indexRuleR_noPattern s id r hp]
  cases replaced with
  | none => exact ⟨_, rfl, rfl⟩
  | some old =>
    simp only
    split
    · exact ⟨_, rfl, rfl⟩
    · exact ⟨_, rfl, indexRuleR_memory _ _ _⟩

/-- `IndexedState.add` of a fact whose rule body has no `schedule` and no pattern (in particular: a `when` or `when.pattern`
that is not a map): an error, and facts, storage and term index are untouched -/
theorem iaddR_rejects (s : St) (given : String) (x : Obj) (now : Int) (r : Obj)
    (hx : x.get? "rule" = some (.obj r)) (hs : Obj.has r "schedule" = false) (hp : noPattern r = true) :
    (∃ e, (iaddR s given x now).2 = .error e) ∧ memory (iaddR s given x now).1 = memory s := by
  unfold iaddR
  cases hpf : prepareFact given s.freshId x now with
  | error e => exact ⟨⟨e, rfl⟩, rfl⟩
  | ok v =>
    obtain ⟨id, m, x'⟩ := v
    have ⟨_, _, _, hse, _⟩ := prepareFact_parts hpf
    obtain ⟨r1, hr1, hu1⟩ := setExpires_rule hse hx
    obtain ⟨r2, m2, he, hu2⟩ := extractRule_rule m false hr1
    have hu := hu1.trans hu2
    simp only [he]
    generalize hs0 : (if (given == "" && id == s.freshId) = true then { s with fresh := s.fresh + 1 } else s) = s0
    have h0 : memory s0 = memory s := by rw [← hs0]; split <;> rfl
    cases hup : unindexPreviousR s0 id with
    | error e => exact ⟨⟨e, rfl⟩, h0⟩
    | ok v =>
      obtain ⟨s1, replaced⟩ := v
      obtain ⟨s2, hin, h2⟩ := indexNewR_rejects s1 id r2 replaced (hu.schedule.trans hs) (hu.noPattern.trans hp)
      simp only [hin]
      exact ⟨⟨_, rfl⟩, h2.trans ((unindexPreviousR_memory hup).trans h0)⟩

theorem iAddR_rejects (s : St) (given : String) (x : Obj) (now : Int) (r : Obj)
    (hx : x.get? "rule" = some (.obj r)) (hs : Obj.has r "schedule" = false) (hp : noPattern r = true) :
    (∃ e, (iAddR s given x now).2 = .error e) ∧ memory (iAddR s given x now).1 = memory s := by
  obtain ⟨⟨e, he⟩, hm⟩ := iaddR_rejects s given x now r hx hs hp
  unfold iAddR
  generalize iaddR s given x now = y at he hm ⊢
  obtain ⟨s1, res⟩ := y
  cases he
  exact ⟨⟨e, rfl⟩, hm⟩

/-- the State call of `AddFact` / `AddRule` on an indexed location that serves and whose `Add` body does not panic, with
such a document: it answers with an error, the location still serves, facts, storage and term index are untouched —
with or without the cron hooks of a System -/
theorem kAdd_rejects (k : KLoc) (id : String) (x : Obj) (now : Int) (r : Obj)
    (hk : k.loc.st.kind = .indexed) (hfree : Serving k) (hff : k.fault .add k.loc.st = none)
    (hx : x.get? "rule" = some (.obj r)) (hs : Obj.has r "schedule" = false) (hp : noPattern r = true) :
    (∃ e, (kAdd id x now k).2 = .err e) ∧ Serving (kAdd id x now k).1 ∧
    (kAdd id x now k).1.loc.st.facts = k.loc.st.facts ∧ (kAdd id x now k).1.loc.st.store = k.loc.st.store ∧
    (kAdd id x now k).1.loc.st.ti = k.loc.st.ti := by
  obtain ⟨⟨e, he⟩, hm⟩ := iAddR_rejects k.loc.st id x now r hx hs hp
  have hc : kCall .add (fun s => addK s id x now) k = (withSt k (iAddR k.loc.st id x now).1, .err e) := by
    rw [kCall_eq _ hfree hff]
    simp only [addK, hk, he]
  rw [kAdd_of_err (by rw [hc]), hc]
  exact ⟨⟨e, rfl⟩, hfree, congrArg (·.1) hm, congrArg (·.2.1) hm, congrArg (·.2.2) hm⟩

/-! ## `IndexedState.rem` (explicit, or the purge of an expired fact) of such a rule -/

/-- the rule part of `rem` has nothing to do and cannot fail when the stored rule body has no pattern
(`{"schedule":…,"when":5}`, `{"when":null,"schedule":…}` …) or is not a map at all -/
theorem unindexOfR_noop (s : St) (id : String) (fact : Obj)
    (h : ∀ r, fact.get? "rule" = some (.obj r) → noPattern r = true) : unindexOfR s id fact = .ok s := by
  unfold unindexOfR
  by_cases hr : ∃ r, fact.get? "rule" = some (.obj r)
  · obtain ⟨r, hr⟩ := hr
    obtain ⟨r', fact', he, hu⟩ := extractRule_rule fact false hr
    rw [he]
    exact unindexRuleR_noPattern s id r' (hu.noPattern.trans (h r hr))
  · rw [extractRule_nonobj fun r e => hr ⟨r, e⟩]

/-! ## `LinearState.doFindRules` and a `rule` value that is not a map -/

def ruleNotMap (fact : Obj) : Bool :=
  match fact.get? "rule" with
  | some (.obj _) => false
  | some _ => true
  | none => false

theorem lfindLoopR_skip (ev : Obj) (now : Int) (f : Nat) (s : St) (id : String) (rest : List String) (acc : List (String × Obj))
    (fact : Obj) (hg : amGet s.facts id = some fact) (hr : ruleNotMap fact = true) (hl : checkExpiration fact now = .ok false) :
    lfindLoopR ev now (f + 1) s (id :: rest) acc = lfindLoopR ev now f s rest acc := by
  rw [lfindLoopR]
  simp only [hg, hl]
  revert hr
  unfold ruleNotMap
  rcases fact.get? "rule" with _ | (_ | _ | _ | _ | _ | _) <;> intro hr <;> first | rfl | cases hr

theorem lfindLoopR_all_bad (ev : Obj) (now : Int) (s : St) (acc : List (String × Obj))
    (h : ∀ id fact, amGet s.facts id = some fact → ruleNotMap fact = true ∧ checkExpiration fact now = .ok false)
    (ids : List String) : ∀ f, ids.length < f → lfindLoopR ev now f s ids acc = (s, .ok acc) := by
  induction ids with
  | nil => intro f hf; cases f with | zero => cases hf | succ f => rfl
  | cons id rest ih =>
    intro f hf
    cases f with
    | zero => cases hf
    | succ f =>
      have hrest := ih f (Nat.lt_of_succ_lt_succ hf)
      cases hg : amGet s.facts id with
      | none => rw [lfindLoopR]; simp only [hg]; exact hrest
      | some fact => rw [lfindLoopR_skip ev now f s id rest acc fact hg (h id fact hg).1 (h id fact hg).2]; exact hrest

/-- every stored fact carries a `rule` value that is not a map and no `expires` -/
def onlyBadRules (s : St) : Bool :=
  s.facts.all (fun p => ruleNotMap p.2 && (p.2.get? "expires").isNone)

/-- a store that holds nothing but such facts: every event at any time finds no rule, without error -/
theorem lFindRulesR_onlyBad (s : St) (h : onlyBadRules s = true) (ev : Obj) (now : Int) : lFindRulesR s ev now = (s, .ok []) := by
  refine lfindLoopR_all_bad ev now s [] (fun id fact hg => ?_) _ _ (by simp)
  have hf := List.all_eq_true.1 h (id, fact) (AM.amGet_mem hg)
  simp only [Bool.and_eq_true, Option.isNone_iff_eq_none] at hf
  exact ⟨hf.1, checkExpiration_none hf.2 now⟩

end C13
