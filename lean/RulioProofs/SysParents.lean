import RulioProofs.SysWalk
import RulioProofs.PropFact
import RulioProofs.LocGuards

open AM

/-! # `SetParents` / `getParents` through the `!parents` property fact

What the parent read `locGetParentsRaw` answers: on a live fact (`getParents_of_live`), on none (`getParents_of_absent`), and
what a non-empty answer tells (`getParents_nonempty`); hence `SetParents`, then the read (`setParents_then_get`). -/

theorem bang_parents : "!" ++ "parents" = "!parents" := by decide +kernel
theorem genPropId_parents : genPropId "" "parents" = "!.parents" := by decide +kernel

theorem propName_parents : PropName "parents" := ⟨by decide +kernel, by decide +kernel⟩

theorem get_parents_key (v : J) : (propFact "" "parents" v).get? "!parents" = some v := by
  rw [← bang_parents]; exact propName_parents.value "" v

theorem parentsOfJ_strs (ps : List String) : parentsOfJ (.arr (ps.map .str)) = .ok ps := by
  unfold parentsOfJ
  induction ps with
  | nil => rfl
  | cons p rest ih =>
    simp only [List.map_cons, List.mapM_cons, bind, Except.bind, pure, Except.pure] at ih ⊢
    rw [ih]

/-- the parent list in what `getProp "" "parents"` answers -/
def parentsOf (r : Except LErr (J × Bool)) : Except LErr (List String) :=
  match r with
  | .error e => .error e
  | .ok (v, found) => if !found then .ok [] else parentsOfJ v

theorem locGetParentsRaw_run (now : Int) (l : Loc) :
    locGetParentsRaw now l =
      ({ l with st := (l.st.get "!.parents" now).1 },
        parentsOf (LocP.getPropPure (l.st.get "!.parents" now).2 "parents" (.arr []))) := by
  simp only [locGetParentsRaw, bind, LM.bind, LocP.getProp_run, genPropId_parents, parentsOf]
  rcases LocP.getPropPure (l.st.get "!.parents" now).2 "parents" (.arr []) with e | ⟨v, found⟩
  · rfl
  · cases found
    · rfl
    · simp only []
      cases parentsOfJ v <;> rfl

theorem getParents_of_live {now : Int} {l : Loc} {f : Obj} {v : J} {ps : List String}
    (hg : amGet l.st.facts "!.parents" = some f) (hc : checkExpiration f now = .ok false)
    (hv : f.get? "!parents" = some v) (hp : parentsOfJ v = .ok ps) :
    locGetParentsRaw now l = (l, .ok ps) := by
  rw [locGetParentsRaw_run, St.get_live hg hc]
  simp only [LocP.getPropPure, bang_parents, hv, parentsOf, hp]; rfl

theorem getParents_of_absent {l : Loc} {now : Int} (hg : amGet l.st.facts "!.parents" = none) :
    locGetParentsRaw now l = (l, .ok []) := by
  rw [locGetParentsRaw_run, St.get_absent hg]; rfl

theorem getParents_nonempty {now : Int} {l l' : Loc} {ps : List String} (h : locGetParentsRaw now l = (l', .ok ps))
    (hne : ps ≠ []) :
    ∃ f v, amGet l.st.facts "!.parents" = some f ∧ checkExpiration f now = .ok false ∧
      f.get? "!parents" = some v ∧ parentsOfJ v = .ok ps := by
  rw [locGetParentsRaw_run, Prod.mk.injEq] at h
  obtain ⟨h1, h2⟩ := h
  cases hg : l.st.get "!.parents" now with
  | mk s' r =>
    rw [hg] at h1 h2
    cases r with
    | error e =>
      -- a failed `Get` gives an error or the empty default
      simp only [LocP.getPropPure, parentsOf] at h2
      split at h2
      · cases h2
      · next heq =>
        split at heq
        · cases heq; simp at h2; exact absurd h2 hne
        · cases heq
    | ok fact =>
      obtain ⟨rfl, hf, hc⟩ := St.get_eq_ok.1 hg
      simp only [LocP.getPropPure, bang_parents, parentsOf] at h2
      cases hv : fact.get? "!parents" with
      | none => rw [hv] at h2; cases h2
      | some v =>
        rw [hv] at h2
        exact ⟨fact, v, hf, hc, hv, by simpa using h2⟩

/-- **parents_immediate** (single location): after a successful `SetParents ps`, reading the parents at any
time gives exactly `ps`, with no further state change -/
theorem setParents_then_get {c : Ctx} {ps : List String} {now : Int} {l l' : Loc} {r : String}
    (h : locSetParents c ps now l = (l', .ok r)) (now' : Int) :
    locGetParentsRaw now' l' = (l', .ok ps) := by
  unfold locSetParents at h
  obtain ⟨l1, _, _, h2⟩ := LM.bind_eq_ok h
  obtain ⟨rfl, hf, _⟩ := propName_parents.setProp_ok h2
  exact getParents_of_live (by rw [hf, genPropId_parents, amGet_amSet_self]) (propName_parents.live _ _ _) (get_parents_key _) (parentsOfJ_strs ps)
