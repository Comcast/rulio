import RulioModel.ConcC12
import RulioProofs.Conc

/-! # Memory = storage under any number of writers, when both are updated inside one exclusive section

`secPend`: the values the memory cell `cm` and the storage cell `cs` will hold at the end of the section a thread is
in (its steps up to the next `rel`). `Good`: a thread program writes `cm` / `cs` only inside exclusive sections, with
constants, and every section it will ever open ends with `cm` = `cs` when it starts with `cm` = `cs`.
`AgreeInv` is then kept by every step (`agreeInv_step`), hence by every schedule: whenever nobody holds the lock exclusively the two
cells agree, and while a writer is inside its section they will agree again at its `rel`.  The last part ties this to
the regenerated lock table: every request of the fragment `fragOps` expands to a well-locked `Good` program (`frag_rows`,
by evaluation over the table; `frag_good` for a list of requests). -/

namespace Conc

def secPend (cm cs : Cell) : List Step → Val → Val → Val × Val
  | [], m, s => (m, s)
  | .rel :: _, m, s => (m, s)
  | .wr d f :: r, m, s => secPend cm cs r (if d = cm then f [] else m) s
  | .uwr d f :: r, m, s => secPend cm cs r m (if d = cs then f [] else s)
  | .acq _ :: r, m, s => secPend cm cs r m s
  | .rd _ :: r, m, s => secPend cm cs r m s
  | .io :: r, m, s => secPend cm cs r m s

def Good (cm cs : Cell) : Option Bool → List Step → Prop
  | _, [] => True
  | _, .acq w :: r => (∀ v, (secPend cm cs r v v).1 = (secPend cm cs r v v).2) ∧ Good cm cs (some w) r
  | _, .rel :: r => Good cm cs none r
  | m, .wr d f :: r => (d = cm → m = some true ∧ ∀ l, f l = f []) ∧ Good cm cs m r
  | m, .uwr d f :: r => (d = cs → m = some true ∧ ∀ l, f l = f []) ∧ Good cm cs m r
  | m, .rd _ :: r => Good cm cs m r
  | m, .io :: r => Good cm cs m r

structure AgreeInv (cm cs : Cell) (C : Config) : Prop where
  good : ∀ t, Good cm cs (C.th t).mode (C.th t).todo
  idle : C.writer = none → C.mem cm = C.aux cs
  busy : ∀ w, C.writer = some w →
    (secPend cm cs (C.th w).todo (C.mem cm) (C.aux cs)).1 = (secPend cm cs (C.th w).todo (C.mem cm) (C.aux cs)).2

theorem good_data {cm cs : Cell} {m : Option Bool} {s : Step} {rest : List Step} (hs : s.isData = true)
    (hg : Good cm cs m (s :: rest)) (mem aux : Cell → Val) (log : List Val) :
    Good cm cs m rest ∧
    secPend cm cs rest ((finish mem aux log [s]).mem cm) ((finish mem aux log [s]).aux cs) =
      secPend cm cs (s :: rest) (mem cm) (aux cs) ∧
    (m ≠ some true → (finish mem aux log [s]).mem cm = mem cm ∧ (finish mem aux log [s]).aux cs = aux cs) := by
  cases s with
  | acq | rel => cases hs
  | wr c f =>
    refine ⟨hg.2, ?_, fun hm => ⟨upd_other _ _ fun e => hm (hg.1 e.symm).1, rfl⟩⟩
    by_cases hc : c = cm
    · subst hc; simp [finish, secPend, (hg.1 rfl).2 log]
    · simp [finish, secPend, hc, upd_other _ _ (Ne.symm hc)]
  | uwr c f =>
    refine ⟨hg.2, ?_, fun hm => ⟨rfl, upd_other _ _ fun e => hm (hg.1 e.symm).1⟩⟩
    by_cases hc : c = cs
    · subst hc; simp [finish, secPend, (hg.1 rfl).2 log]
    · simp [finish, secPend, hc, upd_other _ _ (Ne.symm hc)]
  | _ => exact ⟨hg, rfl, fun _ => ⟨rfl, rfl⟩⟩

theorem agreeInv_step {cm cs : Cell} {C : Config} (hI : LockInv C) (h : AgreeInv cm cs C) (t : Tid) :
    AgreeInv cm cs (step C t) := by
  have hg := h.good t
  have hw := hI.wf t
  cases hT : (C.th t).todo with
  | nil => rw [step_nil hT]; exact h
  | cons s rest =>
    rw [hT] at hg hw
    have good' : ∀ T' : Thread, Good cm cs T'.mode T'.todo →
        ∀ u, Good cm cs (upd C.th t T' u).mode (upd C.th t T' u).todo := fun T' hT' u => by
      by_cases hu : u = t
      · subst hu; simpa using hT'
      · simpa [upd_other _ _ hu] using h.good u
    by_cases hs : s.isData = true
    · obtain ⟨hg', hsec, hsame⟩ := good_data hs hg C.mem C.aux (C.th t).log
      rw [step_data hT hs]
      refine ⟨good' _ hg', fun hn => ?_, fun x hx => ?_⟩
      · have hm : (C.th t).mode ≠ some true := fun e => by rw [(hI.wr t).2 e] at hn; cases hn
        simp only [(hsame hm).1, (hsame hm).2]
        exact h.idle hn
      · by_cases hxt : x = t
        · subst hxt
          simp only [upd_same, hsec]
          exact hT ▸ h.busy x hx
        · have hm : (C.th t).mode ≠ some true := fun e => by
            rw [(hI.wr t).2 e] at hx; exact hxt (Option.some.inj hx).symm
          simp only [upd_other _ _ hxt, (hsame hm).1, (hsame hm).2]
          exact h.busy x hx
    cases s with
    | acq w =>
      obtain ⟨hn, _⟩ := wf_cons hw
      cases hc : canAcq C w with
      | false => rw [step_blocked hT hc]; exact h
      | true =>
        have hwn := (canAcq_true hc).1
        cases w with
        | true =>
          rw [step_acq_w hT hn hc]
          refine ⟨good' _ hg.2, fun hn => (nomatch hn), fun x hx => ?_⟩
          obtain rfl : t = x := Option.some.inj hx
          simp only [upd_same, ← h.idle hwn]
          exact hg.1 _
        | false =>
          rw [step_acq_r hT hn hc]
          exact ⟨good' _ hg.2, h.idle, fun x hx => by rw [show C.writer = some x from hx] at hwn; cases hwn⟩
    | rel =>
      obtain ⟨hm, _⟩ := wf_cons hw
      obtain ⟨b, hb⟩ := Option.isSome_iff_exists.1 hm
      cases b with
      | true =>
        have hbusy := h.busy t ((hI.wr t).2 hb)
        rw [hT] at hbusy
        rw [step_rel_w hT hb]
        exact ⟨good' _ hg, fun _ => hbusy, fun x hx => nomatch hx⟩
      | false =>
        rw [step_rel_r hT hb]
        refine ⟨good' _ hg, h.idle, fun x hx => ?_⟩
        have hxt : x ≠ t := fun e => by
          rw [e, hI.writer_none hb] at hx; cases hx
        simp only [upd_other _ _ hxt]
        exact h.busy x hx
    | _ => exact absurd rfl hs

theorem secPend_append_of_wf (cm cs : Cell) (w : Bool) (a b : List Step) (h : wf (some w) a = true) (m s : Val) :
    secPend cm cs (a ++ b) m s = secPend cm cs a m s := by
  induction a generalizing m s with
  | nil => cases h
  | cons x r ih =>
    cases x with
    | acq => cases h
    | rel => rfl
    | wr => cases w with
      | false => cases h
      | true => exact ih h _ _
    | _ => exact ih h _ _

theorem Good_append (cm cs : Cell) (m : Option Bool) (a b : List Step) (hw : wf m a = true) (ha : Good cm cs m a)
    (hb : Good cm cs none b) : Good cm cs m (a ++ b) := by
  induction a generalizing m with
  | nil => cases m with
    | none => exact hb
    | some _ => cases hw
  | cons x r ih =>
    cases x with
    | acq w => cases m with
      | none =>
        refine ⟨fun v => ?_, ih _ hw ha.2⟩
        have := ha.1 v
        rwa [← secPend_append_of_wf cm cs w r b hw] at this
      | some _ => cases hw
    | rel => cases m with
      | none => cases hw
      | some _ => exact ih none hw ha
    | rd => cases m with
      | none => cases hw
      | some _ => exact ih _ hw ha
    | wr =>
      rcases m with _ | _ | _
      · cases hw
      · cases hw
      · exact ⟨ha.1, ih _ hw ha.2⟩
    | uwr => cases m <;> exact ⟨ha.1, ih _ hw ha.2⟩
    | io => cases m <;> exact ih _ hw ha

theorem Good_flatten (cm cs : Cell) (l : List (List Step)) (hw : ∀ p ∈ l, wf none p = true)
    (hg : ∀ p ∈ l, Good cm cs none p) : Good cm cs none l.flatten := by
  induction l with
  | nil => trivial
  | cons p r ih =>
    exact Good_append cm cs none p _ (hw p List.mem_cons_self) (hg p List.mem_cons_self)
      (ih (fun q hq => hw q (List.mem_cons_of_mem _ hq)) (fun q hq => hg q (List.mem_cons_of_mem _ hq)))

theorem constWr_of_good (cm cs : Cell) (m : Option Bool) (p : List Step) (hg : Good cm cs m p) : constWr cm cs p := by
  induction p generalizing m with
  | nil => trivial
  | cons s r ih =>
    cases s with
    | wr | uwr => exact ⟨fun e => (hg.1 e).2, ih m hg.2⟩
    | acq => exact ih _ hg.2
    | _ => exact ih _ hg

/-- what a well-locked `Good` program, run alone, will leave in `cm` and in `cs` is equal — started outside a section from equal
cells, or inside one from cells that this section makes equal -/
theorem pend_eq_of_good (cm cs : Cell) (m : Option Bool) (p : List Step) (x y : Val)
    (hw : wf m p = true) (hg : Good cm cs m p)
    (h : match m with
      | none => x = y
      | some _ => (secPend cm cs p x y).1 = (secPend cm cs p x y).2) :
    pendM cm p x = pendS cs p y := by
  induction p generalizing m x y with
  | nil => cases m with
    | none => exact h
    | some _ => cases hw
  | cons s r ih =>
    cases s with
    | acq w => cases m with
      | none => exact ih (some w) x y hw hg.2 (h ▸ hg.1 x)
      | some _ => cases hw
    | rel => cases m with
      | none => cases hw
      | some _ => exact ih none x y hw hg h
    | rd => cases m with
      | none => cases hw
      | some b => exact ih (some b) x y hw hg h
    | wr =>
      rcases m with _ | _ | _
      · cases hw
      · cases hw
      · exact ih (some true) _ y hw hg.2 h
    | uwr c f => cases m with
      | none =>
        -- outside a section the storage cell is not written
        have hc : c ≠ cs := fun e => nomatch (hg.1 e).1
        simpa [pendM, pendS, hc] using ih none x y hw hg.2 h
      | some b => exact ih (some b) x _ hw hg.2 h
    | io => cases m with
      | none => exact ih none x y hw hg h
      | some b => exact ih (some b) x y hw hg h

/-- **Memory = storage under any number of writers**: if every thread program is well-locked and `Good` for the cells
`cm`, `cs`, then after every schedule the two cells agree whenever nobody holds the lock exclusively, will agree again at
the writer's `rel` while somebody does, and agree once every thread has finished. -/
theorem good_programs_agree {cm cs : Cell} (P : Tid → List Step) (hw : WellLocked P) (hg : ∀ t, Good cm cs none (P t))
    (m0 : Cell → Val) (h0 : m0 cm = m0 cs) (σ : List Tid) :
    let F := exec (init P m0) σ
    (F.writer = none → F.mem cm = F.aux cs) ∧
    (∀ w, F.writer = some w →
      (secPend cm cs (F.th w).todo (F.mem cm) (F.aux cs)).1 = (secPend cm cs (F.th w).todo (F.mem cm) (F.aux cs)).2) ∧
    ((∀ t, (F.th t).todo = []) → F.mem cm = F.aux cs) := by
  obtain ⟨hI', hinv⟩ : LockInv (exec (init P m0) σ) ∧ AgreeInv cm cs (exec (init P m0) σ) :=
    List.foldlRecOn σ _ (motive := fun F => LockInv F ∧ AgreeInv cm cs F)
      ⟨lockInv_init P m0 hw, hg, fun _ => h0, fun _ hw => nomatch hw⟩
      fun _ hb t _ => ⟨lockInv_step hb.1 t, agreeInv_step hb.1 hb.2 t⟩
  refine ⟨hinv.idle, hinv.busy, fun hdone => hinv.idle ?_⟩
  cases hwr : (exec (init P m0) σ).writer with
  | none => rfl
  | some w =>
    -- a writer is inside its section, so it has not finished
    have hwf := hI'.wf w
    rw [(hI'.wr w).1 hwr, hdone w] at hwf
    cases hwf

/-- **Memory = storage for cells with a single writer** (`owner`), whatever the other threads do besides writing these
two cells: once the owner has finished, the cells hold what its program, run alone, would have left there -- and a
well-locked `Good` program run alone leaves them equal. -/
theorem single_writer_agree {cm cs : Cell} (P : Tid → List Step) (owner : Tid) (hw : wf none (P owner) = true)
    (hg : Good cm cs none (P owner)) (hoth : ∀ t, t ≠ owner → noWr cm cs (P t) = true)
    (m0 : Cell → Val) (h0 : m0 cm = m0 cs) (σ : List Tid) (hdone : ((exec (init P m0) σ).th owner).todo = []) :
    (exec (init P m0) σ).mem cm = (exec (init P m0) σ).aux cs := by
  have hinv : OwnInv owner cm cs (pendM cm (P owner) (m0 cm)) (pendS cs (P owner) (m0 cs)) (init P m0) :=
    ⟨hoth, constWr_of_good cm cs none _ hg, rfl, rfl⟩
  have hfin : OwnInv owner cm cs _ _ (exec (init P m0) σ) := List.foldlRecOn σ _ hinv fun _ hb t _ => ownInv_step hb t
  have h1 := hfin.pm
  have h2 := hfin.ps
  rw [hdone] at h1 h2
  exact (h1.trans (pend_eq_of_good cm cs none _ _ _ hw hg h0)).trans h2.symm

end Conc

namespace Conc.C12
open Conc

/-- does the rest of the current section (up to the next unlock) write the fact's memory / its stored document? -/
def secWrM : List Acc → Bool
  | [] => false
  | .unlock _ :: _ => false
  | .wr f :: r => f == .mem || secWrM r
  | _ :: r => secWrM r

/-- the same for the stored document; `true || …` so that `secPend_inst` closes this case like the one of `secWrM` -/
def secWrS : List Acc → Bool
  | [] => false
  | .unlock _ :: _ => false
  | .store _ :: r => true || secWrS r
  | _ :: r => secWrS r

/-- a flattened row writes the fact's memory and its stored document only inside exclusive sections, and every
section that writes one of them writes the other too -/
def goodAcc : Option Bool → List Acc → Bool
  | _, [] => true
  | _, .lock w :: r => (secWrM r == secWrS r) && goodAcc (some w) r
  | _, .unlock _ :: r => goodAcc none r
  | m, .wr f :: r => (f != .mem || m == some true) && goodAcc m r
  | m, .store _ :: r => (m == some true) && goodAcc m r
  | m, .rd _ :: r => goodAcc m r
  | m, .call _ :: r => goodAcc m r
  | m, .hook _ :: r => goodAcc m r
  | m, .lock2 _ :: r => goodAcc m r
  | m, .unlock2 _ :: r => goodAcc m r

theorem secPend_inst (v : Val) (drop : List Field) (hd : drop.contains Field.mem = false) (l : List Acc) (m s : Val) :
    secPend memC storeC (l.map (inst (interp v) drop)) m s = (cond (secWrM l) v m, cond (secWrS l) v s) := by
  induction l generalizing m s with
  | nil => rfl
  | cons a r ih =>
    cases a with
    | unlock => rfl
    | rd f =>
      simp only [List.map_cons, inst]
      split <;> exact ih m s
    | wr f =>
      simp only [List.map_cons, inst]
      cases f with
      | mem =>
        -- `mem` is not dropped: the step writes `v` to the memory cell
        rw [hd]
        exact (ih v s).trans (by cases secWrM r <;> rfl)
      | _ => split <;> exact ih m s
    | store => exact (ih m v).trans (by cases secWrS r <;> rfl)
    | _ => exact ih m s

theorem good_inst (v : Val) (drop : List Field) (hd : drop.contains Field.mem = false) (m : Option Bool) (l : List Acc)
    (h : goodAcc m l = true) : Good memC storeC m (l.map (inst (interp v) drop)) := by
  induction l generalizing m with
  | nil => trivial
  | cons a r ih =>
    cases a with
    | lock w =>
      have h := Bool.and_eq_true_iff.1 h
      exact ⟨fun x => by rw [secPend_inst v drop hd r x x, eq_of_beq h.1], ih _ h.2⟩
    | rd f =>
      simp only [List.map_cons, inst]
      split <;> exact ih _ h
    | wr f =>
      have h : (f != .mem || m == some true) = true ∧ goodAcc m r = true := by
        cases m <;> exact Bool.and_eq_true_iff.1 h
      rw [Bool.or_eq_true] at h
      simp only [List.map_cons, inst]
      split
      · exact ih _ h.2
      · refine ⟨fun hcell => ⟨?_, fun _ => rfl⟩, ih _ h.2⟩
        -- only `mem` lives in the memory cell
        cases f with
        | mem => exact eq_of_beq (h.1.resolve_left (by simp))
        | _ => cases hcell
    | store =>
      have h : (m == some true) = true ∧ goodAcc m r = true := by
        cases m <;> exact Bool.and_eq_true_iff.1 h
      exact ⟨fun _ => ⟨eq_of_beq h.1, fun _ => rfl⟩, ih _ h.2⟩
    | _ => cases m <;> exact ih _ h

/-- The one evaluation of the regenerated table that the theorems about the fragment share: in both implementations
every request row keeps the lock discipline, is a single section, and writes the fact's memory and its stored document
only inside exclusive sections, both or neither. -/
theorem frag_rows : ∀ impl ∈ ["indexed", "linear"], ∀ m ∈ fragOps,
    wfAcc fragDrop none (row impl m) = true ∧ sections (row impl m) = 1 ∧ goodAcc none (row impl m) = true := by
  decide +kernel

theorem frag_good {impl : String} (himpl : impl ∈ ["indexed", "linear"]) (reqs : List (String × Val))
    (hin : ∀ q ∈ reqs, q.1 ∈ fragOps) :
    let p := (reqs.map (fun q => (row impl q.1).map (inst (interp q.2) fragDrop))).flatten
    wf none p = true ∧ Good memC storeC none p :=
  have hw : ∀ q ∈ reqs, wf none ((row impl q.1).map (inst (interp q.2) fragDrop)) = true :=
    fun q hq => wf_inst _ _ _ _ (frag_rows impl himpl q.1 (hin q hq)).1
  ⟨wf_flatten _ (List.forall_mem_map.2 hw),
   Good_flatten _ _ _ (List.forall_mem_map.2 hw) (List.forall_mem_map.2 fun q hq =>
     good_inst q.2 fragDrop (by decide) none _ (frag_rows impl himpl q.1 (hin q hq)).2.2)⟩

end Conc.C12
