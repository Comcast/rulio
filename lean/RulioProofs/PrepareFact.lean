import RulioModel.Fact
import RulioProofs.ExceptBind
import RulioProofs.AssocMap

/-! # `PrepareFact` step by step: `genId`, then `setExpires`, which turns a `ttl` into an `expires`, a textual
`expires` into a number, and hands that number to a rule body

The functions of `Fact.lean` are read through the equations stated here, not unfolded where they are used: `genId_eq`
with its inversion `genId_ok`, `setExpires_eq`, `prepareFact_eq`/`prepareFact_parts`, `checkExpiration_none`/`_num`,
`extractRule_obj`/`_nonobj` with `extractRule_some`/`_noexp`; `genId_err`, `setExpires_err`, `checkExpiration_err` say
which errors they answer. -/

/-- the second half of `setExpires`: reading `expires` (the `ttl` is already resolved) -/
def expiresPart (fact : Obj) : Except LErr (Obj × Bool × Int) :=
  match fact.get? "expires" with
  | none => pure (fact, false, 0)
  | some exp => do
    let (fact, expires) ← (match exp with
      | .num n => pure (fact, n)
      | .str s =>
        match parseRFC3339 s with
        | some t => pure (fact.set "expires" (.num t), t)
        | none => .error "badExpires"
      | _ => .error "badExpires" : Except LErr (Obj × Int))
    match fact.get? "rule" with
    | none => pure (fact, true, expires)
    | some (.obj r) => pure (fact.set "rule" (.obj (Obj.set r "expires" (.num expires))), true, expires)
    | some _ => .error "ruleNotRule"

theorem setExpires_eq (fact : Obj) (now : Int) :
    setExpires fact now =
      match fact.get? "ttl" with
      | none => expiresPart fact
      | some (.num n) => expiresPart ((fact.erase "ttl").set "expires" (.num (now + n)))
      | some (.str s) =>
        (match parseDurationSecs s with
         | some d => expiresPart ((fact.erase "ttl").set "expires" (.num (now + d)))
         | none => .error "badTTL")
      | some _ => .error "badTTL" := by
  unfold setExpires expiresPart
  cases fact.get? "ttl" with
  | none => rfl
  | some ttl =>
    cases ttl with
    | num n => rfl
    | str s => dsimp only; cases parseDurationSecs s <;> rfl
    | null => rfl
    | bool b => rfl
    | arr a => rfl
    | obj a => rfl

/-- the last step of `setExpires`: the expiry is mirrored into a rule body -/
def mirrorRule (f : Obj) (e : Int) : Except LErr (Obj × Bool × Int) :=
  match f.get? "rule" with
  | none => pure (f, true, e)
  | some (.obj r) => pure (f.set "rule" (.obj (Obj.set r "expires" (.num e))), true, e)
  | some _ => .error "ruleNotRule"

theorem expiresPart_eq (f : Obj) :
    expiresPart f =
      match f.get? "expires" with
      | none => .ok (f, false, 0)
      | some (.num n) => mirrorRule f n
      | some (.str s) =>
        (match parseRFC3339 s with
         | some t => mirrorRule (f.set "expires" (.num t)) t
         | none => .error "badExpires")
      | some _ => .error "badExpires" := by
  unfold expiresPart mirrorRule
  cases f.get? "expires" with
  | none => rfl
  | some v =>
    cases v with
    | num n => rfl
    | str s => dsimp only; cases parseRFC3339 s <;> rfl
    | null => rfl
    | bool _ => rfl
    | arr _ => rfl
    | obj _ => rfl

theorem setExpires_none {F : Obj} (now : Int) (httl : F.get? "ttl" = none) (hexp : F.get? "expires" = none) :
    setExpires F now = .ok (F, false, 0) := by
  rw [setExpires_eq, httl]
  dsimp only
  rw [expiresPart_eq, hexp]

theorem setExpires_num {F : Obj} (now : Int) {n : Int} (httl : F.get? "ttl" = none)
    (hexp : F.get? "expires" = some (.num n)) : setExpires F now = mirrorRule F n := by
  rw [setExpires_eq, httl]
  dsimp only
  rw [expiresPart_eq, hexp]

/-! ## what a successful `setExpires` leaves behind

`setExpires` is three edits of the fact in a row: a `ttl` is dropped and becomes an `expires`, a textual `expires`
becomes a number, the number is copied into a rule body. Each stage is inverted once (`setExpires_ttlStage`,
`expiresPart_stage`, `mirrorRule_stage`); `setExpires_post` puts them together, and everything else that is said of a
prepared fact is read off it. -/

/-- `m` is `x` after writes and erases at keys in `K` only -/
inductive Obj.Edit (K : String → Bool) (x : Obj) : Obj → Prop
  | refl : Obj.Edit K x x
  | set {m : Obj} {k : String} (v : J) : K k = true → Obj.Edit K x m → Obj.Edit K x (m.set k v)
  | erase {m : Obj} {k : String} : K k = true → Obj.Edit K x m → Obj.Edit K x (m.erase k)

theorem Obj.Edit.get? {K : String → Bool} {x m : Obj} (h : Obj.Edit K x m) {k : String} (hk : K k = false) :
    m.get? k = x.get? k := by
  induction h with
  | refl => rfl
  | @set m k' v hk' _ ih => rw [Obj.get?_set_ne _ _ (fun e => by rw [e, hk'] at hk; cases hk), ih]
  | @erase m k' hk' _ ih => rw [Obj.get?_erase, if_neg (fun e => by rw [e, hk'] at hk; cases hk), ih]

theorem Obj.Edit.filter {K : String → Bool} {x m : Obj} (h : Obj.Edit K x m) (P : String → Bool)
    (hP : ∀ k, K k = true → P k = false) : m.filter (fun kv => P kv.1) = x.filter (fun kv => P kv.1) := by
  induction h with
  | refl => rfl
  | set v hk _ ih => rw [Obj.filter_set P _ v (hP _ hk), ih]
  | erase hk _ ih => rw [Obj.filter_erase P _ (hP _ hk), ih]

/-- the three keys `setExpires` writes -/
def expiryKey (k : String) : Bool := k == "ttl" || k == "expires" || k == "rule"

theorem expiryKey_not_id : ∀ k, expiryKey k = true → idProperty k = false := by
  intro k hk
  simp only [expiryKey, Bool.or_eq_true, beq_iff_eq] at hk
  rcases hk with (rfl | rfl) | rfl <;> decide +kernel

/-! `LocP` is the namespace of the Location vocabulary (RulioModel/LocInv); the C07 statements use these two. -/

namespace LocP

/-- the instant at which a fact written at `now` expires, per encoding (`none`: it does not expire) -/
def expiryOf (x : Obj) (now : Int) : Option Int :=
  match x.get? "ttl" with
  | some (.num n) => some (now + n)
  | some (.str s) => (parseDurationSecs s).map (fun d => now + d)
  | some _ => none
  | none =>
    match x.get? "expires" with
    | some (.num n) => some n
    | some (.str s) => parseRFC3339 s
    | _ => none

def Expiring (x : Obj) : Prop := x.get? "ttl" ≠ none ∨ x.get? "expires" ≠ none

theorem not_expiring {x : Obj} (h : ¬ Expiring x) : x.get? "ttl" = none ∧ x.get? "expires" = none :=
  ⟨Classical.not_not.1 fun h' => h (.inl h'), Classical.not_not.1 fun h' => h (.inr h')⟩

end LocP

theorem setExpires_ttlStage {x : Obj} {now : Int} {r : Obj × Bool × Int} (h : setExpires x now = .ok r) :
    (x.get? "ttl" = none ∧ expiresPart x = .ok r) ∨
    ∃ d, (x.get? "ttl" = some (.num d) ∨ ∃ s, x.get? "ttl" = some (.str s) ∧ parseDurationSecs s = some d) ∧
      expiresPart ((x.erase "ttl").set "expires" (.num (now + d))) = .ok r := by
  rw [setExpires_eq] at h
  cases ht : x.get? "ttl" with
  | none => rw [ht] at h; exact .inl ⟨rfl, h⟩
  | some v =>
    rw [ht] at h
    cases v with
    | num n => exact .inr ⟨n, .inl rfl, h⟩
    | str s =>
      dsimp only at h
      cases hp : parseDurationSecs s with
      | none => rw [hp] at h; cases h
      | some d => rw [hp] at h; exact .inr ⟨d, .inr ⟨s, rfl, hp⟩, h⟩
    | _ => cases h

theorem expiresPart_stage {f m : Obj} {b : Bool} {e : Int} (h : expiresPart f = .ok (m, b, e)) :
    (f.get? "expires" = none ∧ m = f ∧ b = false ∧ e = 0) ∨
    ∃ g t, (f.get? "expires" = some (.num t) ∧ g = f ∨
        ∃ s, f.get? "expires" = some (.str s) ∧ parseRFC3339 s = some t ∧ g = f.set "expires" (.num t)) ∧
      mirrorRule g t = .ok (m, b, e) := by
  rw [expiresPart_eq] at h
  cases hx : f.get? "expires" with
  | none => rw [hx] at h; cases h; exact .inl ⟨rfl, rfl, rfl, rfl⟩
  | some v =>
    rw [hx] at h
    cases v with
    | num n => exact .inr ⟨f, n, .inl ⟨rfl, rfl⟩, h⟩
    | str s =>
      dsimp only at h
      cases hp : parseRFC3339 s with
      | none => rw [hp] at h; cases h
      | some t => rw [hp] at h; exact .inr ⟨_, t, .inr ⟨s, rfl, hp, rfl⟩, h⟩
    | _ => cases h

theorem mirrorRule_stage {g m : Obj} {b : Bool} {t e : Int} (h : mirrorRule g t = .ok (m, b, e)) :
    b = true ∧ e = t ∧
    ((g.get? "rule" = none ∧ m = g) ∨
     ∃ r, g.get? "rule" = some (.obj r) ∧ m = g.set "rule" (.obj (Obj.set r "expires" (.num t)))) := by
  unfold mirrorRule at h
  cases hr : g.get? "rule" with
  | none => rw [hr] at h; cases h; exact ⟨rfl, rfl, .inl ⟨rfl, rfl⟩⟩
  | some v =>
    rw [hr] at h
    cases v with
    | obj r => cases h; exact ⟨rfl, rfl, .inr ⟨r, rfl, rfl⟩⟩
    | _ => cases h

/-- what `setExpires x now = .ok (m, he, e)` says of its result: `m` is `x` edited at `ttl`, `expires`, `rule` only;
the `ttl` is gone; without an expiry (`he = false`) nothing changed; with one, `expires` is the number `expiryOf x now`
(read from the `ttl`, relative to `now`, or else from `expires`) and a rule body carries the same number -/
structure SetExpiresPost (x : Obj) (now : Int) (m : Obj) (he : Bool) (e : Int) : Prop where
  edit : Obj.Edit expiryKey x m
  noTtl : m.get? "ttl" = none
  plain : he = false → e = 0 ∧ m = x ∧ x.get? "ttl" = none ∧ x.get? "expires" = none
  read : he = true → LocP.expiryOf x now = some e
  exp : he = true → m.get? "expires" = some (.num e)
  rule : he = true → (x.get? "rule" = none ∧ m.get? "rule" = none) ∨
    ∃ r m0, x.get? "rule" = some (.obj r) ∧ m = Obj.set m0 "rule" (.obj (Obj.set r "expires" (.num e)))

/-- with an expiry the stored `rule` member is absent or a map: what `setExpires` needs to accept the fact again -/
theorem SetExpiresPost.rule_shape {x m : Obj} {now e : Int} (p : SetExpiresPost x now m true e) :
    m.get? "rule" = none ∨ ∃ r, m.get? "rule" = some (.obj r) := by
  rcases p.rule rfl with ⟨_, hn⟩ | ⟨r, m0, _, rfl⟩
  · exact .inl hn
  · exact .inr ⟨_, Obj.get?_set_self _ _ _⟩

theorem setExpires_post {x m : Obj} {now : Int} {he : Bool} {e : Int} (h : setExpires x now = .ok (m, he, e)) :
    SetExpiresPost x now m he e := by
  have kt : expiryKey "ttl" = true := by decide
  have ke : expiryKey "expires" = true := by decide
  have kr : expiryKey "rule" = true := by decide
  -- after the `ttl` stage: `a`, edited at `ttl`/`expires`, without `ttl`, with `x`'s `rule`
  obtain ⟨a, ea, ta, ra, hread, ha⟩ : ∃ a, Obj.Edit expiryKey x a ∧ a.get? "ttl" = none ∧
      a.get? "rule" = x.get? "rule" ∧
      ((x.get? "ttl" = none ∧ a = x) ∨
        ∃ d, LocP.expiryOf x now = some (now + d) ∧ a.get? "expires" = some (.num (now + d))) ∧
      expiresPart a = .ok (m, he, e) := by
    rcases setExpires_ttlStage h with ⟨hn, h⟩ | ⟨d, hd, h⟩
    · exact ⟨x, .refl, hn, rfl, .inl ⟨hn, rfl⟩, h⟩
    · refine ⟨_, .set _ ke (.erase kt .refl), by rw [Obj.get?_set_ne _ _ (by decide), Obj.get?_erase_self],
        by rw [Obj.get?_set_ne _ _ (by decide), Obj.get?_erase, if_neg (by decide)],
        .inr ⟨d, ?_, Obj.get?_set_self _ _ _⟩, h⟩
      rcases hd with hd | ⟨s, hd, hp⟩
      · simp only [LocP.expiryOf, hd]
      · simp only [LocP.expiryOf, hd, hp]; rfl
  rcases expiresPart_stage ha with ⟨hn, rfl, rfl, rfl⟩ | ⟨g, t, hg, hm⟩
  · -- no expiry: then there was no `ttl` either
    rcases hread with ⟨hx, rfl⟩ | ⟨d, _, hd⟩
    · exact ⟨ea, ta, fun _ => ⟨rfl, rfl, hx, hn⟩, nofun, nofun, nofun⟩
    · rw [hn] at hd; cases hd
  · obtain ⟨rfl, rfl, hr⟩ := mirrorRule_stage hm
    obtain ⟨eg, tg, rg, hge, rd⟩ : Obj.Edit expiryKey x g ∧ g.get? "ttl" = none ∧ g.get? "rule" = x.get? "rule" ∧
        g.get? "expires" = some (.num e) ∧ LocP.expiryOf x now = some e := by
      -- an expiry read from `a` is `x`'s: `a` is `x`, or its `expires` is what the `ttl` gave
      have rd : ∀ v, a.get? "expires" = some v →
          (match v with | .num n => some n | .str s => parseRFC3339 s | _ => none) = some e →
          LocP.expiryOf x now = some e := by
        intro v hv hp
        rcases hread with ⟨hx, rfl⟩ | ⟨d, hd, hde⟩
        · simp only [LocP.expiryOf, hx, hv]; cases v <;> first | exact hp | cases hp
        · rw [hde] at hv; cases hv; cases hp; exact hd
      rcases hg with ⟨hx, rfl⟩ | ⟨s, hx, hp, rfl⟩
      · exact ⟨ea, ta, ra, hx, rd _ hx rfl⟩
      · exact ⟨.set _ ke ea, (Obj.get?_set_ne _ _ (by decide)).trans ta, (Obj.get?_set_ne _ _ (by decide)).trans ra,
          Obj.get?_set_self _ _ _, rd _ hx hp⟩
    rcases hr with ⟨hn, rfl⟩ | ⟨r, hgr, rfl⟩
    · exact ⟨eg, tg, nofun, fun _ => rd, fun _ => hge, fun _ => .inl ⟨rg.symm.trans hn, hn⟩⟩
    · exact ⟨.set _ kr eg, (Obj.get?_set_ne _ _ (by decide)).trans tg, nofun, fun _ => rd,
        fun _ => (Obj.get?_set_ne _ _ (by decide)).trans hge, fun _ => .inr ⟨r, g, rg.symm.trans hgr, rfl⟩⟩

theorem genId_eq (x : Obj) (given fresh : String) :
    genId x given fresh =
      match parseProp x with
      | .error e => .error e
      | .ok (some (id, prop, _)) => .ok (genPropId id prop)
      | .ok none =>
        if isVar (if given == "" then fresh else given) then .error "badIdVar"
        else .ok (if given == "" then fresh else given) := by
  unfold genId
  rcases parseProp x with e | _ | ⟨id, prop, v⟩ <;> rfl

theorem genId_ok {x : Obj} {given fresh id : String} (h : genId x given fresh = .ok id) :
    (∃ pid prop v, parseProp x = .ok (some (pid, prop, v)) ∧ id = genPropId pid prop) ∨
    (parseProp x = .ok none ∧ id = (if given == "" then fresh else given) ∧ isVar id = false) := by
  rw [genId_eq] at h
  split at h
  · cases h
  · next pid prop v hv => cases h; exact .inl ⟨pid, prop, v, hv, rfl⟩
  · next hv =>
    generalize (if given == "" then fresh else given) = cand at h ⊢
    split at h
    · cases h
    · next hvar => cases h; exact .inr ⟨hv, rfl, by simpa using hvar⟩

/-! ## the errors of `genId` and `setExpires` -/

theorem mirrorRule_err {f : Obj} {e : Int} {err : LErr} (h : mirrorRule f e = .error err) : err = "ruleNotRule" := by
  unfold mirrorRule at h
  split at h
  · cases h
  · cases h
  · cases h; rfl

theorem expiresPart_err {f : Obj} {err : LErr} (h : expiresPart f = .error err) :
    err = "badExpires" ∨ err = "ruleNotRule" := by
  rw [expiresPart_eq] at h
  split at h
  · cases h
  · exact Or.inr (mirrorRule_err h)
  · split at h
    · exact Or.inr (mirrorRule_err h)
    · cases h; exact Or.inl rfl
  · cases h; exact Or.inl rfl

theorem setExpires_err {x : Obj} {now : Int} {err : LErr} (h : setExpires x now = .error err) :
    err = "badTTL" ∨ err = "badExpires" ∨ err = "ruleNotRule" := by
  rw [setExpires_eq] at h
  split at h
  · exact Or.inr (expiresPart_err h)
  · exact Or.inr (expiresPart_err h)
  · split at h
    · exact Or.inr (expiresPart_err h)
    · cases h; exact Or.inl rfl
  · cases h; exact Or.inl rfl

theorem genId_err {x : Obj} {given fresh : String} {err : LErr} (h : genId x given fresh = .error err) :
    err = "badId" ∨ err = "multiProp" ∨ err = "badIdVar" := by
  rw [genId_eq] at h
  split at h
  · next e hp =>
    cases h
    unfold parseProp at hp
    split at hp
    · cases hp
    · split at hp
      · cases hp
      · cases hp
      · cases hp; exact Or.inl rfl
    · cases hp; exact Or.inr (Or.inl rfl)
  · cases h
  · generalize (if given == "" then fresh else given) = id0 at h
    split at h
    · cases h; exact Or.inr (Or.inr rfl)
    · cases h

theorem prepareFact_eq (given fresh : String) (x : Obj) (now : Int) :
    prepareFact given fresh x now =
      match genId x given fresh with
      | .error e => .error e
      | .ok id =>
        match setExpires x now with
        | .error e => .error e
        | .ok (m, expiring, expires) =>
          if expiring && notAfter expires now then .error "expired" else
          .ok (id, m, match x.get? "rule", m.get? "rule" with
            | some (.obj _), some (.obj r') => x.set "rule" (.obj r')
            | _, _ => x) := by
  unfold prepareFact
  cases genId x given fresh with
  | error e => rfl
  | ok id =>
    simp only [bind, Except.bind]
    cases setExpires x now with
    | error e => rfl
    | ok t => obtain ⟨m, b, e⟩ := t; rfl

theorem prepareFact_parts {given fresh : String} {x : Obj} {now : Int} {id : String} {m x' : Obj}
    (hp : prepareFact given fresh x now = .ok (id, m, x')) :
    genId x given fresh = .ok id ∧ ∃ he e, setExpires x now = .ok (m, he, e) ∧ (he && notAfter e now) = false := by
  unfold prepareFact at hp
  obtain ⟨_, hg, hp⟩ := Except.bind_eq_ok.1 hp
  obtain ⟨⟨_, he, e⟩, hs, hp⟩ := Except.bind_eq_ok.1 hp
  simp only at hp
  split at hp
  · cases hp
  · next hne => cases hp; exact ⟨hg, he, e, hs, by simpa using hne⟩

/-! ## `checkExpiration` reads `expires` -/

theorem checkExpiration_none {f : Obj} (h : f.get? "expires" = none) (now : Int) : checkExpiration f now = .ok false := by
  unfold checkExpiration
  rw [h]

theorem checkExpiration_num {f : Obj} {n : Int} (h : f.get? "expires" = some (.num n)) (now : Int) :
    checkExpiration f now = .ok (notAfter n now) := by
  unfold checkExpiration
  rw [h]

theorem checkExpiration_err {f : Obj} {now : Int} {e : LErr} (h : checkExpiration f now = .error e) :
    e = "badExpires" := by
  unfold checkExpiration at h
  split at h
  · cases h
  · cases h
  · cases h; rfl

/-! ## `ExtractRule`: the rule body of a fact, carrying the fact's `expires` -/

theorem extractRule_obj {F r : Obj} (hr : F.get? "rule" = some (.obj r)) (req : Bool) :
    extractRule F req =
      match F.get? "expires" with
      | some e => .ok (some (Obj.set r "expires" e), F.set "rule" (.obj (Obj.set r "expires" e)))
      | none => .ok (some r, F) := by
  unfold extractRule
  rw [hr]
  cases F.get? "expires" <;> rfl

theorem extractRule_nonobj {F : Obj} (h : ∀ r, F.get? "rule" ≠ some (.obj r)) : extractRule F false = .ok (none, F) := by
  unfold extractRule
  cases hr : F.get? "rule" with
  | none => rfl
  | some v =>
    cases v with
    | obj r => exact absurd hr (h r)
    | _ => rfl

theorem extractRule_some {F body F' : Obj} {req : Bool} (h : extractRule F req = .ok (some body, F')) :
    ∃ r, F.get? "rule" = some (.obj r) := by
  unfold extractRule at h
  split at h
  · next r hr => exact ⟨r, hr⟩
  · split at h <;> cases h
  · split at h <;> cases h

theorem extractRule_noexp {F : Obj} (he : F.get? "expires" = none) : ∃ r, extractRule F false = .ok (r, F) := by
  by_cases h : ∃ r, F.get? "rule" = some (.obj r)
  · obtain ⟨r, hr⟩ := h
    exact ⟨some r, by rw [extractRule_obj hr, he]⟩
  · exact ⟨none, extractRule_nonobj fun r hr => h ⟨r, hr⟩⟩

/-! ## property facts: an `id`, one `!`-property, a `deleteWith`

`SetProp` writes its value as such a fact; `genId` gives it the canonical id `!id.prop`, and `setExpires` finds
nothing to do. -/

theorem idProperty_ne {q k : String} (hq : idProperty q = true) (hk : idProperty k = false) : q ≠ k :=
  fun h => by rw [h, hk] at hq; cases hq

theorem parseProp_prop (id q : String) (v d : J) (hq : idProperty q = true) :
    parseProp [("id", .str id), (q, v), ("deleteWith", d)] = .ok (some (id, (q.drop 1).toString, v)) := by
  have h1 : idProperty "id" = false := by decide +kernel
  have h2 : idProperty "deleteWith" = false := by decide +kernel
  simp [parseProp, List.filter, h1, h2, hq, Obj.get?, lookupKey]

theorem propFact_get?_none (id : String) {q k : String} (v d : J) (hq : q ≠ k) (h1 : k ≠ "id")
    (h2 : k ≠ "deleteWith") : Obj.get? [("id", .str id), (q, v), ("deleteWith", d)] k = none := by
  simp [Obj.get?, lookupKey, h1, h2, hq.symm]

theorem prepareFact_prop (fresh id q : String) (v d : J) (now : Int) (hq : idProperty q = true) :
    prepareFact "" fresh [("id", .str id), (q, v), ("deleteWith", d)] now =
      .ok (genPropId id (q.drop 1).toString, [("id", .str id), (q, v), ("deleteWith", d)],
        [("id", .str id), (q, v), ("deleteWith", d)]) := by
  have hk (k : String) (hk : idProperty k = false) (h1 : k ≠ "id") (h2 : k ≠ "deleteWith") :=
    propFact_get?_none id v d (idProperty_ne hq hk) h1 h2
  rw [prepareFact_eq, genId_eq, parseProp_prop id q v d hq,
    setExpires_none now (hk "ttl" (by decide +kernel) (by decide) (by decide))
      (hk "expires" (by decide +kernel) (by decide) (by decide)),
    hk "rule" (by decide +kernel) (by decide) (by decide)]
  rfl

theorem extractRule_prop (id q : String) (v d : J) (hq : idProperty q = true) :
    extractRule [("id", .str id), (q, v), ("deleteWith", d)] false =
      .ok (none, [("id", .str id), (q, v), ("deleteWith", d)]) :=
  extractRule_nonobj (by
    rw [propFact_get?_none id v d (idProperty_ne hq (by decide +kernel)) (by decide) (by decide)]
    nofun)
