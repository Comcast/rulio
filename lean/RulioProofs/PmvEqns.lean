import RulioModel.MatchSpec
import RulioProofs.JsonBase

/-! # The specification matcher `pmv`: its equations (the scan loops of `pmO` on a property variable and of `pmPick` also
as `List.any`), and what `pmPick`, `pmO` and `pmv` say on constants -/

theorem pmv_str (σ : Bs) (s : String) (d : J) : pmv σ (.str s) d = pmStr σ s d := by
  rw [pmv.eq_def]
theorem pmv_arr (σ : Bs) (xs : List J) (d : J) :
    pmv σ (.arr xs) d = (match d with | .arr ds => pmA σ xs ds | _ => false) := by
  rw [pmv.eq_def]; cases d <;> rfl
theorem pmv_obj (σ : Bs) (kvs : List (String × J)) (d : J) :
    pmv σ (.obj kvs) d = (match d with | .obj dm => pmO σ kvs dm dm | _ => false) := by
  rw [pmv.eq_def]; cases d <;> rfl

theorem pmv_arr_inv {σ : Bs} {xs : List J} {d : J} (h : pmv σ (.arr xs) d = true) :
    ∃ ds, d = .arr ds ∧ pmA σ xs ds = true := by
  rw [pmv_arr] at h
  cases d with
  | arr ds => exact ⟨ds, rfl, h⟩
  | _ => cases h
theorem pmv_obj_inv {σ : Bs} {kvs : List (String × J)} {d : J} (h : pmv σ (.obj kvs) d = true) :
    ∃ dm, d = .obj dm ∧ pmO σ kvs dm dm = true := by
  rw [pmv_obj] at h
  cases d with
  | obj dm => exact ⟨dm, rfl, h⟩
  | _ => cases h

theorem pmO_nil (σ : Bs) (dm rest : List (String × J)) : pmO σ [] dm rest = true := by
  rw [pmO.eq_def]
theorem pmO_cons_const (σ : Bs) {k : String} (hk : isVar k = false) (v : J) (r dm rest : List (String × J)) :
    pmO σ ((k, v) :: r) dm rest =
      ((match lookupKey k dm with | some dv => pmv σ v dv | none => false) && pmO σ r dm dm) := by
  rw [pmO.eq_def]; simp only [hk, Bool.false_eq_true, if_false]
  cases lookupKey k dm <;> rfl

theorem pmO_cons_var (σ : Bs) {k : String} (hk : isVar k = true) (v : J) (r dm : List (String × J)) :
    ∀ rest, pmO σ ((k, v) :: r) dm rest = rest.any (fun e => pmStr σ k (.str e.1) && pmv σ v e.2)
  | [] => by rw [pmO.eq_def]; simp only [hk, if_true]; rfl
  | (dk, dv) :: rest => by
      rw [pmO.eq_def]; simp only [hk, if_true]
      rw [pmO_cons_var σ hk v r dm rest]; rfl

theorem pmA_nil (σ : Bs) (ds : List J) : pmA σ [] ds = true := by rw [pmA.eq_def]
theorem pmA_cons (σ : Bs) (x : J) (xs ds : List J) : pmA σ (x :: xs) ds = pmPick σ x xs [] ds := by
  rw [pmA.eq_def]
theorem pmPick_nil (σ : Bs) (x : J) (xs pre : List J) : pmPick σ x xs pre [] = false := by
  rw [pmPick.eq_def]
theorem pmPick_cons (σ : Bs) (x : J) (xs pre : List J) (d : J) (post : List J) :
    pmPick σ x xs pre (d :: post) =
      ((pmv σ x d && pmA σ xs (pre ++ post)) || pmPick σ x xs (pre ++ [d]) post) := by
  rw [pmPick.eq_def]

theorem pmPick_iff (σ : Bs) (x : J) (xs : List J) : ∀ (post pre : List J),
    pmPick σ x xs pre post = true ↔
      ∃ d post1 post2, post = post1 ++ d :: post2 ∧ pmv σ x d = true ∧ pmA σ xs (pre ++ post1 ++ post2) = true
  | [], pre => by simp [pmPick_nil]
  | d :: post, pre => by
      rw [pmPick_cons, Bool.or_eq_true, Bool.and_eq_true, pmPick_iff σ x xs post (pre ++ [d])]
      constructor
      · rintro (⟨h1, h2⟩ | ⟨d', p1, p2, rfl, h1, h2⟩)
        · exact ⟨d, [], post, rfl, h1, by simpa using h2⟩
        · exact ⟨d', d :: p1, p2, rfl, h1, by simpa using h2⟩
      · rintro ⟨d', p1, p2, he, h1, h2⟩
        cases p1 with
        | nil =>
          simp only [List.nil_append, List.cons.injEq] at he
          obtain ⟨rfl, rfl⟩ := he
          exact Or.inl ⟨h1, by simpa using h2⟩
        | cons a p1 =>
          simp only [List.cons_append, List.cons.injEq] at he
          obtain ⟨rfl, rfl⟩ := he
          exact Or.inr ⟨d', p1, p2, rfl, h1, by simpa using h2⟩

theorem pmPick_eq_any (σ : Bs) (x : J) (xs : List J) : ∀ (post pre : List J),
    pmPick σ x xs pre post = (splitNth post).any (fun fr => pmv σ x fr.1 && pmA σ xs (pre ++ fr.2))
  | [], pre => by rw [pmPick_nil]; rfl
  | d :: post, pre => by
      rw [pmPick_cons, pmPick_eq_any σ x xs post (pre ++ [d])]
      simp only [splitNth, List.any_cons, List.any_map, Function.comp_def, List.append_assoc, List.singleton_append]

theorem pmA_cons_iff {σ : Bs} {x : J} {xs ys : List J} :
    pmA σ (x :: xs) ys = true ↔ ∃ d p1 p2, ys = p1 ++ d :: p2 ∧ pmv σ x d = true ∧ pmA σ xs (p1 ++ p2) = true := by
  rw [pmA_cons, pmPick_iff]
  simp only [List.nil_append]

theorem pmO_const_iff (σ : Bs) (dm : List (String × J)) : ∀ (kvs rest : List (String × J)),
    (∀ kv ∈ kvs, isVar kv.1 = false) →
    (pmO σ kvs dm rest = true ↔ ∀ kv ∈ kvs, ∃ dv, lookupKey kv.1 dm = some dv ∧ pmv σ kv.2 dv = true)
  | [], rest, _ => by simp [pmO_nil]
  | (k, v) :: r, rest, h => by
      have hk : isVar k = false := h (k, v) List.mem_cons_self
      rw [pmO_cons_const σ hk, Bool.and_eq_true,
        pmO_const_iff σ dm r dm (fun kv hkv => h kv (List.mem_cons_of_mem _ hkv))]
      simp only [List.mem_cons, forall_eq_or_imp]
      apply and_congr_left'
      cases lookupKey k dm <;> simp

theorem pmStr_anon (σ : Bs) (d : J) : pmStr σ "?" d = true := rfl
theorem pmStr_var {s : String} (hv : isVar s = true) (hq : s ≠ "?") (σ : Bs) (d : J) :
    pmStr σ s d = (match σ.get? s with | some b => b == d | none => false) := by
  unfold pmStr
  simp only [beq_iff_eq, hq, if_false, hv, if_true]
  rfl
theorem pmStr_var_iff {s : String} (hv : isVar s = true) (hq : s ≠ "?") {σ : Bs} {d : J} :
    pmStr σ s d = true ↔ σ.get? s = some d := by
  rw [pmStr_var hv hq]
  cases σ.get? s with
  | none => exact ⟨fun h => (nomatch h), fun h => nomatch h⟩
  | some b => exact ⟨fun h => congrArg some (eq_of_beq h), fun h => by cases h; exact beq_self_eq_true _⟩
theorem pmStr_const {σ : Bs} {s : String} (hs : isVar s = false) (d : J) :
    pmStr σ s d = true ↔ d = .str s := by
  have hq : (s == "?") = false := by
    rw [beq_eq_false_iff_ne]; rintro rfl; rw [isVar_anon] at hs; cases hs
  unfold pmStr
  simp only [hq, hs, Bool.false_eq_true, if_false]
  (cases d <;> simp); exact eq_comm

theorem pmv_scalar_const {σ : Bs} {x : J} (hx : x.isScalar = true) (hv : ∀ s, x = .str s → isVar s = false) (d : J) :
    pmv σ x d = true ↔ d = x := by
  cases x with
  | null => rw [pmv.eq_def]; cases d <;> simp
  | bool a => rw [pmv.eq_def]; (cases d <;> simp); exact eq_comm
  | num a => rw [pmv.eq_def]; (cases d <;> simp); exact eq_comm
  | str s => rw [pmv_str]; exact pmStr_const (hv s rfl) d
  | arr xs => cases hx
  | obj kvs => cases hx
