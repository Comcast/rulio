import RulioProofs.StateAll

open AM

/-! # Storage mirrors memory

Every operation of either state only (a) purges: a finite sequence of single removals, each erasing an id from facts
*and* storage together (`St.Purge`, StateFrame), (b) sets an id in facts *and* storage together (`add_shape`, StateAdd), or
(c) clears (`St.stepOp_cases`, StateAll). `Shrinks` is what a purge does to the two maps (`St.Purge.shrinks`,
StateAll), and `StoreOK` follows. -/

/-- the shape in which the model hands on the state of a call while it replaces the answer -/
theorem rel_match_snd {Q : St → St → Prop} {α β} {s : St} {x : St × Except LErr α} {b : β} (h : Q s x.1) :
    Q s (match x with | (s3, .error e) => (s3, (.error e : Except LErr β)) | (s3, .ok _) => (s3, .ok b)).1 := by
  obtain ⟨s3, r⟩ := x
  cases r <;> exact h

theorem SameData.trans {a b c : St} (h1 : SameData a b) (h2 : SameData b c) : SameData a c :=
  ⟨h2.1.trans h1.1, h2.2.1.trans h1.2.1, h2.2.2.trans h1.2.2⟩

/-- a fact that `ExtractRule` leaves as it is (no rule body to write an expiry into) is kept in memory as it is -/
theorem memForm_eq_self {k : Kind} {m : Obj} {r : Option Obj} (h : extractRule m false = .ok (r, m)) :
    memForm k m = m := by
  cases k
  · exact indexedForm_of_ok h
  · rfl

/-! ## the storage invariant: kept by a purge, by equal data, by `Add` (which sets an id in facts and storage together) -/

theorem Shrinks.storeOK {s s' : St} (h : Shrinks s s') (ok : StoreOK s) : StoreOK s' := by
  obtain ⟨_, _, sf, ss, p⟩ := h
  refine ⟨fun id => ?_, (sf.map _).nodup ok.factsNodup, (ss.map _).nodup ok.storeNodup⟩
  rcases p id with ⟨hf, hs⟩ | ⟨hf, hs⟩
  · rw [hf, hs]; exact ok.mirror id
  · rw [hf, hs]; rfl

theorem SameData.storeOK {s s' : St} (h : SameData s s') (ok : StoreOK s) : StoreOK s' := by
  obtain ⟨hf, hs, _⟩ := h
  exact ⟨fun id => by rw [hf, hs]; exact ok.mirror id, hf ▸ ok.factsNodup, hs ▸ ok.storeNodup⟩

theorem St.add_storeOK {s : St} (ok : StoreOK s) (given : String) (x : Obj) (now : Int) :
    StoreOK (s.add given x now).1 := by
  rcases add_shape s given x now with ⟨_, _, hf⟩ | ⟨id, m, _, ha⟩
  · exact SameData.storeOK ⟨hf.facts, hf.store, hf.kind⟩ ok
  · refine ⟨fun k => ?_, ?_, ?_⟩
    · simp only [ha.facts, ha.store, amGet_amSet]
      split
      · rfl
      · exact ok.mirror k
    · rw [ha.facts]; exact amKeys_amSet_nodup _ _ _ ok.factsNodup
    · rw [ha.store]; exact amKeys_amSet_nodup _ _ _ ok.storeNodup

theorem St.empty_storeOK (k : Kind) : StoreOK (St.empty k) :=
  ⟨fun _ => rfl, List.nodup_nil, List.nodup_nil⟩

theorem St.stepOp_storeOK {s : St} (ok : StoreOK s) (op : ROp) : StoreOK (s.stepOp op).1 :=
  St.stepOp_cases (Q := fun _ s' => StoreOK s') s (fun h => h.shrinks.storeOK ok)
    (fun g x now => St.add_storeOK ok g x now) ⟨fun _ => rfl, List.nodup_nil, List.nodup_nil⟩ op

theorem St.runOps_storeOK (ops : List ROp) {s : St} : StoreOK s → StoreOK (s.runOps ops) :=
  St.runOps_inv (P := StoreOK) (fun _ op ok => St.stepOp_storeOK ok op) ops
