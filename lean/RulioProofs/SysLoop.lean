import RulioProofs.SysParents

open AM

/-! # Loops are reported: one level of the walk when the location and what its parent read answers are known
(`doAncestors_succ_of_get`), chains of first parents (`firstParentIs`, `chainFP`), and a walk that follows such a chain back
to its start answers `"loop"` (`doAncestors_loop`, `sysSearchFacts_loop`; `sysFresh_ab_wf` is for the two looping systems
of Props/C09) -/

/-- `doAncestors_succ_of_read` with the `at` step unfolded: the location `l` under `n` and the answer of its parent read
are given, so the system after the read is `sys.put l1` and the provider test is computed (needs `SysWF`) -/
theorem doAncestors_succ_of_get {α} {sys : Sys} (wf : SysWF sys) {n : String} {now : Int} {l l1 : Loc}
    {ps : List String} (hg : sys.get? n = some l) (hr : locGetParentsRaw now l = (l1, .ok ps))
    {path : List String} (hp : path.contains n = false) (fuel : Nat) (fn : String → LM α) (acc : List α) :
    doAncestors (fuel + 1) sys n now fn acc path =
      if !ps.isEmpty && !l.hasProvider then (sys.put l1, .error "noProvider") else
      match walkList (fun s p a => doAncestors fuel s p now fn a (n :: path)) n (sys.put l1) ps acc with
      | (sys2, .error e) => (sys2, .error e)
      | (sys2, .ok acc2) =>
        match sys2.at n (fn n) with
        | (sys3, .error e) => (sys3, .error e)
        | (sys3, .ok a) => (sys3, .ok (acc2 ++ [a])) := by
  rw [doAncestors_succ_of_read (s1 := sys.put l1) (by rw [Sys.at_some _ hg, hr]) hp]
  have hid := (locGetParentsRaw_via now).keepsId l
  rw [hr] at hid
  have hname : l1.name = n := hid.1.trans (wf.name_of_get? hg)
  have : noProv (sys.put l1) n ps = (!ps.isEmpty && !l.hasProvider) := by
    unfold noProv
    rw [Sys.get?_put]; simp [hname, show l1.hasProvider = l.hasProvider from hid.2]
  rw [this]
  rfl

theorem firstParentIs_iff {sys : Sys} {now : Int} {n p : String} :
    firstParentIs sys now n p = true ↔
      ∃ l l1 qs, sys.get? n = some l ∧ l.hasProvider = true ∧ locGetParentsRaw now l = (l1, .ok (p :: qs)) := by
  unfold firstParentIs
  cases hg : sys.get? n with
  | none => simp
  | some l =>
    simp only [Bool.and_eq_true]
    constructor
    · rintro ⟨h1, h2⟩
      cases hr : locGetParentsRaw now l with
      | mk l1 r =>
        rw [hr] at h2
        cases r with
        | error e => simp at h2
        | ok ps =>
          cases ps with
          | nil => simp at h2
          | cons q qs =>
            simp only [beq_iff_eq] at h2
            subst h2
            exact ⟨l, l1, qs, rfl, h1, hr⟩
    · rintro ⟨l', l1', qs', h1, h2, h3⟩
      cases h1
      rw [h3]
      exact ⟨h2, by simp⟩

theorem firstParentIs_congr {sys sys' : Sys} {now : Int} {n p : String} (h : sys'.get? n = sys.get? n) :
    firstParentIs sys' now n p = firstParentIs sys now n p := by
  unfold firstParentIs; rw [h]

theorem chainFP_congr {sys sys' : Sys} {now : Int} (mid : List String) : ∀ (n last : String),
    (∀ x ∈ n :: mid, sys'.get? x = sys.get? x) → chainFP sys' now n mid last = chainFP sys now n mid last := by
  induction mid with
  | nil => intro n last h; exact firstParentIs_congr (h n (by simp))
  | cons m mid ih =>
    -- one level at `n`; the walk then enters the first parent `m` with `n` on the path, in the system the read left,
    -- `sys.put l1`. That differs from `sys` at `n` only and `n ∉ m :: mid`, so the chain from `m` is a chain there too.
    intro n last h
    unfold chainFP
    rw [firstParentIs_congr (h n (by simp)), ih m last (fun x hx => h x (by simp [hx]))]

theorem chainFP_head_known {sys : Sys} {now : Int} {n : String} {mid : List String} {last : String}
    (h : chainFP sys now n mid last = true) : n ∈ sys.keys := by
  cases mid with
  | nil =>
    obtain ⟨l, _, _, hg, _⟩ := firstParentIs_iff.1 h
    exact Sys.mem_keys_of_get? hg
  | cons m mid =>
    unfold chainFP at h
    simp only [Bool.and_eq_true] at h
    obtain ⟨l, _, _, hg, _⟩ := firstParentIs_iff.1 h.1
    exact Sys.mem_keys_of_get? hg

theorem chainFP_known {sys : Sys} {now : Int} : ∀ (mid : List String) (n last : String),
    chainFP sys now n mid last = true → ∀ x ∈ n :: mid, x ∈ sys.keys
  | [], n, last, h, x, hx => by rw [List.mem_singleton.1 hx]; exact chainFP_head_known h
  | m :: mid, n, last, h, x, hx => by
    rcases List.mem_cons.1 hx with rfl | hx
    · exact chainFP_head_known h
    · unfold chainFP at h
      exact chainFP_known mid m last (Bool.and_eq_true _ _ ▸ h).2 x hx

/-- **loop_reported**: follow first declared parents from `n`; as soon as the chain comes back to a name
on the current path (or to `n`, or to an earlier member of the chain), the walk answers `loop` -/
theorem doAncestors_loop {α} {now : Int} (fn : String → LM α) (mid : List String) :
    ∀ (sys : Sys) (n last : String) (path : List String) (fuel : Nat) (acc : List α),
      SysWF sys → chainFP sys now n mid last = true → (n :: mid).Nodup → (∀ x ∈ n :: mid, x ∉ path) →
      (last ∈ n :: mid ∨ last ∈ path) → (∀ p ∈ path, p ∈ sys.keys) → mid.length + 2 ≤ fuel →
      (doAncestors fuel sys n now fn acc path).2 = .error "loop" := by
  induction mid with
  | nil =>
    intro sys n last path fuel acc wf hc hnd hnp hlast hpk hf
    obtain ⟨f, rfl⟩ : ∃ f, fuel = f + 1 + 1 := ⟨fuel - 2, by simp at hf; omega⟩
    obtain ⟨l, l1, qs, hg, hprov, hr⟩ := firstParentIs_iff.1 hc
    have hpn : path.contains n = false := by
      have := hnp n (by simp); simpa using this
    rw [doAncestors_succ_of_get wf hg hr hpn]
    simp only [hprov, Bool.not_true, Bool.and_false, Bool.false_eq_true, if_false]
    rw [walkList]
    by_cases hln : (last == n) = true
    · simp only [hln, if_true]
    · simp only [hln, Bool.false_eq_true, if_false]
      have hlp : last ∈ path := by
        rcases hlast with h | h
        · simp at h; simp at hln; exact absurd h hln
        · exact h
      have hk : (sys.put l1).keys = sys.keys := by
        have := Sys.at_keys wf n (locGetParentsRaw_via now).keepsId.keepsName
        rwa [Sys.at_some _ hg, hr] at this
      have hlk : last ∈ (sys.put l1).keys := by rw [hk]; exact hpk last hlp
      obtain ⟨ll, hll⟩ := Option.isSome_iff_exists.1 ((Sys.get?_isSome_iff _ _).2 hlk)
      rw [hll]
      simp only []
      rw [doAncestors_succ]
      have : (n :: path).contains last = true := by simp [hlp]
      simp only [this, if_true]
  | cons m mid ih =>
    intro sys n last path fuel acc wf hc hnd hnp hlast hpk hf
    obtain ⟨f, rfl⟩ : ∃ f, fuel = f + 1 := ⟨fuel - 1, by simp at hf; omega⟩
    unfold chainFP at hc
    simp only [Bool.and_eq_true] at hc
    obtain ⟨l, l1, qs, hg, hprov, hr⟩ := firstParentIs_iff.1 hc.1
    have hpn : path.contains n = false := by
      have := hnp n (by simp); simpa using this
    rw [doAncestors_succ_of_get wf hg hr hpn]
    simp only [hprov, Bool.not_true, Bool.and_false, Bool.false_eq_true, if_false]
    rw [walkList]
    have hnd' := List.nodup_cons.1 hnd
    have hmn : m ≠ n := by
      intro h; apply hnd'.1; rw [← h]; simp
    have hmn' : (m == n) = false := by simp [hmn]
    simp only [hmn', Bool.false_eq_true, if_false]
    have hkn := (locGetParentsRaw_via now).keepsId.keepsName
    have hframe : ∀ x, x ≠ n → (sys.put l1).get? x = sys.get? x := fun x hx => by
      have := Sys.at_frame wf n hkn hx; rwa [Sys.at_some _ hg, hr] at this
    have hk : (sys.put l1).keys = sys.keys := by
      have := Sys.at_keys wf n hkn; rwa [Sys.at_some _ hg, hr] at this
    have hc' : chainFP (sys.put l1) now m mid last = true := by
      rw [chainFP_congr mid m last]; exact hc.2
      intro x hx; apply hframe
      intro h; apply hnd'.1; rw [← h]; exact hx
    have hmk : m ∈ (sys.put l1).keys := chainFP_head_known hc'
    obtain ⟨lm, hlm⟩ := Option.isSome_iff_exists.1 ((Sys.get?_isSome_iff _ _).2 hmk)
    rw [hlm]
    simp only []
    have := ih (sys.put l1) m last (n :: path) f acc (wf.put l1) hc' hnd'.2
      (by
        intro x hx hxp
        rcases List.mem_cons.1 hxp with h | h
        · apply hnd'.1; rw [← h]; exact hx
        · exact hnp x (by simp [List.mem_cons.1 hx]) h)
      (by
        rcases hlast with h | h
        · rcases List.mem_cons.1 h with h' | h'
          · right; simp [h']
          · left; exact h'
        · right; simp [h])
      (by
        intro p hp
        rw [hk]
        rcases List.mem_cons.1 hp with h | h
        · rw [h]; exact Sys.mem_keys_of_get? hg
        · exact hpk p h)
      (by simp at hf ⊢; omega)
    cases hd : doAncestors f (sys.put l1) m now fn acc (n :: path) with
    | mk s2 r =>
      rw [hd] at this
      simp only at this
      subst this
      rfl

/-- a chain of first declared parents that comes back to its start: inherited search answers `loop`. The members of
the chain are distinct known locations, so the model's own fuel covers it. -/
theorem sysSearchFacts_loop {sys : Sys} (wf : SysWF sys) {now : Int} {n : String} {mid : List String}
    (hc : chainFP sys now n mid n = true) (hnd : (n :: mid).Nodup) (c : Ctx) (p : Obj) :
    (sysSearchFacts sys c n p true now).2 = .error "loop" := by
  have hlen : (n :: mid).length ≤ sys.length := by
    rw [Sys.length_eq_keys]; exact hnd.length_le_of_subset (chainFP_known mid n n hc)
  have := doAncestors_loop (tagged (fun _ => locSearchFacts c p now)) mid sys n n [] (ancestorFuel sys) [] wf hc hnd
    (by simp) (.inl (by simp)) (by simp) (by simp only [ancestorFuel, List.length_cons] at hlen ⊢; omega)
  unfold sysSearchFacts
  simp only [if_true]
  cases hd : doAncestors (ancestorFuel sys) sys n now (tagged (fun _ => locSearchFacts c p now)) [] with
  | mk s r => rw [hd] at this; simp only at this; subst this; rfl

theorem sysFresh_ab_wf (k : Kind) : SysWF (Sys.fresh k ["a", "b"]) := Sys.fresh_wf k (by decide)
