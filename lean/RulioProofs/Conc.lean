import RulioModel.Conc

/-! # Lemmas for the interleaving semantics: sections of a reader/writer lock are atomic

Main result `sim`: for every schedule, the fine-grained execution, with its open sections run to completion,
equals the sequential execution of whole sections in the order of lock acquisition.  `exec_section` says what that
sequential semantics is: a thread scheduled as often as its section has steps runs the section alone.  Then programs
made of table rows (`wf_flatten`: well-locked pieces concatenate), and `OwnInv`: two cells with a single writer end up
holding what the writer's program alone leaves there. -/

namespace Conc

@[simp] theorem upd_same {α} (f : Nat → α) (k : Nat) (v : α) : upd f k v k = v := by simp [upd]
theorem upd_other {α} (f : Nat → α) {k x : Nat} (v : α) (h : x ≠ k) : upd f k v x = f x := by simp [upd, h]

theorem upd_upd {α} (f : Nat → α) (k : Nat) (v w : α) : upd (upd f k v) k w = upd f k w := by
  funext x; by_cases h : x = k <;> simp [upd, h]

/-! ### The discipline `wf`, and the steps that touch no lock -/

theorem wf_cons {m : Option Bool} {s : Step} {r : List Step} (h : wf m (s :: r) = true) :
    match s with
    | .acq w => m = none ∧ wf (some w) r = true
    | .rel => m.isSome = true ∧ wf none r = true
    | .rd _ => m.isSome = true ∧ wf m r = true
    | .wr _ _ => m = some true ∧ wf m r = true
    | _ => wf m r = true := by
  cases s <;> rcases m with _ | _ | _ <;> first | cases h | exact ⟨rfl, h⟩ | exact h

/-- every step but `acq` / `rel` (so also `io`); `finish mem aux log [s]` is then the effect of `s` alone -/
def Step.isData : Step → Bool
  | .acq _ | .rel => false
  | _ => true

theorem finish_data {s : Step} (hs : s.isData = true) (mem aux : Cell → Val) (log : List Val) (r : List Step) :
    finish mem aux log (s :: r) =
      finish (finish mem aux log [s]).mem (finish mem aux log [s]).aux (finish mem aux log [s]).log r := by
  cases s with
  | acq | rel => cases hs
  | _ => rfl

theorem step_data {C : Config} {t : Tid} {s : Step} {rest : List Step} (hT : (C.th t).todo = s :: rest)
    (hs : s.isData = true) :
    step C t = { C with mem := (finish C.mem C.aux (C.th t).log [s]).mem,
                        aux := (finish C.mem C.aux (C.th t).log [s]).aux,
                        th := upd C.th t { C.th t with todo := rest, log := (finish C.mem C.aux (C.th t).log [s]).log } } := by
  cases s with
  | acq | rel => cases hs
  | _ => simp only [step, hT, finish]

theorem wf_data {m : Option Bool} {s : Step} {r : List Step} (hs : s.isData = true) (h : wf m (s :: r) = true) :
    wf m r = true := by
  cases s with
  | acq | rel => cases hs
  | rd | wr => exact (wf_cons h).2
  | _ => exact wf_cons h

theorem data_mem {m : Option Bool} {s : Step} {r : List Step} (hs : s.isData = true) (h : wf m (s :: r) = true)
    (hm : m ≠ some true) (mem aux : Cell → Val) (log : List Val) : (finish mem aux log [s]).mem = mem := by
  cases s with
  | acq | rel => cases hs
  | wr => exact absurd (wf_cons h).1 hm
  | _ => rfl

theorem data_log {s : Step} {r : List Step} (hs : s.isData = true) (h : wf none (s :: r) = true)
    (mem aux : Cell → Val) (log : List Val) : (finish mem aux log [s]).log = log := by
  cases s with
  | acq | rel => cases hs
  | rd | wr => cases h
  | _ => rfl

theorem Thread.ext' {a b : Thread} (h1 : a.todo = b.todo) (h2 : a.log = b.log) (h3 : a.mode = b.mode) : a = b := by
  cases a; cases b; simp_all

/-! ### `finish` does not look at `aux`, and a shared section does not change `mem` -/

def Loc3.same (a b : Loc3) : Prop := a.mem = b.mem ∧ a.log = b.log ∧ a.todo = b.todo

theorem Loc3.same.th {a b : Loc3} (h : a.same b) {T : Thread} (hT : T.todo = b.todo ∧ T.log = b.log ∧ T.mode = none) :
    T.todo = a.todo ∧ T.log = a.log ∧ T.mode = none :=
  ⟨hT.1.trans h.2.2.symm, hT.2.1.trans h.2.1.symm, hT.2.2⟩

theorem finish_aux (mem aux aux' : Cell → Val) (log : List Val) (l : List Step) :
    (finish mem aux log l).same (finish mem aux' log l) := by
  induction l generalizing mem aux aux' log with
  | nil => exact ⟨rfl, rfl, rfl⟩
  | cons s r ih =>
    cases s with
    | acq | rel => exact ⟨rfl, rfl, rfl⟩
    | _ => exact ih ..

theorem finish_mem_shared (mem aux : Cell → Val) (log : List Val) (l : List Step) (h : wf (some false) l = true) :
    (finish mem aux log l).mem = mem := by
  induction l generalizing aux log with
  | nil => rfl
  | cons s r ih =>
    cases s with
    | acq | rel => rfl
    | wr => cases h
    | _ => exact ih _ _ h

/-! ### Invariant of reachable configurations of a well-locked program -/

structure LockInv (F : Config) : Prop where
  wf : ∀ t, Conc.wf (F.th t).mode (F.th t).todo = true
  wr : ∀ t, F.writer = some t ↔ (F.th t).mode = some true
  rds : ∀ t, t ∈ F.readers ↔ (F.th t).mode = some false
  excl : F.writer.isSome = true → F.readers = []
  nodup : F.readers.Nodup

theorem lockInv_init (P : Tid → List Step) (m0 : Cell → Val) (h : WellLocked P) : LockInv (init P m0) where
  wf := h
  wr := by intro t; simp [init]
  rds := by intro t; simp [init]
  excl := by simp [init]
  nodup := by simp [init]

theorem completes_init (P : Tid → List Step) (m0 : Cell → Val) : Completes (init P m0) (init P m0) where
  mem := rfl
  th := fun _ => rfl
  idle := ⟨rfl, rfl⟩

theorem LockInv.writer_none {F : Config} (hI : LockInv F) {t : Tid} (h : (F.th t).mode = some false) :
    F.writer = none := by
  cases hw : F.writer with
  | none => rfl
  | some u =>
    have h2 := (hI.rds t).2 h
    rw [hI.excl (by simp [hw])] at h2
    cases h2

theorem LockInv.alone {F : Config} (hI : LockInv F) {t u : Tid} {d : Bool} (hw : F.writer = some t)
    (hu : (F.th u).mode = some d) : u = t := by
  cases d with
  | true => have := (hI.wr u).2 hu; rw [hw] at this; exact (Option.some.inj this).symm
  | false => rw [hI.writer_none hu] at hw; cases hw

/-! ### What one scheduling decision does -/

theorem step_nil {C : Config} {t : Tid} (h : (C.th t).todo = []) : step C t = C := by
  simp [step, h]

theorem step_blocked {C : Config} {t : Tid} {w : Bool} {rest : List Step} (hT : (C.th t).todo = .acq w :: rest)
    (hc : canAcq C w = false) : step C t = C := by
  simp [step, hT, hc]

theorem step_acq {C : Config} {t : Tid} {w : Bool} {rest : List Step} (hT : (C.th t).todo = .acq w :: rest)
    (hn : (C.th t).mode = none) (hc : canAcq C w = true) :
    step C t = { C with writer := if w then some t else C.writer, readers := if w then C.readers else t :: C.readers,
                        th := upd C.th t { C.th t with todo := rest, mode := some w } } := by
  cases w <;> simp [step, hT, hn, hc]

theorem step_rel {C : Config} {t : Tid} {b : Bool} {rest : List Step} (hT : (C.th t).todo = .rel :: rest)
    (hb : (C.th t).mode = some b) :
    step C t = { C with writer := if b then none else C.writer, readers := if b then C.readers else C.readers.erase t,
                        th := upd C.th t { C.th t with todo := rest, mode := none } } := by
  cases b <;> simp only [step, hT, hb] <;> rfl

theorem step_acq_w {C : Config} {t : Tid} {rest : List Step} (hT : (C.th t).todo = .acq true :: rest)
    (hn : (C.th t).mode = none) (hc : canAcq C true = true) :
    step C t = { C with writer := some t, th := upd C.th t { C.th t with todo := rest, mode := some true } } :=
  step_acq hT hn hc

theorem step_acq_r {C : Config} {t : Tid} {rest : List Step} (hT : (C.th t).todo = .acq false :: rest)
    (hn : (C.th t).mode = none) (hc : canAcq C false = true) :
    step C t = { C with readers := t :: C.readers, th := upd C.th t { C.th t with todo := rest, mode := some false } } :=
  step_acq hT hn hc

theorem step_rel_w {C : Config} {t : Tid} {rest : List Step} (hT : (C.th t).todo = .rel :: rest)
    (hb : (C.th t).mode = some true) :
    step C t = { C with writer := none, th := upd C.th t { C.th t with todo := rest, mode := none } } :=
  step_rel hT hb

theorem step_rel_r {C : Config} {t : Tid} {rest : List Step} (hT : (C.th t).todo = .rel :: rest)
    (hb : (C.th t).mode = some false) :
    step C t = { C with readers := C.readers.erase t, th := upd C.th t { C.th t with todo := rest, mode := none } } :=
  step_rel hT hb

theorem canAcq_true {C : Config} {w : Bool} (h : canAcq C w = true) : C.writer = none ∧ (w = true → C.readers = []) := by
  cases w <;> simpa [canAcq] using h

/-- the invariant after thread `t` has become `T'` and the lock `W'`, `R'`: only `t` has to be looked at, the other threads
and their share of the lock being what they were -/
theorem LockInv.upd {F : Config} (hI : LockInv F) (t : Tid) (T' : Thread) (mem' aux' : Cell → Val) (W' : Option Tid)
    (R' : List Tid) (hw : Conc.wf T'.mode T'.todo = true)
    (hwr : (W' = some t ↔ T'.mode = some true) ∧ ∀ u, u ≠ t → (W' = some u ↔ F.writer = some u))
    (hrd : (t ∈ R' ↔ T'.mode = some false) ∧ ∀ u, u ≠ t → (u ∈ R' ↔ u ∈ F.readers))
    (hex : W'.isSome = true → R' = []) (hnd : R'.Nodup) :
    LockInv { mem := mem', aux := aux', writer := W', readers := R', th := upd F.th t T' } where
  wf u := by
    by_cases hu : u = t
    · subst hu; simpa using hw
    · simpa [upd_other _ _ hu] using hI.wf u
  wr u := by
    by_cases hu : u = t
    · subst hu; simpa using hwr.1
    · simpa [upd_other _ _ hu] using (hwr.2 u hu).trans (hI.wr u)
  rds u := by
    by_cases hu : u = t
    · subst hu; simpa using hrd.1
    · simpa [upd_other _ _ hu] using (hrd.2 u hu).trans (hI.rds u)
  excl := hex
  nodup := hnd

theorem lockInv_step {F : Config} (hI : LockInv F) (t : Tid) : LockInv (step F t) := by
  have hw := hI.wf t
  cases hT : (F.th t).todo with
  | nil => rw [step_nil hT]; exact hI
  | cons s rest =>
    rw [hT] at hw
    by_cases hs : s.isData = true
    · rw [step_data hT hs]
      exact hI.upd t _ _ _ _ _ (wf_data hs hw) ⟨hI.wr t, fun _ _ => .rfl⟩ ⟨hI.rds t, fun _ _ => .rfl⟩ hI.excl hI.nodup
    cases s with
    | acq w =>
      obtain ⟨hn, hw'⟩ := wf_cons hw
      cases hc : canAcq F w with
      | false => rw [step_blocked hT hc]; exact hI
      | true =>
        obtain ⟨hwn, hre⟩ := canAcq_true hc
        have hnot : t ∉ F.readers := fun h => by have := (hI.rds t).1 h; rw [hn] at this; cases this
        cases w with
        | true =>
          rw [step_acq_w hT hn hc]
          exact hI.upd t _ _ _ _ _ hw' ⟨by simp, fun u hu => by simp [hwn, Ne.symm hu]⟩ ⟨by simp [hnot], fun _ _ => .rfl⟩
            (fun _ => hre rfl) hI.nodup
        | false =>
          rw [step_acq_r hT hn hc]
          exact hI.upd t _ _ _ _ _ hw' ⟨by simp [hwn], fun _ _ => .rfl⟩ ⟨by simp, fun u hu => by simp [hu]⟩
            (fun h => by rw [hwn] at h; cases h) (List.nodup_cons.2 ⟨hnot, hI.nodup⟩)
    | rel =>
      obtain ⟨hm, hw'⟩ := wf_cons hw
      obtain ⟨b, hb⟩ := Option.isSome_iff_exists.1 hm
      have hnot : t ∈ F.readers ↔ b = false := by rw [hI.rds t, hb]; simp
      cases b with
      | true =>
        rw [step_rel_w hT hb]
        exact hI.upd t _ _ _ _ _ hw' ⟨by simp, fun u hu => by simp [(hI.wr t).2 hb, Ne.symm hu]⟩
          ⟨by simpa using hnot, fun _ _ => .rfl⟩ (fun h => nomatch h) hI.nodup
      | false =>
        rw [step_rel_r hT hb]
        exact hI.upd t _ _ _ _ _ hw' ⟨by simp [hI.writer_none hb], fun _ _ => .rfl⟩
          ⟨by simp [hI.nodup.mem_erase_iff], fun u hu => by rw [List.mem_erase_of_ne hu]⟩
          (fun h => by rw [hI.writer_none hb] at h; cases h) (hI.nodup.erase t)
    | _ => exact absurd rfl hs

/-! ### One scheduling decision preserves the simulation -/

theorem isLin_nil {F : Config} {t : Tid} (h : (F.th t).todo = []) : isLin F t = false := by
  unfold isLin; simp only [h]; cases (F.th t).mode <;> rfl

theorem isLin_inside {F : Config} {t : Tid} {b : Bool} (h : (F.th t).mode = some b) : isLin F t = false := by
  unfold isLin; simp only [h]

theorem stepA_data {A : Config} {t : Tid} {s : Step} {rest : List Step} (hT : (A.th t).todo = s :: rest)
    (hn : (A.th t).mode = none) (hs : s.isData = true) (hw : wf none (s :: rest) = true) :
    isLin A t = true ∧
    stepA A t = { A with aux := (finish A.mem A.aux (A.th t).log [s]).aux, th := upd A.th t { A.th t with todo := rest } } := by
  cases s with
  | acq | rel => cases hs
  | rd | wr => cases hw
  | _ => simp only [isLin, stepA, hT, hn, finish, and_self]

theorem stepA_acq {A : Config} {t : Tid} {w : Bool} {rest : List Step} (hT : (A.th t).todo = .acq w :: rest)
    (hn : (A.th t).mode = none) (hc : canAcq A w = true) :
    stepA A t =
      let r := finish A.mem A.aux (A.th t).log rest
      { A with mem := r.mem, aux := r.aux, th := upd A.th t { todo := r.todo, log := r.log, mode := none } } := by
  simp only [stepA, hT, hn, hc, if_true]

/-- `Completes` is kept by a data step of a thread inside its section: run to its end the section computes what it did
before (`hkey`), and a reader does not change memory (`hmem`) -/
theorem completes_inside {F A : Config} (hI : LockInv F) (hC : Completes F A) (t : Tid) (b : Bool) (T' : Thread)
    (mem' aux' : Cell → Val) (hb : (F.th t).mode = some b) (hm' : T'.mode = some b)
    (hkey : (finish mem' aux' T'.log T'.todo).same (finish F.mem F.aux (F.th t).log (F.th t).todo))
    (hmem : b = false → mem' = F.mem) :
    Completes { F with mem := mem', aux := aux', th := upd F.th t T' } A where
  mem := by
    have h := hC.mem
    cases hw : F.writer with
    | none =>
      have hbf : b = false := by
        cases b with
        | false => rfl
        | true => rw [(hI.wr t).2 hb] at hw; cases hw
      simp only [hw] at h ⊢; rw [h, hmem hbf]
    | some u =>
      have hu : u = t := (hI.alone hw hb).symm
      subst hu
      simp only [hw, upd_same] at h ⊢
      rw [h]; exact hkey.1.symm
  th := by
    intro u
    have h := hC.th u
    by_cases hu : u = t
    · subst hu
      simp only [hb] at h
      simp only [upd_same, hm']
      exact hkey.th h
    · simp only [upd_other _ _ hu]
      cases hmu : (F.th u).mode with
      | none => simpa [hmu] using h
      | some c =>
        -- `t` is not the writer, so it has not changed memory
        have hbf : b = false := by
          cases b with
          | false => rfl
          | true => exact absurd (hI.alone ((hI.wr t).2 hb) hmu) hu
        simp only [hmu] at h ⊢
        rw [hmem hbf]
        exact (finish_aux F.mem aux' F.aux _ _).th h
  idle := hC.idle

/-- `Completes` is kept by a data step outside every section, which both runs take alike (it can write `aux` only).
`mem := F.mem` is spelled out so that the term is the one `step_data` leaves after `rw [data_mem]` in `completes_step`. -/
theorem completes_outside {F A : Config} (hI : LockInv F) (hC : Completes F A) (t : Tid) (T' : Thread)
    (auxF auxA : Cell → Val) (hn : (F.th t).mode = none) (hm' : T'.mode = none) :
    Completes { F with mem := F.mem, aux := auxF, th := upd F.th t T' }
              { A with aux := auxA, th := upd A.th t T' } where
  mem := by
    have h := hC.mem
    cases hw : F.writer with
    | none => simpa [hw] using h
    | some u =>
      have hu : u ≠ t := by
        intro e; subst e; have := (hI.wr u).1 hw; rw [hn] at this; cases this
      simp only [hw, upd_other _ _ hu] at h ⊢
      rw [h]; exact (finish_aux _ _ _ _ _).1
  th := by
    intro u
    by_cases hu : u = t
    · subst hu; simp only [upd_same, hm']
    · have h := hC.th u
      simp only [upd_other _ _ hu]
      cases hmu : (F.th u).mode with
      | none => simpa [hmu] using h
      | some c =>
        simp only [hmu] at h ⊢
        exact (finish_aux F.mem auxF F.aux _ _).th h
  idle := hC.idle

theorem completes_step {F A : Config} (hI : LockInv F) (hC : Completes F A) (t : Tid) :
    Completes (step F t) (if isLin F t then stepA A t else A) := by
  have hw := hI.wf t
  have hCt := hC.th t
  cases hT : (F.th t).todo with
  | nil => rw [step_nil hT, isLin_nil hT]; exact hC
  | cons s rest =>
    rw [hT] at hw
    by_cases hs : s.isData = true
    · rw [step_data hT hs]
      cases hm : (F.th t).mode with
      | none =>
        rw [hm] at hw hCt
        have hA : A.th t = F.th t := hCt
        obtain ⟨hl, hsA⟩ := stepA_data (hA ▸ hT) (hA ▸ hm) hs hw
        have hlF : isLin F t = true := (stepA_data hT hm hs hw).1
        rw [hlF, if_pos rfl, hsA, hA, data_mem hs hw (by simp), data_log hs hw]
        exact completes_outside hI hC t _ _ _ hm hm
      | some b =>
        rw [hm] at hw
        rw [isLin_inside hm]
        refine completes_inside hI hC t b _ _ _ hm hm ?_ fun hb => data_mem hs hw (by simp [hb]) ..
        rw [hT, finish_data hs F.mem F.aux (F.th t).log rest]
        exact ⟨rfl, rfl, rfl⟩
    cases s with
    | acq w =>
      obtain ⟨hn, hw'⟩ := wf_cons hw
      rw [hn] at hCt
      have hA : A.th t = F.th t := hCt
      have hlin : isLin F t = canAcq F w := by simp only [isLin, hT, hn]
      rw [hlin]
      cases hc : canAcq F w with
      | false => rw [step_blocked hT hc]; exact hC
      | true =>
        have hwn := (canAcq_true hc).1
        have hmemA : A.mem = F.mem := by have := hC.mem; rwa [hwn] at this
        have hcA : canAcq A w = true := by simp [canAcq, hC.idle.1, hC.idle.2]
        have hfa := finish_aux F.mem A.aux F.aux (F.th t).log rest
        rw [if_pos rfl, stepA_acq (hA ▸ hT) (hA ▸ hn) hcA, hA, hmemA, step_acq hT hn hc]
        refine ⟨?_, fun u => ?_, hC.idle⟩
        · cases w with
          | true => simp only [if_true, upd_same]; exact hfa.1
          | false => simp only [Bool.false_eq_true, if_false, hwn]; exact finish_mem_shared _ _ _ _ hw'
        · by_cases hu : u = t
          · subst hu; simp only [upd_same]; exact ⟨hfa.2.2, hfa.2.1, trivial⟩
          · simpa only [upd_other _ _ hu] using hC.th u
    | rel =>
      obtain ⟨hm, hw'⟩ := wf_cons hw
      obtain ⟨b, hb⟩ := Option.isSome_iff_exists.1 hm
      simp only [hb, hT, finish] at hCt
      have hmem := hC.mem
      rw [isLin_inside hb, if_neg Bool.false_ne_true]
      have hAm : A.mem = F.mem := by
        cases b with
        | true => simpa only [(hI.wr t).2 hb, hT, finish] using hmem
        | false => simpa only [hI.writer_none hb] using hmem
      have hAt : A.th t = { F.th t with todo := rest, mode := none } := Thread.ext' hCt.1 hCt.2.1 hCt.2.2
      have hW : (if b then none else F.writer) = none := by
        cases b with
        | true => rfl
        | false => exact hI.writer_none hb
      rw [step_rel hT hb]
      refine ⟨by simp only [hW]; exact hAm, fun u => ?_, hC.idle⟩
      by_cases hu : u = t
      · subst hu; simpa using hAt
      · simpa only [upd_other _ _ hu] using hC.th u
    | _ => exact absurd rfl hs

/-- **Simulation**, by induction over the schedule: the fine-grained run with its open sections completed is
the sequential run of whole sections in lock-acquisition order. -/
theorem sim {F A : Config} (hI : LockInv F) (hC : Completes F A) (σ : List Tid) :
    LockInv (exec F σ) ∧ Completes (exec F σ) (execA A (linOrder F σ)) := by
  induction σ generalizing F A with
  | nil => exact ⟨hI, hC⟩
  | cons t σ ih =>
    have := ih (lockInv_step hI t) (completes_step hI hC t)
    rw [linOrder]
    cases hl : isLin F t <;> simpa [hl, exec, execA] using this

/-- the order is built left to right: what was acquired during a prefix of the schedule precedes whatever
is acquired afterwards (so a section that ended before another began comes first) -/
theorem linOrder_append (C : Config) (σ₁ σ₂ : List Tid) :
    linOrder C (σ₁ ++ σ₂) = linOrder C σ₁ ++ linOrder (exec C σ₁) σ₂ := by
  induction σ₁ generalizing C with
  | nil => rfl
  | cons t σ ih =>
    simp only [List.cons_append, linOrder, exec, List.foldl_cons]
    cases isLin C t <;> simp [ih, exec]

theorem linOrder_sublist (C : Config) (σ : List Tid) : (linOrder C σ).Sublist σ := by
  induction σ generalizing C with
  | nil => exact .slnil
  | cons t σ ih =>
    rw [linOrder]
    cases isLin C t with
    | true => exact (ih (step C t)).cons_cons t
    | false => exact (ih (step C t)).cons t

theorem completes_quiescent {F A : Config} (hI : LockInv F) (hC : Completes F A) (hq : Quiescent F) :
    A.mem = F.mem ∧ ∀ t, A.th t = F.th t := by
  have hwn : F.writer = none := by
    cases hw : F.writer with
    | none => rfl
    | some u => have := (hI.wr u).1 hw; rw [hq u] at this; cases this
  refine ⟨by simpa [hwn] using hC.mem, fun t => ?_⟩
  simpa [hq t] using hC.th t

/-! ### The sequential semantics really is "one thread runs alone for a whole section" -/

/-- number of scheduling decisions a section body (after its `acq`) takes up to and including `rel` -/
def bodyLen : List Step → Nat
  | [] => 0
  | .rel :: _ => 1
  | .acq _ :: _ => 0
  | _ :: r => bodyLen r + 1

theorem exec_section (C : Config) (t : Tid) (b : Bool) (hm : (C.th t).mode = some b)
    (hw : wf (some b) (C.th t).todo = true) :
    exec C (List.replicate (bodyLen (C.th t).todo) t) =
      let r := finish C.mem C.aux (C.th t).log (C.th t).todo
      { C with mem := r.mem, aux := r.aux, writer := if b then none else C.writer,
               readers := if b then C.readers else C.readers.erase t,
               th := upd C.th t { todo := r.todo, log := r.log, mode := none } } := by
  generalize hl : (C.th t).todo = l at hw
  induction l generalizing C with
  | nil => cases hw
  | cons s rest ih =>
    by_cases hs : s.isData = true
    · have hlen : bodyLen (s :: rest) = bodyLen rest + 1 := by
        cases s with
        | acq | rel => cases hs
        | _ => rfl
      have e := step_data hl hs
      rw [hlen, List.replicate_succ, exec, List.foldl_cons]
      show exec (step C t) _ = _
      rw [ih (step C t) (by rw [e]; simpa using hm) (by rw [e]; simp) (wf_data hs hw), e]
      simp only [upd_same, upd_upd, finish_data hs C.mem C.aux (C.th t).log rest]
    cases s with
    | acq => cases hw
    | rel => simp [bodyLen, exec, step_rel hl hm, finish]
    | _ => exact absurd rfl hs

/-! ### Programs made of table rows -/

theorem wf_append (m : Option Bool) (a b : List Step) (ha : wf m a = true) (hb : wf none b = true) :
    wf m (a ++ b) = true := by
  induction a generalizing m with
  | nil => cases m with
    | none => exact hb
    | some _ => cases ha
  | cons s r ih => cases s <;> rcases m with _ | _ | _ <;> first | cases ha | exact ih _ ha

theorem wf_flatten (l : List (List Step)) (h : ∀ p ∈ l, wf none p = true) : wf none l.flatten = true := by
  induction l with
  | nil => rfl
  | cons p r ih =>
    exact wf_append none p _ (h p List.mem_cons_self) (ih fun q hq => h q (List.mem_cons_of_mem _ hq))

theorem wf_io (m : Option Bool) (r : List Step) : wf m (.io :: r) = wf m r := by
  cases m <;> rfl

theorem wf_inst (I : Interp) (drop : List Field) (m : Option Bool) (l : List Acc) (h : wfAcc drop m l = true) :
    wf m (l.map (inst I drop)) = true := by
  induction l generalizing m with
  | nil => cases m with
    | none => rfl
    | some _ => cases h
  | cons a r ih =>
    cases a with
    | lock w => cases m with
      | none => exact ih _ h
      | some _ => cases h
    | unlock w => cases m with
      | none => cases h
      | some b => exact ih _ (Bool.and_eq_true_iff.1 h).2
    | rd f =>
      have h : (drop.contains f || m.isSome) = true ∧ wfAcc drop m r = true := by
        cases m <;> exact Bool.and_eq_true_iff.1 h
      simp only [List.map_cons, inst]
      split
      · rw [wf_io]; exact ih _ h.2
      · next hd =>
        cases m with
        | none => rw [Bool.or_eq_true] at h; exact absurd (h.1.resolve_right (by simp)) hd
        | some b => exact ih _ h.2
    | wr f =>
      have h : (drop.contains f || m == some true) = true ∧ wfAcc drop m r = true := by
        cases m <;> exact Bool.and_eq_true_iff.1 h
      simp only [List.map_cons, inst]
      split
      · rw [wf_io]; exact ih _ h.2
      · next hd =>
        rw [Bool.or_eq_true] at h
        obtain rfl : m = some true := eq_of_beq (h.1.resolve_left hd)
        exact ih _ h.2
    | call c => cases m <;> cases h
    | _ => cases m <;> exact ih _ h

/-! ### Single writer per id: final memory and storage are determined by the writer's program alone -/

structure OwnInv (owner : Tid) (cm cs : Cell) (M S : Val) (C : Config) : Prop where
  others : ∀ t, t ≠ owner → noWr cm cs (C.th t).todo = true
  const : constWr cm cs (C.th owner).todo
  pm : pendM cm (C.th owner).todo (C.mem cm) = M
  ps : pendS cs (C.th owner).todo (C.aux cs) = S

theorem step_cases (C : Config) (t : Tid) :
    step C t = C ∨
    ∃ s rest, (C.th t).todo = s :: rest ∧ ((step C t).th t).todo = rest ∧
      (∀ u, u ≠ t → (step C t).th u = C.th u) ∧
      (step C t).mem = (finish C.mem C.aux (C.th t).log [s]).mem ∧
      (step C t).aux = (finish C.mem C.aux (C.th t).log [s]).aux := by
  cases hT : (C.th t).todo with
  | nil => exact .inl (step_nil hT)
  | cons s rest =>
    by_cases hs : s.isData = true
    · refine .inr ⟨s, rest, rfl, ?_⟩
      rw [step_data hT hs]
      exact ⟨by simp, fun u hu => upd_other _ _ hu, rfl, rfl⟩
    cases s with
    | acq w =>
      by_cases hc : ((C.th t).mode.isNone && canAcq C w) = true
      · rw [Bool.and_eq_true, Option.isNone_iff_eq_none] at hc
        refine .inr ⟨_, rest, rfl, ?_⟩
        rw [step_acq hT hc.1 hc.2]
        exact ⟨by simp, fun u hu => upd_other _ _ hu, rfl, rfl⟩
      · exact .inl (by simp [step, hT, hc])
    | rel =>
      cases hm : (C.th t).mode with
      | none => exact .inl (by simp [step, hT, hm])
      | some b =>
        refine .inr ⟨_, rest, rfl, ?_⟩
        rw [step_rel hT hm]
        exact ⟨by simp, fun u hu => upd_other _ _ hu, rfl, rfl⟩
    | _ => exact absurd rfl hs

theorem pend_step {cm cs : Cell} {s : Step} {rest : List Step} (h : constWr cm cs (s :: rest))
    (mem aux : Cell → Val) (log : List Val) :
    constWr cm cs rest ∧
    pendM cm rest ((finish mem aux log [s]).mem cm) = pendM cm (s :: rest) (mem cm) ∧
    pendS cs rest ((finish mem aux log [s]).aux cs) = pendS cs (s :: rest) (aux cs) := by
  cases s with
  | wr c f =>
    refine ⟨h.2, ?_, rfl⟩
    by_cases hc : c = cm
    · subst hc; simp [finish, pendM, h.1 rfl log]
    · simp [finish, pendM, hc, upd_other _ _ (Ne.symm hc)]
  | uwr c f =>
    refine ⟨h.2, rfl, ?_⟩
    by_cases hc : c = cs
    · subst hc; simp [finish, pendS, h.1 rfl log]
    · simp [finish, pendS, hc, upd_other _ _ (Ne.symm hc)]
  | _ => exact ⟨h, rfl, rfl⟩

theorem noWr_step {cm cs : Cell} {s : Step} {rest : List Step} (h : noWr cm cs (s :: rest) = true)
    (mem aux : Cell → Val) (log : List Val) :
    noWr cm cs rest = true ∧ (finish mem aux log [s]).mem cm = mem cm ∧ (finish mem aux log [s]).aux cs = aux cs := by
  cases s with
  | wr c f =>
    obtain ⟨hc, h⟩ := Bool.and_eq_true_iff.1 h
    exact ⟨h, upd_other _ _ (Ne.symm (bne_iff_ne.1 hc)), rfl⟩
  | uwr c f =>
    obtain ⟨hc, h⟩ := Bool.and_eq_true_iff.1 h
    exact ⟨h, rfl, upd_other _ _ (Ne.symm (bne_iff_ne.1 hc))⟩
  | _ => exact ⟨h, rfl, rfl⟩

theorem ownInv_step {owner : Tid} {cm cs : Cell} {M S : Val} {C : Config} (h : OwnInv owner cm cs M S C) (t : Tid) :
    OwnInv owner cm cs M S (step C t) := by
  rcases step_cases C t with he | ⟨s, rest, hT, hrest, hoth, hmem, haux⟩
  · rw [he]; exact h
  · by_cases ht : t = owner
    · subst ht
      obtain ⟨h1, h2, h3⟩ := pend_step (hT ▸ h.const) C.mem C.aux (C.th t).log
      refine ⟨fun u hu => hoth u hu ▸ h.others u hu, hrest ▸ h1, ?_, ?_⟩
      · rw [hrest, hmem, h2, ← hT]; exact h.pm
      · rw [hrest, haux, h3, ← hT]; exact h.ps
    · obtain ⟨h1, h2, h3⟩ := noWr_step (hT ▸ h.others t ht) C.mem C.aux (C.th t).log
      have ho := hoth owner (Ne.symm ht)
      refine ⟨fun u hu => ?_, ho ▸ h.const, ?_, ?_⟩
      · by_cases hut : u = t
        · subst hut; rw [hrest]; exact h1
        · rw [hoth u hut]; exact h.others u hu
      · rw [ho, hmem, h2]; exact h.pm
      · rw [ho, haux, h3]; exact h.ps

end Conc
