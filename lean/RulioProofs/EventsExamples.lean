import RulioProofs.Events
import RulioProofs.QueryExamples

/-! # Concrete instances for C04, used by the `example`s of `Props/C04.lean`: the matcher is run by the kernel
(`matchJ_of_eval`, `exSrch_eval`), the rest goes through the lemmas of `Events.lean` and `simp` -/

open QueryProofs EventsProofs QueryEx

namespace EventsEx
open QSpec

/-- event `{"a":[1,2]}` -/
def exEv : Obj := [("a", .arr [.num 1, .num 2])]
/-- `when` pattern `{"a":["?x"]}`: an array pattern with a variable — one binding per array element -/
def exWhen : Obj := [("a", .arr [.str "?x"])]
/-- condition `{"pattern":{"a":"?y"}}`: two bindings over `QueryEx.exFacts` -/
def exCondJ : J := .obj [("pattern", .obj [("a", .str "?y")])]
/-- an action that returns its visible variables -/
def aEcho : J := .obj [("verif_tmpl", .obj [("t", .str "echo")])]
/-- an action that fails -/
def aThrow : J := .obj [("verif_tmpl", .obj [("t", .str "throw")])]
/-- the rule: 2 `when` bindings × 2 condition bindings × 2 actions (one failing), not serial -/
def exR : RuleM := { when? := some exWhen, schedule := "", condition := some exCondJ, actions := [aEcho, aThrow],
                     serial := false, raw := [] }
/-- the same rule with `serialActions` -/
def exRs : RuleM := { exR with serial := true }
/-- a rule whose `when` `{"z":1}` does not match the event -/
def exRz : RuleM := { exR with when? := some [("z", .num 1)] }
/-- candidates: a disabled copy, the rule, a non-matching rule -/
def exCands : List (String × RuleM × Bool) := [("r0", exR, false), ("r1", exR, true), ("r2", exRz, true)]

def w1 : Bs := [("?x", .num 1)]
def w2 : Bs := [("?x", .num 2)]

theorem ex_when : whenBindings exEv exR = .ok [w1, w2] := by
  have e : matchJ (.obj exWhen) (.obj exEv) [] = .ok [w1, w2] := matchJ_of_eval (by decide +kernel)
  simp only [whenBindings, exR, matchesJ, e]

theorem ex_when_z : whenBindings exEv exRz = .ok [] := by
  have e : matchJ (.obj [("z", .num 1)]) (.obj exEv) [] = .ok [] := matchJ_of_eval (by decide +kernel)
  simp only [whenBindings, exRz, exR, matchesJ, e]

theorem ex_dispatch : dispatch exEv exCands = .ok [("r1", exR, [w1, w2])] := by
  have h0 : dispatchOne exEv ("r0", exR, false) = .ok none := dispatchOne_disabled _ _ _
  have h1 : dispatchOne exEv ("r1", exR, true) = .ok (some ("r1", exR, [w1, w2])) :=
    dispatchOne_match _ _ _ _ ex_when (by simp)
  have h2 : dispatchOne exEv ("r2", exRz, true) = .ok none := dispatchOne_nomatch _ _ _ _ ex_when_z
  rw [exCands, dispatch_cons, h0, dispatch_cons, h1, dispatch_cons, h2, dispatch_nil]
  rfl

def y1 : Bs := [("?y", .num 1)]
def y2 : Bs := [("?y", .num 2)]

attribute [local instance] J.decEq in
theorem srch_a_qy : exSrch [("a", .str "?y")] = .ok [y1, y2] := (exSrch_eval _).trans (by decide +kernel)

theorem ex_parse : parseQuery (4 * sz exCondJ + 4) exCondJ = .ok (.pattern [("a", .str "?y")] []) := by
  rfl

theorem env_no_y (id : String) (w : Bs) (hw : w = w1 ∨ w = w2) : Bs.get? (condEnv "loc" exEv id w) "?y" = none := by
  rw [condEnv_get]
  rcases hw with rfl | rfl <;> simp [w1, w2, Bs.get?]

/-- the condition's result on that environment: `?y` bound to 1 and to 2 -/
def exOut (env : Bs) : List Bs := [("?y", .num 1) :: env, ("?y", .num 2) :: env]

theorem ex_cond (r : RuleM) (hr : r.condition = some exCondJ) (id : String) (w : Bs) (hw : w = w1 ∨ w = w2) :
    condResult exSrch r (condEnv "loc" exEv id w) = .ok (exOut (condEnv "loc" exEv id w)) := by
  have hy := env_no_y id w hw
  unfold condResult
  rw [hr]
  simp only []
  rw [bind_of_ok _ _ _ ex_parse]
  have hs : substO (condEnv "loc" exEv id w) [("a", .str "?y")] = [("a", .str "?y")] := by
    simp [substO, subst, isVar_qy, hy]
  rw [exec_pattern_one exSrch _ [] _ _ (hs ▸ srch_a_qy)]
  simp [exOut, y1, y2, extendBs, Bs.set, filter_ne_of_get?_none _ _ hy]

theorem echo_isEcho : isEcho aEcho := ⟨_, _, rfl, rfl, rfl⟩

theorem throw_fails (b : Bs) : execAction aThrow b = .error "script" := by
  rw [aThrow, execAction_obj]
  exact evalTmpl_throw _ _ rfl

theorem ex_pairs (r : RuleM) (hr : r.actions = [aEcho, aThrow]) (env : Bs) :
    pairsOf r (exOut env) =
      [(("?y", .num 1) :: env, aEcho), (("?y", .num 1) :: env, aThrow),
       (("?y", .num 2) :: env, aEcho), (("?y", .num 2) :: env, aThrow)] := by
  simp [pairsOf, exOut, hr]

theorem ex_acts (r : RuleM) (hr : r.actions = [aEcho, aThrow]) (env : Bs) :
    actsOf r (exOut env) =
      [{ ok := true, value := .obj (stripQ (("?y", .num 1) :: env)) }, failedNode,
       { ok := true, value := .obj (stripQ (("?y", .num 2) :: env)) }, failedNode] := by
  rw [← map_pairsOf, ex_pairs r hr]
  simp only [List.map_cons, List.map_nil, actNodeOf_ok _ _ _ (execAction_echo aEcho _ echo_isEcho),
    actNodeOf_err _ _ _ (throw_fails _)]

theorem ex_evalCond (id : String) (w : Bs) (hw : w = w1 ∨ w = w2) :
    evalCond exSrch "loc" exEv id exR w =
      ({ bs := condEnv "loc" exEv id w, err := none, acts := actsOf exR (exOut (condEnv "loc" exEv id w)) },
        okValues (actsOf exR (exOut (condEnv "loc" exEv id w))), false) :=
  evalCond_nonserial _ _ _ _ _ _ _ (ex_cond exR rfl id w hw) rfl

theorem ex_not_aborted : (processEvent exSrch "loc" exEv exCands).aborted = false := by
  rw [processEvent_eq, ex_dispatch]
  simp only []
  rw [runUntil_not_aborted]
  intro d hd
  rw [List.mem_singleton] at hd; subst hd
  show (runUntil (evalCond exSrch "loc" exEv "r1" exR) [w1, w2]).2.2 = false
  rw [runUntil_not_aborted]
  intro w hw
  simp only [List.mem_cons, List.not_mem_nil, or_false] at hw
  rw [ex_evalCond "r1" w hw]

theorem ex_condOut (w : Bs) (hw : w = w1 ∨ w = w2) :
    condOut exSrch exR (condEnv "loc" exEv "r1" w) = exOut (condEnv "loc" exEv "r1" w) := by
  unfold condOut; rw [ex_cond exR rfl "r1" w hw]

/-- serial variant: the first failing action (second pair) ends everything -/
theorem ex_serial_evalCond :
    evalCond exSrch "loc" exEv "r1" exRs w1 =
      ({ bs := condEnv "loc" exEv "r1" w1, err := none,
         acts := [{ ok := true, value := .obj (stripQ (("?y", .num 1) :: condEnv "loc" exEv "r1" w1)) }, failedNode] },
        [.obj (stripQ (("?y", .num 1) :: condEnv "loc" exEv "r1" w1))], true) := by
  rw [evalCond_ok _ _ _ _ _ _ _ (ex_cond exRs rfl "r1" w1 (Or.inl rfl)), ex_pairs exRs rfl,
    show exRs.serial = true from rfl]
  have hok := condStep_ok true (execAction_echo aEcho (("?y", .num 1) :: condEnv "loc" exEv "r1" w1) echo_isEcho)
  have herr := condStep_err true (throw_fails (("?y", .num 1) :: condEnv "loc" exEv "r1" w1))
  have hs := runUntil_stops (condStep true) [(("?y", .num 1) :: condEnv "loc" exEv "r1" w1, aEcho)]
    [(("?y", .num 2) :: condEnv "loc" exEv "r1" w1, aEcho), (("?y", .num 2) :: condEnv "loc" exEv "r1" w1, aThrow)]
    (("?y", .num 1) :: condEnv "loc" exEv "r1" w1, aThrow)
    (by intro p hp; rw [List.mem_singleton] at hp; subst hp; rw [hok])
    (by rw [herr])
  simp only [List.cons_append, List.nil_append] at hs
  rw [hs]
  simp only [List.map_cons, List.map_nil, List.flatMap_cons, List.flatMap_nil, hok, herr]
  rfl

theorem ex_dispatch_s : dispatch exEv [("r1", exRs, true), ("r3", exR, true)] =
    .ok [("r1", exRs, [w1, w2]), ("r3", exR, [w1, w2])] := by
  rw [dispatch_cons, dispatchOne_match _ _ exRs _ ex_when (by simp), dispatch_cons,
    dispatchOne_match _ _ _ _ ex_when (by simp), dispatch_nil]
  rfl

/-- the serial rule's step: only the first `when` binding is evaluated, two leaves, abort -/
theorem ex_serial_ruleStep :
    ruleStep exSrch "loc" exEv ("r1", exRs, [w1, w2]) =
      ({ id := "r1", bss := [w1, w2], conds := [(evalCond exSrch "loc" exEv "r1" exRs w1).1] },
        [.obj (stripQ (("?y", .num 1) :: condEnv "loc" exEv "r1" w1))], true) := by
  unfold ruleStep
  simp only []
  rw [runUntil_cons_abort _ w1 [w2] (by rw [ex_serial_evalCond])]
  rw [ex_serial_evalCond]

theorem ex_env : condEnv "loc" exEv "r1" w1 =
    [("?x", .num 1), ("?event", .obj exEv), ("?location", .str "loc"), ("?ruleId", .str "r1")] := by
  simp [condEnv, addDefault, w1, Bs.get?]

theorem ex_strip : stripQ (("?y", .num 1) :: condEnv "loc" exEv "r1" w1) =
    [("y", .num 1), ("x", .num 1), ("event", .obj exEv), ("location", .str "loc"), ("ruleId", .str "r1")] := by
  rw [ex_env]
  exact stripQ_map_var [("y", .num 1), ("x", .num 1), ("event", .obj exEv), ("location", .str "loc"), ("ruleId", .str "r1")]

end EventsEx
