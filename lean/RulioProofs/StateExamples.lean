import RulioProofs.StateC08
import RulioModel.ComposeFrag
import RulioProofs.StateWF

/-! # Concrete state histories on which the hypotheses of the state theorems hold (non-vacuity)

Each history comes with one statement of the small facts its `example`s read off, so that the kernel runs the history
once per kind. -/

def searchOps : List StOp :=
  [StOp.rem "q" 0, StOp.add "a" [("deleteWith", J.arr [.str "b"]), ("n", .num 3)] 0, StOp.add "b" [("deleteWith", J.arr [.str "b", .str "zz"])] 0,
   StOp.add "" [("x", J.num 1)] 0, StOp.add "a" [("deleteWith", J.arr [.str "c"])] 0,
   StOp.add "p" [("!color", .str "red"), ("id", .str "b")] 0]

/-- the pattern `{"deleteWith":["?d","b"]}` (a variable next to a constant in an array) on the history `searchOps` -/
def searchPatVar : Obj := [("deleteWith", .arr [.str "?d", .str "b"])]

/-- after `searchOps` (a removal of an absent id, an overwrite, a generated id, a property fact), in either kind: nothing is
expired at 0, the stored ids, every stored fact is ground data, the history uses no id of the generated shape; and the
two patterns searched for are in their fragments -/
theorem searchOps_facts (k : Kind) :
    noneExpiredB (St.run { kind := k } searchOps) 0 = true ∧
    (St.run { kind := k } searchOps).facts.map (·.1) = ["a", "b", "fresh#0", "!b.color"] ∧
    (St.run { kind := k } searchOps).facts.all (fun e => dataOK (.obj e.2)) = true ∧
    searchOps.all StOp.userIdsB = true ∧
    (TermOK (depPat "b") = true ∧ isVar "b" = false) ∧
    (patOK (.obj searchPatVar) = true ∧ linearPattern searchPatVar = true) := by
  cases k <;> decide +kernel

/-- a fact `t` that expires at time 5, a dependent `u`, an unrelated `v` -/
def expiryOps : List StOp :=
  [StOp.add "t" [("expires", J.num 5), ("k", .num 1)] 0, StOp.add "u" [("deleteWith", J.arr [.str "t"])] 0,
   StOp.add "v" [("x", J.num 1)] 0]

/-- after `expiryOps`, at time 10, in either kind: `t` is expired and nothing else is, every stored rule can leave the
pattern index, and the specification of `Rem "t"` leaves `v` -/
theorem expiryOps_facts (k : Kind) :
    expiredB (St.run { kind := k } expiryOps) "t" 10 = true ∧
    noneExpiredButB (St.run { kind := k } expiryOps) "t" 10 = true ∧ unindexOKB (St.run { kind := k } expiryOps) = true ∧
    (specRem (St.run { kind := k } expiryOps).facts "t").map (·.1) = ["v"] := by
  cases k <;> decide +kernel
