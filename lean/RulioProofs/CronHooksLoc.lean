import RulioModel.CronHooksLoc

/-! helper lemmas about the hooked Location-level model (`RulioModel/CronHooksLoc.lean`): logging the side-effect deletions
touches neither the registry, nor the calls made to the cron, nor the location (what `simp [hRemCore, …]` needs in
`rem_unregisters_schedule` and `rem_of_missing_changes_no_registration`) -/

@[simp] theorem logGone_reg (cfg : CronCfg) (h : HS) (b : List (String × Obj)) (e : String) (now : Int) :
    (logGone cfg h b e now).reg = h.reg := by simp [logGone]
@[simp] theorem logGone_calls (cfg : CronCfg) (h : HS) (b : List (String × Obj)) (e : String) (now : Int) :
    (logGone cfg h b e now).calls = h.calls := by simp [logGone]
@[simp] theorem logGone_loc (cfg : CronCfg) (h : HS) (b : List (String × Obj)) (e : String) (now : Int) :
    (logGone cfg h b e now).loc = h.loc := by simp [logGone]
