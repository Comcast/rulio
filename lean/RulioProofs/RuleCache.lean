import RulioModel.RuleCache

/-! # The rule cache of a location (C12): a cached rule set is never stale

Writers invalidate, update the state, invalidate again; readers read the generation, the state, and fill the cache
only if the generation has not moved.  `Inv.set` re-establishes the invariant `Inv` after one thread's move, `inv_step`
goes through the moves. -/

namespace RuleCache

/-- `RuleCache.setNth` is the `setNth` of the cache model written again (the two models do not import each other) -/
theorem setNth_eq_set {α} (l : List α) (n : Nat) (x : α) : setNth l n x = l.set n x := by
  induction l generalizing n with
  | nil => rfl
  | cons a r ih => cases n with
    | zero => rfl
    | succ n => rw [setNth, ih, List.set_cons_succ]

theorem mem_setNth {α} {l : List α} {n : Nat} {x y : α} (h : y ∈ setNth l n x) : y = x ∨ y ∈ l := by
  rw [setNth_eq_set] at h
  exact (List.mem_or_eq_of_mem_set h).symm

theorem mem_setNth_other {α} {l : List α} {t : Nat} {old x y : α} (ht : l[t]? = some old) (hy : y ∈ l) (hne : y ≠ old) :
    y ∈ setNth l t x := by
  obtain ⟨i, hi⟩ := List.mem_iff_getElem?.1 hy
  have hti : t ≠ i := fun e => hne (Option.some.inj ((hi.symm.trans (e ▸ ht))))
  rw [setNth_eq_set]
  exact List.mem_of_getElem? ((List.getElem?_set_ne hti).trans hi)

theorem self_mem_setNth {α} {l : List α} {t : Nat} {old x : α} (ht : l[t]? = some old) : x ∈ setNth l t x := by
  rw [setNth_eq_set]
  exact List.mem_set (List.getElem?_eq_some_iff.1 ht).1 x

/-- the invariant: what a reader holds, and what the cache holds, is the state's version — unless a writer is between its
update and its second invalidation, or (for a reader) the generation has moved on since the reader read it -/
structure Inv (s : St) : Prop where
  r1 : ∀ g, PC.r1 g ∈ s.pcs → g ≤ s.gen
  r2 : ∀ g r, PC.r2 g r ∈ s.pcs → g ≤ s.gen ∧ (r = s.mem ∨ g < s.gen ∨ midWrite s)
  cache : ∀ c, s.cache = some c → c = s.mem ∨ midWrite s

/-- The invariant after thread `t` has moved to `pc'`, from what the move does to the stored version, the cache and the
generation: the generation does not go back; a reader arriving at `r1` / `r2` has read the current generation / version
(`hpc`); whatever was current or excused by a writer in mid-write (`hold`), and whatever is cached now, is current again,
or the generation has moved, or a writer is in mid-write. -/
theorem Inv.set {s : St} (h : Inv s) (t mem' : Nat) (cache' : Option Nat) (gen' : Nat) (pc' : PC)
    (hgen : s.gen ≤ gen')
    (hpc : match pc' with
      | .r1 g => g ≤ gen'
      | .r2 g r => g ≤ gen' ∧ r = mem'
      | _ => True)
    (hold : ∀ x, x = s.mem ∨ midWrite s → x = mem' ∨ s.gen < gen' ∨ PC.w2 ∈ setNth s.pcs t pc')
    (hcache : ∀ c, cache' = some c → c = mem' ∨ PC.w2 ∈ setNth s.pcs t pc') :
    Inv { mem := mem', cache := cache', gen := gen', pcs := setNth s.pcs t pc' } where
  r1 g hg := by
    rcases mem_setNth hg with e | e
    · subst e; exact hpc
    · exact Nat.le_trans (h.r1 g e) hgen
  r2 g r hg := by
    rcases mem_setNth hg with e | e
    · subst e; exact ⟨hpc.1, .inl hpc.2⟩
    · obtain ⟨h1, h2⟩ := h.r2 g r e
      refine ⟨Nat.le_trans h1 hgen, ?_⟩
      rcases h2 with h2 | h2 | h2
      · exact (hold r (.inl h2)).imp id (.imp (Nat.lt_of_le_of_lt h1) id)
      · exact .inr (.inl (Nat.lt_of_lt_of_le h2 hgen))
      · exact (hold r (.inr h2)).imp id (.imp (Nat.lt_of_le_of_lt h1) id)
  cache := hcache

theorem inv_step {s : St} (h : Inv s) (t : Nat) : Inv (step s t) := by
  unfold step
  cases ht : s.pcs[t]? with
  | none => exact h
  | some pc =>
    -- a reader changes neither the stored version nor the generation, and leaves the writers in mid-write where they are
    have reader : ∀ cache' pc', pc ≠ .w2 →
        (match pc' with
          | .r1 g => g ≤ s.gen
          | .r2 g r => g ≤ s.gen ∧ r = s.mem
          | _ => True) →
        (∀ c, cache' = some c → c = s.mem ∨ midWrite s) →
        Inv { s with cache := cache', pcs := setNth s.pcs t pc' } := fun cache' pc' hne hpc hc =>
      have keep : midWrite s → PC.w2 ∈ setNth s.pcs t pc' := fun hm => mem_setNth_other ht hm hne.symm
      h.set t _ _ _ _ (Nat.le_refl _) hpc (fun x hx => hx.imp id fun hm => .inr (keep hm)) (fun c e => (hc c e).imp id keep)
    cases pc with
    -- an invalidation empties the cache and advances the generation past every reader's
    | w0 _ | w2 =>
      exact h.set t _ _ _ _ (Nat.le_succ _) trivial (fun _ _ => .inr (.inl (Nat.lt_succ_self _))) (fun _ e => nomatch e)
    | w1 v =>
      have hw : PC.w2 ∈ setNth s.pcs t PC.w2 := self_mem_setNth ht
      exact h.set t v s.cache s.gen _ (Nat.le_refl _) trivial (fun _ _ => .inr (.inr hw)) (fun _ _ => .inr hw)
    | r0 => exact reader _ _ (fun e => nomatch e) (Nat.le_refl _) h.cache
    | r1 g0 => exact reader _ _ (fun e => nomatch e) ⟨h.r1 g0 (List.mem_of_getElem? ht), rfl⟩ h.cache
    | r2 g0 r0 =>
      have hr0 := (h.r2 g0 r0 (List.mem_of_getElem? ht)).2
      cases hc : s.cache with
      | some c => exact reader _ _ (fun e => nomatch e) trivial (hc ▸ h.cache)
      | none =>
        simp only
        split
        · next hgen =>
          -- the generation is the one read before the state was read: what was read is still stored
          refine reader _ _ (fun e => nomatch e) trivial fun c e => ?_
          cases e
          exact hr0.elim .inl fun h' => h'.elim (fun hlt => absurd hlt (hgen ▸ Nat.lt_irrefl _)) .inr
        · exact reader _ _ (fun e => nomatch e) trivial (hc ▸ h.cache)
    | done u => exact h

theorem inv_init (mem gen : Nat) (pcs : List PC) (hf : Fresh pcs) : Inv { mem := mem, cache := none, gen := gen, pcs := pcs } where
  r1 := by
    intro g hg
    rcases hf _ hg with ⟨v, e⟩ | e <;> cases e
  r2 := by
    intro g r hg
    rcases hf _ hg with ⟨v, e⟩ | e <;> cases e
  cache := by intro c hc; cases hc

end RuleCache
