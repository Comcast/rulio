import RulioProofs.SysNonint

open AM

/-! # On a quiet system a successful walk visits *every* transitive parent

At the end the executable test for quietness (`quietReadB_sound`) and the diamond system of Props/C09 run once
(`exDiamond_eval`). -/

theorem doAncestors_quiet {α} {now : Int} {fn : String → LM α} {sys : Sys} (hq : QuietWalk sys now fn) (wf : SysWF sys)
    (fuel : Nat) (n : String) (acc : List α) (path : List String) :
    (doAncestors fuel sys n now fn acc path).1 = sys := by
  apply doAncestors_inv (fun s => s = sys)
  · intro s m hs; subst hs; exact Sys.at_quiet wf m (hq.2 m)
  · intro s m hs; subst hs; exact Sys.at_quiet wf m (hq.1 m)
  · rfl

theorem walkList_cover {α} {sys : Sys} {now : Int} {step : Sys → String → List (String × α) → Sys × Except LErr (List (String × α))}
    {n : String}
    (hstep : ∀ p a, (step sys p a).1 = sys ∧ ∀ ls, (step sys p a).2 = .ok ls →
      (∃ more, ls = a ++ more) ∧ ∀ x, Anc sys now p x → x ∈ ls.map (·.1))
    (ps : List String) (acc ls : List (String × α)) (s' : Sys) (h : walkList step n sys ps acc = (s', .ok ls)) :
      (∃ more, ls = acc ++ more) ∧ ∀ p ∈ ps, ∀ x, Anc sys now p x → x ∈ ls.map (·.1) := by
  fun_induction walkList step n sys ps acc with
  | case1 => cases h; exact ⟨⟨[], by simp⟩, by intro p hp; cases hp⟩
  | case2 | case3 | case4 => cases h
  | case5 sys p rest acc _ _ _ s2 acc2 hs ih =>
    obtain ⟨hq, hout⟩ := hstep p acc
    rw [hs] at hq hout
    cases hq
    obtain ⟨⟨m1, hm1⟩, hc1⟩ := hout acc2 rfl
    obtain ⟨⟨m2, hm2⟩, hc2⟩ := ih hstep h
    refine ⟨⟨m1 ++ m2, by rw [hm2, hm1, List.append_assoc]⟩, ?_⟩
    intro q hq x hx
    rcases List.mem_cons.1 hq with rfl | hq'
    · rw [hm2, List.map_append]
      exact List.mem_append_left _ (hc1 x hx)
    · exact hc2 q hq' x hx

/-- **visits every ancestor** (quiet system): a successful tagged walk from `n` contains a value from `n` and from
each of its transitive declared parents -/
theorem doAncestors_cover {α} {now : Int} {fn : String → LM α} {sys : Sys} (hq : QuietWalk sys now fn) (wf : SysWF sys)
    (fuel : Nat) : ∀ (n : String) (acc : List (String × α)) (path : List String) (ls : List (String × α)),
      (doAncestors fuel sys n now (tagged fn) acc path).2 = .ok ls →
      (∃ more, ls = acc ++ more) ∧ ∀ x, Anc sys now n x → x ∈ ls.map (·.1) := by
  have hqt : QuietWalk sys now (tagged fn) := ⟨fun m l hg => by rw [tagged_fst]; exact hq.1 m l hg, hq.2⟩
  induction fuel with
  | zero => intro n acc path ls h; simp only [doAncestors] at h; cases h
  | succ fuel ih =>
    intro n acc path ls h
    rw [doAncestors_succ] at h
    split at h
    · cases h
    have hs1 := Sys.at_quiet wf n (hq.2 n)
    split at h
    · cases h
    next s1 ps h1 =>
    rw [h1] at hs1
    cases hs1
    have hpar : s1.parentsAt now n = some ps := Sys.parentsAt_eq_some.2 (Sys.at_ok_get? h1)
    split at h
    · cases h
    split at h
    · cases h
    next s2 acc2 hw =>
    obtain ⟨⟨m1, hm1⟩, hcov⟩ := walkList_cover (now := now) (n := n)
      (fun p a => ⟨doAncestors_quiet hqt wf fuel p a (n :: path), ih p a (n :: path)⟩) ps acc acc2 s2 hw
    split at h
    · cases h
    next s3 a hf =>
    cases h
    obtain ⟨l0, _, ha⟩ := Sys.at_ok_get? hf
    refine ⟨⟨m1 ++ [a], by rw [hm1, List.append_assoc]⟩, fun x hx => ?_⟩
    rw [List.map_append]
    cases hx with
    | refl => exact List.mem_append_right _ (by simp [tagged_ok ha])
    | step hp hanc =>
      obtain ⟨ps', hpa, hp⟩ := hp
      rw [hpar] at hpa
      cases hpa
      exact List.mem_append_left _ (hcov _ hp x hanc)

theorem quietReadB_sound {sys : Sys} {now : Int} (h : quietReadB sys now = true) :
    ∀ m l, sys.get? m = some l → (locGetParentsRaw now l).1 = l := by
  intro m l hg
  have hb := List.all_eq_true.1 h (m, l) (amGet_mem hg)
  have hf : LocP.FreshAt l.st "!.parents" now := fun f hf hc => by simp [hf, hc] at hb
  rw [locGetParentsRaw_run, St.get_eq_of_fresh hf]

/-- the diamond example system, run once in the kernel for both state kinds: `{d, b, c, a}` is parent-closed, the
parent lists of `d` and `b`, and no parent read changes anything -/
theorem exDiamond_eval (k : Kind) :
    closedB ["d", "b", "c", "a"] (exDiamond k) 3 = true ∧ (exDiamond k).parentsAt 3 "d" = some ["b", "c"] ∧
      (exDiamond k).parentsAt 3 "b" = some ["a"] ∧ quietReadB (exDiamond k) 3 = true := by
  cases k <;> decide +kernel
