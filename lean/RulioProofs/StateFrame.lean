import RulioProofs.StateScan
import RulioProofs.StateBasic
import RulioProofs.StateRi

/-! # What the two recursive groups of `State.lean` do to the state, for any fuel, with or without errors

The normal forms of the recursive equations; then the relation `St.Purge`: whatever `rem`, `search` and their loops
answer, all they do to the state is a finite sequence of single removals (`St.Del`): `St.ipurge`, `St.lpurge`. Every
fact of the form "this preorder / this invariant holds across them" is read off these two through `St.Purge.rel` or
`St.Purge.inv`. Two readings of a purge are proved here: `StLe` (what is left of memory, storage and the term index:
`St.Purge.le`) and `St.All P` (a property of every stored fact survives: `St.All.le`, `St.All.purge`). The operations of
the `State` interface and the third reading, `Shrinks`, are in StateAll. -/

/-- `s'` is `s` with some facts (and their storage/index entries) removed -/
structure StLe (s s' : St) : Prop where
  facts : s'.facts.Sublist s.facts
  store : s'.store.Sublist s.store
  kind : s'.kind = s.kind
  fresh : s'.fresh = s.fresh
  width : tiWidth s'.ti ≤ tiWidth s.ti
  tiok : TIOK s → TIOK s'
  tinodup : TINodup s → TINodup s'

theorem StLe.refl (s : St) : StLe s s :=
  ⟨List.Sublist.refl _, List.Sublist.refl _, rfl, rfl, Nat.le_refl _, id, id⟩

theorem StLe.trans {a b c : St} (h1 : StLe a b) (h2 : StLe b c) : StLe a c :=
  ⟨h2.facts.trans h1.facts, h2.store.trans h1.store, h2.kind.trans h1.kind, h2.fresh.trans h1.fresh,
   Nat.le_trans h2.width h1.width, fun h => h2.tiok (h1.tiok h), fun h => h2.tinodup (h1.tinodup h)⟩

theorem StLe.keys {s s' : St} (h : StLe s s') (hk : KeysNodup s) : KeysNodup s' :=
  hk.sublist (h.facts.map _)

theorem StLe.freshOK {s s' : St} (h : StLe s s') (hk : FreshOK s) : FreshOK s' := by
  intro e he n hn
  rw [h.fresh] at hn
  exact hk e (h.facts.subset he) n hn

theorem StLe.length_le {s s' : St} (h : StLe s s') : s'.facts.length ≤ s.facts.length := h.facts.length_le

/-- `P` holds of every stored fact: the form of `IdsOK`, `NoneExpired s now`, `NoneExpiredBut s i now`, `UnindexOK`,
`FactsOK`, `WhenFrag`, `RuleShapes`, `RulesValid`, `RuleMaps`, `AllCanon`, `AllIndexable`, `NoExp` -/
def St.All (P : String × Obj → Prop) (s : St) : Prop := ∀ e, e ∈ s.facts → P e

theorem St.All.congr {P : String × Obj → Prop} {s s' : St} (h : St.All P s) (hf : s'.facts = s.facts) : St.All P s' :=
  fun e he => h e (hf ▸ he)

theorem St.All.le {P : String × Obj → Prop} {s s' : St} (h : St.All P s) (hle : StLe s s') : St.All P s' :=
  fun e he => h e (hle.facts.subset he)

theorem St.All.imp {P Q : String × Obj → Prop} {s : St} (h : St.All P s) (hpq : ∀ e, P e → Q e) : St.All Q s :=
  fun e he => hpq e (h e he)

theorem St.All.of_all {P : String × Obj → Prop} {b : String × Obj → Bool} {s : St} (h : s.facts.all b = true)
    (hb : ∀ e, b e = true → P e) : St.All P s :=
  fun e he => hb e (List.all_eq_true.1 h e he)

/-- with the one fact that may lack `P` taken out, every fact has it (`NoneExpiredBut` once its root is removed) -/
theorem St.All.of_but {P : String × Obj → Prop} {s s' : St} {i : String} (h : St.All (fun e => e.1 ≠ i → P e) s)
    (hf : s'.facts = filterOut [i] s.facts) : St.All P s' := by
  intro e he
  rw [hf] at he
  obtain ⟨h1, h2⟩ := mem_filterOut.1 he
  exact h e h1 (by simpa using h2)

theorem WF.le {s s' : St} (h : WF s) (hle : StLe s s') : WF s' :=
  ⟨hle.keys h.keys, St.All.le h.ids hle, fun hk => hle.tiok (h.tiok (hle.kind ▸ hk)),
   fun hk => hle.tinodup (h.tinodup (hle.kind ▸ hk))⟩

/-! ## normal forms of the recursive equations -/

/-- the memory/storage part of `irem` -/
def St.idel (s1 : St) (id : String) (fact : Obj) : St :=
  { s1 with facts := amErase s1.facts id,
            ti := (extractTerms fact).foldl (fun ti t => TI.rem ti t id) s1.ti,
            store := amErase s1.store id }

theorem St.irem_zero (s : St) (id : String) (now : Int) : St.irem 0 s id now = (s, .error "fuel") := rfl
theorem St.ideps_zero (s : St) (id : String) (now : Int) : St.ideps 0 s id now = (s, .error "fuel") := rfl
theorem St.iremAll_zero (s : St) (ids : List String) (now : Int) : St.iremAll 0 s ids now = (s, .error "fuel") := rfl
theorem St.isearch_zero (s : St) (p : Obj) (now : Int) : St.isearch 0 s p now = (s, .error "fuel") := rfl
theorem St.isearchLoop_zero (s : St) (p : Obj) (ids : List String) (now : Int) (acc) :
    St.isearchLoop 0 s p ids now acc = (s, .error "fuel") := rfl

theorem St.irem_succ (f : Nat) (s : St) (id : String) (now : Int) :
    St.irem (f + 1) s id now =
      match amGet s.facts id with
      | some fact =>
        (match s.unindexOf id fact with
         | .error e => (s, .error e)
         | .ok s1 => ((St.ideps f (s1.idel id fact) id now).1, (St.ideps f (s1.idel id fact) id now).2.map (fun _ => true)))
      | none => ((St.ideps f s id now).1, (St.ideps f s id now).2.map (fun _ => false)) := by
  rw [St.irem.eq_2]
  cases hg : amGet s.facts id with
  | none =>
    simp only
    rcases St.ideps f s id now with ⟨s3, r | r⟩ <;> rfl
  | some fact =>
    show (match s.unindexOf id fact with
      | Except.error e => (s, Except.error e)
      | Except.ok s1 => (match St.ideps f (s1.idel id fact) id now with
        | (s3, Except.error e) => (s3, Except.error e)
        | (s3, Except.ok _) => (s3, Except.ok true))) = _
    simp only
    cases hu : s.unindexOf id fact with
    | error e => rfl
    | ok s1 =>
      simp only
      rcases hd : St.ideps f (s1.idel id fact) id now with ⟨s3, r | r⟩ <;> rfl

theorem St.ideps_succ (f : Nat) (s : St) (id : String) (now : Int) :
    St.ideps (f + 1) s id now =
      if isVar id then (s, .ok ()) else
      match (St.isearch f s (depPat id) now).2 with
      | .error e => ((St.isearch f s (depPat id) now).1, .error e)
      | .ok found => St.iremAll f (St.isearch f s (depPat id) now).1 (found.map (·.1)) now := by
  rw [St.ideps.eq_2]
  simp only [depPat]
  split
  · rfl
  · rcases St.isearch f s _ now with ⟨s3, r | r⟩ <;> rfl

theorem St.iremAll_nil (f : Nat) (s : St) (now : Int) : St.iremAll (f + 1) s [] now = (s, .ok ()) := rfl

theorem St.iremAll_cons (f : Nat) (s : St) (i : String) (rest : List String) (now : Int) :
    St.iremAll (f + 1) s (i :: rest) now =
      match (St.irem f s i now).2 with
      | .error e => ((St.irem f s i now).1, .error e)
      | .ok _ => St.iremAll f (St.irem f s i now).1 rest now := by
  rw [St.iremAll.eq_3]
  rcases St.irem f s i now with ⟨s3, r | r⟩ <;> rfl

/-- `SearchForIDs`: the candidate ids of a pattern, every stored id when the pattern has no term -/
def St.cands (s : St) (p : Obj) : Except LErr (List String) :=
  if (extractTerms p).isEmpty then .ok (s.facts.map (·.1)) else TI.search s.ti (extractTerms p)

theorem St.isearch_succ (f : Nat) (s : St) (p : Obj) (now : Int) :
    St.isearch (f + 1) s p now =
      match s.cands p with
      | .error e => (s, .error e)
      | .ok ids => St.isearchLoop f s p ids now [] := rfl

theorem St.isearchLoop_nil (f : Nat) (s : St) (p : Obj) (now : Int) (acc) :
    St.isearchLoop (f + 1) s p [] now acc = (s, .ok acc) := rfl

theorem St.isearchLoop_cons (f : Nat) (s : St) (p : Obj) (i : String) (rest : List String) (now : Int) (acc) :
    St.isearchLoop (f + 1) s p (i :: rest) now acc =
      match amGet s.facts i with
      | none => St.isearchLoop f s p rest now acc
      | some fact =>
        match checkExpiration fact now with
        | .ok true => St.isearchLoop f (St.irem f s i now).1 p rest now acc
        | _ => match matchesJ (.obj p) (.obj fact) with
          | .error e => (s, .error e)
          | .ok bss => St.isearchLoop f s p rest now (if bss.isEmpty then acc else acc ++ [(i, fact, bss)]) := by
  rw [St.isearchLoop.eq_3]
  cases hg : amGet s.facts i with
  | none => rfl
  | some fact =>
    simp only
    rcases checkExpiration fact now with e | b
    · rfl
    · cases b <;> rfl

/-! ## running `rem` over a list -/

/-- `remAll` runs `rem` over a list of ids, one unit of fuel per id, and stops at the first error:
the shape shared by `St.iremAll` and `St.lremAll`. -/
structure IsRemAll (rem : Nat → St → String → St × Except LErr Bool)
    (remAll : Nat → St → List String → St × Except LErr Unit) : Prop where
  zero : ∀ s L, remAll 0 s L = (s, .error "fuel")
  nil : ∀ f s, remAll (f + 1) s [] = (s, .ok ())
  cons : ∀ f s i rest, remAll (f + 1) s (i :: rest) =
    match (rem f s i).2 with
    | .error e => ((rem f s i).1, .error e)
    | .ok _ => remAll f (rem f s i).1 rest

theorem iremAll_isRemAll (now : Int) :
    IsRemAll (fun f s i => St.irem f s i now) (fun f s L => St.iremAll f s L now) :=
  ⟨fun s L => St.iremAll_zero s L now, fun f s => St.iremAll_nil f s now, fun f s i rest => St.iremAll_cons f s i rest now⟩

/-! ## frame of the indexed `rem`/`search` -/

theorem idel_le {s s1 : St} (h : SameButRi s s1) (id : String) (fact : Obj) : StLe s (s1.idel id fact) := by
  obtain ⟨hf, hs, ht, hk, hr⟩ := h
  refine ⟨?_, ?_, hk, hr, ?_, ?_, ?_⟩
  · simp only [St.idel, hf, amErase]; exact List.filter_sublist
  · simp only [St.idel, hs, amErase]; exact List.filter_sublist
  · simp only [St.idel, ht]; exact tiWidth_foldl_rem_le _ _ _
  · intro htiok id' fact' hmem t ht'
    simp only [St.idel, hf] at hmem
    rw [amErase_eq_filterOut] at hmem
    obtain ⟨hm1, hm2⟩ := mem_filterOut.1 hmem
    have hne : id' ≠ id := by simpa using hm2
    have := htiok id' fact' hm1 t ht'
    simp only [St.idel, ht]
    exact (TI.has_foldl_rem hne).2 this
  · intro hnd
    simp only [TINodup, St.idel, ht]
    exact TI.All.foldl_rem (P := List.Nodup) hnd _ _ fun _ hl => hl.erase _

theorem idel_facts {s s1 : St} (h : SameButRi s s1) (i : String) (fact : Obj) :
    (s1.idel i fact).facts = filterOut [i] s.facts := by
  simp only [St.idel, h.1, amErase_eq_filterOut]
theorem idel_store {s s1 : St} (h : SameButRi s s1) (i : String) (fact : Obj) :
    (s1.idel i fact).store = filterOut [i] s.store := by
  simp only [St.idel, h.2.1, amErase_eq_filterOut]

/-! ## linear state: normal forms and frame -/

/-- what `lrem` does first -/
def St.ldel (s : St) (id : String) : St :=
  { s with store := amErase s.store id, facts := amErase s.facts id }

theorem St.lrem_zero (s : St) (id : String) (now : Int) : St.lrem 0 s id now = (s, .error "fuel") := rfl
theorem St.lremAll_zero (s : St) (ids : List String) (now : Int) : St.lremAll 0 s ids now = (s, .error "fuel") := rfl
theorem St.lsearch_zero (s : St) (p : Obj) (now : Int) : St.lsearch 0 s p now = (s, .error "fuel") := rfl
theorem St.lsearchLoop_zero (s : St) (p : Obj) (ids : List String) (now : Int) (acc) :
    St.lsearchLoop 0 s p ids now acc = (s, .error "fuel") := rfl

theorem St.lrem_succ (f : Nat) (s : St) (id : String) (now : Int) :
    St.lrem (f + 1) s id now =
      if isVar id then (s.ldel id, .ok (amHas s.facts id)) else
      match (St.lsearch f (s.ldel id) (depPat id) now).2 with
      | .error e => ((St.lsearch f (s.ldel id) (depPat id) now).1, .error e)
      | .ok found =>
        ((St.lremAll f (St.lsearch f (s.ldel id) (depPat id) now).1 ((found.map (·.1)).filter (· != id)) now).1,
         (St.lremAll f (St.lsearch f (s.ldel id) (depPat id) now).1 ((found.map (·.1)).filter (· != id)) now).2.map
            (fun _ => amHas s.facts id)) := by
  rw [St.lrem.eq_2]
  simp only [depPat, St.ldel]
  split
  · rfl
  · rcases hs : St.lsearch f _ _ now with ⟨s2, r | found⟩
    · rfl
    · simp only
      rcases hr : St.lremAll f s2 _ now with ⟨s3, r | r⟩ <;> rfl

theorem St.lremAll_nil (f : Nat) (s : St) (now : Int) : St.lremAll (f + 1) s [] now = (s, .ok ()) := rfl

theorem St.lremAll_cons (f : Nat) (s : St) (i : String) (rest : List String) (now : Int) :
    St.lremAll (f + 1) s (i :: rest) now =
      match (St.lrem f s i now).2 with
      | .error e => ((St.lrem f s i now).1, .error e)
      | .ok _ => St.lremAll f (St.lrem f s i now).1 rest now := by
  rw [St.lremAll.eq_3]
  rcases St.lrem f s i now with ⟨s3, r | r⟩ <;> rfl

theorem St.lsearch_succ (f : Nat) (s : St) (p : Obj) (now : Int) :
    St.lsearch (f + 1) s p now = St.lsearchLoop f s p (s.facts.map (·.1)) now [] := rfl

theorem St.lsearchLoop_nil (f : Nat) (s : St) (p : Obj) (now : Int) (acc) :
    St.lsearchLoop (f + 1) s p [] now acc = (s, .ok acc) := rfl

theorem St.lsearchLoop_cons (f : Nat) (s : St) (p : Obj) (i : String) (rest : List String) (now : Int) (acc) :
    St.lsearchLoop (f + 1) s p (i :: rest) now acc =
      match amGet s.facts i with
      | none => St.lsearchLoop f s p rest now acc
      | some fact =>
        match checkExpiration fact now with
        | .error e => (s, .error e)
        | .ok true =>
          (match (St.lrem f s i now).2 with
           | .error e => ((St.lrem f s i now).1, .error e)
           | .ok _ => St.lsearchLoop f (St.lrem f s i now).1 p rest now acc)
        | .ok false =>
          match matchesJ (.obj p) (.obj fact) with
          | .error e => (s, .error e)
          | .ok bss => St.lsearchLoop f s p rest now (if bss.isEmpty then acc else acc ++ [(i, fact, bss)]) := by
  rw [St.lsearchLoop.eq_3]
  cases hg : amGet s.facts i with
  | none => rfl
  | some fact =>
    simp only
    rcases checkExpiration fact now with e | b
    · rfl
    · cases b
      · rfl
      · simp only
        rcases St.lrem f s i now with ⟨s3, r | r⟩ <;> rfl

theorem lremAll_isRemAll (now : Int) :
    IsRemAll (fun f s i => St.lrem f s i now) (fun f s L => St.lremAll f s L now) :=
  ⟨fun s L => St.lremAll_zero s L now, fun f s => St.lremAll_nil f s now, fun f s i rest => St.lremAll_cons f s i rest now⟩

theorem ldel_le (s : St) (id : String) : StLe s (s.ldel id) := by
  refine ⟨?_, ?_, rfl, rfl, Nat.le_refl _, ?_, fun h => h⟩
  · simp only [St.ldel, amErase]; exact List.filter_sublist
  · simp only [St.ldel, amErase]; exact List.filter_sublist
  · intro htiok id' fact' hmem t ht'
    simp only [St.ldel] at hmem
    rw [amErase_eq_filterOut] at hmem
    exact htiok id' fact' (mem_filterOut.1 hmem).1 t ht'

theorem ldel_facts (s : St) (i : String) : (s.ldel i).facts = filterOut [i] s.facts := by
  simp only [St.ldel, amErase_eq_filterOut]
theorem ldel_store (s : St) (i : String) : (s.ldel i).store = filterOut [i] s.store := by
  simp only [St.ldel, amErase_eq_filterOut]

/-! ## the relation: a finite sequence of single removals -/

/-- one removal. Indexed: the rule of the fact stored under `id` leaves the pattern index (`unindexOf`), then the
fact leaves memory, term index and storage (`idel`). Linear: `id` leaves memory and storage (`ldel`), stored or not. -/
inductive St.Del : Kind → St → St → Prop
  | indexed {s s1 : St} {id : String} {fact : Obj} :
      amGet s.facts id = some fact → s.unindexOf id fact = .ok s1 → St.Del .indexed s (s1.idel id fact)
  | linear (s : St) (id : String) : St.Del .linear s (s.ldel id)

/-- a finite sequence of removals: all that `rem`, `get`, `search` and `findRules` do to a state of kind `k`, whatever
they answer (`St.ipurge`, `St.lpurge`, `St.rem_purge` …) -/
inductive St.Purge (k : Kind) : St → St → Prop
  | refl (s : St) : St.Purge k s s
  | tail {a b c : St} : St.Purge k a b → St.Del k b c → St.Purge k a c

namespace St.Purge
variable {k : Kind}

theorem one {a b : St} (h : St.Del k a b) : St.Purge k a b := .tail (.refl a) h

theorem trans {a b c : St} (h1 : St.Purge k a b) (h2 : St.Purge k b c) : St.Purge k a c := by
  induction h2 with
  | refl => exact h1
  | tail _ hd ih => exact .tail ih hd

theorem rel {Q : St → St → Prop} (refl : ∀ s, Q s s) (trans : ∀ {a b c}, Q a b → Q b c → Q a c)
    (step : ∀ {a b}, St.Del k a b → Q a b) {s s' : St} (h : St.Purge k s s') : Q s s' := by
  induction h with
  | refl => exact refl _
  | tail _ hd ih => exact trans ih (step hd)

theorem inv {P : St → Prop} (step : ∀ {a b}, P a → St.Del k a b → P b) {s s' : St} (h : St.Purge k s s')
    (hs : P s) : P s' := by
  induction h with
  | refl => exact hs
  | tail _ hd ih => exact step ih hd

/-- the state a call reached, when the call is known by an equation -/
theorem of_eq {α} {s s1 : St} {x : St × α} {r : α} (h : St.Purge k s x.1) (heq : x = (s1, r)) : St.Purge k s s1 := by
  rw [heq] at h; exact h

end St.Purge

/-- what one removal does to the fields, whichever id went and why: the id is erased from facts and storage together;
the indexed state also changes its two indexes -/
theorem St.Del.shape {k : Kind} {a b : St} (h : St.Del k a b) :
    ∃ id ri ti, b = { a with facts := amErase a.facts id, store := amErase a.store id, ri := ri, ti := ti } ∧
      (k = .linear → ri = a.ri ∧ ti = a.ti) := by
  cases h with
  | linear _ id => exact ⟨id, _, _, rfl, fun _ => ⟨rfl, rfl⟩⟩
  | @indexed _ s1 id fact hg hu =>
    obtain ⟨hf, hs, ht, hk, hr⟩ := unindexOf_same hu
    refine ⟨id, s1.ri, (extractTerms fact).foldl (fun ti t => TI.rem ti t id) a.ti, ?_, nofun⟩
    obtain ⟨k1, f1, st1, ri1, ti1, fr1⟩ := s1
    simp only at hf hs ht hk hr
    subst hf hs ht hk hr
    rfl

theorem St.Del.le {k : Kind} {a b : St} (h : St.Del k a b) : StLe a b := by
  cases h with
  | linear _ id => exact ldel_le _ id
  | indexed hg hu => exact idel_le (unindexOf_same hu) _ _

theorem St.Purge.le {k : Kind} {s s' : St} (h : St.Purge k s s') : StLe s s' :=
  h.rel StLe.refl StLe.trans St.Del.le

theorem St.All.purge {P : String × Obj → Prop} {k : Kind} {s s' : St} (h : St.All P s) (hp : St.Purge k s s') :
    St.All P s' := h.le hp.le

/-! ## the two recursive groups purge -/

theorem St.ipurge (now : Int) : ∀ f : Nat,
    (∀ s id, St.Purge .indexed s (St.irem f s id now).1) ∧
    (∀ s id, St.Purge .indexed s (St.ideps f s id now).1) ∧
    (∀ s ids, St.Purge .indexed s (St.iremAll f s ids now).1) ∧
    (∀ s p, St.Purge .indexed s (St.isearch f s p now).1) ∧
    (∀ s p ids acc, St.Purge .indexed s (St.isearchLoop f s p ids now acc).1) := by
  intro f
  induction f with
  | zero => refine ⟨?_, ?_, ?_, ?_, ?_⟩ <;> intros <;> exact .refl _
  | succ f ih =>
    obtain ⟨ih1, ih2, ih3, ih4, ih5⟩ := ih
    refine ⟨?_, ?_, ?_, ?_, ?_⟩
    · intro s id
      rw [St.irem_succ]
      split
      · next fact hg =>
        split
        · exact .refl _
        · next s1 hu => exact (St.Purge.one (.indexed hg hu)).trans (ih2 _ _)
      · exact ih2 _ _
    · intro s id
      rw [St.ideps_succ]
      split
      · exact .refl _
      · split
        · exact ih4 _ _
        · exact (ih4 s _).trans (ih3 _ _)
    · intro s ids
      cases ids with
      | nil => exact .refl _
      | cons i rest =>
        rw [St.iremAll_cons]
        split
        · exact ih1 s i
        · exact (ih1 s i).trans (ih3 _ rest)
    · intro s p
      rw [St.isearch_succ]
      split
      · exact .refl _
      · exact ih5 _ _ _ _
    · intro s p ids acc
      simp only [isearchLoop_eq] at ih5 ⊢
      exact St.readLoop_rel_step .refl .trans ih1 (ih5 · p) s ids acc

theorem St.lpurge (now : Int) : ∀ f : Nat,
    (∀ s id, St.Purge .linear s (St.lrem f s id now).1) ∧
    (∀ s ids, St.Purge .linear s (St.lremAll f s ids now).1) ∧
    (∀ s p, St.Purge .linear s (St.lsearch f s p now).1) ∧
    (∀ s p ids acc, St.Purge .linear s (St.lsearchLoop f s p ids now acc).1) := by
  intro f
  induction f with
  | zero => refine ⟨?_, ?_, ?_, ?_⟩ <;> intros <;> exact .refl _
  | succ f ih =>
    obtain ⟨ih1, ih2, ih3, ih4⟩ := ih
    refine ⟨?_, ?_, fun s p => ih4 _ _ _ _, ?_⟩
    · intro s id
      have d : St.Purge .linear s (s.ldel id) := .one (.linear s id)
      rw [St.lrem_succ]
      split
      · exact d
      · split
        · exact d.trans (ih3 _ _)
        · exact (d.trans (ih3 _ _)).trans (ih2 _ _)
    · intro s ids
      cases ids with
      | nil => exact .refl _
      | cons i rest =>
        rw [St.lremAll_cons]
        split
        · exact ih1 s i
        · exact (ih1 s i).trans (ih2 _ rest)
    · intro s p ids acc
      simp only [lsearchLoop_eq] at ih4 ⊢
      exact St.readLoop_rel_step .refl .trans ih1 (ih4 · p) s ids acc

/-! The conjuncts that other modules use, by name. -/

theorem St.irem_purge (f : Nat) (s : St) (id : String) (now : Int) : St.Purge .indexed s (St.irem f s id now).1 :=
  (St.ipurge now f).1 s id
theorem St.ideps_purge (f : Nat) (s : St) (id : String) (now : Int) : St.Purge .indexed s (St.ideps f s id now).1 :=
  (St.ipurge now f).2.1 s id
theorem St.isearch_purge (f : Nat) (s : St) (p : Obj) (now : Int) : St.Purge .indexed s (St.isearch f s p now).1 :=
  (St.ipurge now f).2.2.2.1 s p
theorem St.lrem_purge (f : Nat) (s : St) (id : String) (now : Int) : St.Purge .linear s (St.lrem f s id now).1 :=
  (St.lpurge now f).1 s id
theorem St.lremAll_purge (f : Nat) (s : St) (ids : List String) (now : Int) :
    St.Purge .linear s (St.lremAll f s ids now).1 :=
  (St.lpurge now f).2.1 s ids
theorem St.lsearch_purge (f : Nat) (s : St) (p : Obj) (now : Int) : St.Purge .linear s (St.lsearch f s p now).1 :=
  (St.lpurge now f).2.2.1 s p
