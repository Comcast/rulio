import RulioModel.C13

/-! # C13 — the lock discipline of the wrapper model

Invariants of the wrapped location (`GoodSpec`) and what it means for a `KM` computation to keep one (`Sat`); every
combinator of `KM`, every Location operation and every history keeps every such invariant; the lock table of the Go
source, and the three invariants the property theorems instantiate. -/

namespace C13

/-! ## A small Hoare logic for `KM`: state invariants that the lock-aware calls maintain -/

/-- an invariant of the wrapped location, with what the calls need to know about it. Three combinations occur: `servingSpec`
(kept unless the operation panics), `poisonSpec` (`onPanic`: kept also after a panic, given a lock table that leaks nothing) and
`cleanSpec` (`onPanic`, `strict`: no State call panics, and the panics that remain are among `allowed`). -/
structure GoodSpec where
  P : KLoc → Prop
  /-- must the invariant also hold after an operation that panicked? -/
  onPanic : Bool
  /-- does the invariant exclude faults (then no State call panics)? -/
  strict : Bool
  /-- the panics that may still happen under a fault-excluding invariant -/
  allowed : PanicSite → Prop
  /-- a call started in the invariant is not blocked (`kCall` tests `blocked` first) -/
  free : ∀ k, P k → k.lock = .free
  /-- the invariant does not read the State's memory, which a method body may leave in any shape -/
  stable : ∀ k s, P k → P (withSt k s)
  /-- an invariant that admits panics and is to outlive them has to say itself that no method leaks its lock -/
  panicOK : onPanic = true → strict = false → ∀ k m, P k → leakIn k.locks k.loc.st.kind m = none
  /-- a fault-excluding invariant silences the fault oracle -/
  strictOK : strict = true → ∀ k, P k → ∀ m s, k.fault m s = none
  /-- for `leakNested`: a nested search that panics is a second run from `k`, ending in `k'`, and the location is left
  with that run's lock -/
  relock : ∀ k k', P k → P k' → P { k with lock := k'.lock, wwait := k'.wwait }

/-- what is asked of the outcome `x` of a call started in the invariant: it did not block, it panicked only at an
allowed site when the invariant excludes faults, and the invariant holds again (always, or unless it panicked) -/
def Post (S : GoodSpec) {α : Type} (x : KLoc × Res α) : Prop :=
  x.2.isHang = false ∧ (S.strict = true → ∀ s, x.2 = .panic s → S.allowed s) ∧
    ((x.2.isPanic = false ∨ S.onPanic = true) → S.P x.1)

def Sat (S : GoodSpec) {α : Type} (m : KM α) : Prop := ∀ k, S.P k → Post S (m k)

variable (S : GoodSpec)

theorem post_void {α} {k : KLoc} {r : Res α} : Post S (k, r.void) ↔ Post S (k, r) := by
  cases r <;> simp only [Post, Res.void, Res.isHang, Res.isPanic, Res.panic.injEq, reduceCtorEq]

theorem post_congr {α β} {k : KLoc} {r : Res α} {r' : Res β} (hp : Post S (k, r)) (h : r.void = r'.void := by rfl) :
    Post S (k, r') :=
  (post_void S).1 (h ▸ (post_void S).2 hp)

theorem post_plain {α} {k : KLoc} {r : Res α} (hk : S.P k) (h1 : r.isHang = false := by rfl) (h2 : r.isPanic = false := by rfl) :
    Post S (k, r) :=
  ⟨h1, fun _ s hs => (by rw [show r = .panic s from hs] at h2; cases h2), fun _ => hk⟩

theorem sat_pure {α} {a : α} : Sat S (pure a : KM α) := fun _ hk => post_plain S hk
theorem sat_fail {α} {e : LErr} : Sat S (KM.fail e : KM α) := fun _ hk => post_plain S hk
theorem sat_get : Sat S KM.get := fun _ hk => post_plain S hk

/-- an explicit panic outside every lock: fine for the lock; under a fault-excluding invariant it must be an allowed one -/
theorem sat_panicAt {α} {s : PanicSite} (hs : S.strict = false ∨ S.allowed s) : Sat S (KM.panicAt s : KM α) := by
  refine fun k hk => ⟨rfl, fun h s' hs' => ?_, fun _ => hk⟩
  cases Res.panic.inj hs'
  exact hs.resolve_left (by simp [h])

theorem sat_ite {α} {c : Prop} [Decidable c] {m n : KM α} (hm : Sat S m) (hn : Sat S n) : Sat S (if c then m else n) := by
  split <;> assumption

theorem sat_bind {α β} {m : KM α} {f : α → KM β} (hm : Sat S m) (hf : ∀ a, Sat S (f a)) : Sat S (m >>= f) := by
  intro k hk
  have h := hm k hk
  show Post S (KM.bind m f k)
  unfold KM.bind
  generalize m k = x at h ⊢
  rcases x with ⟨k1, a | e | s | _⟩
  · exact hf a k1 (h.2.2 (Or.inl rfl))
  all_goals exact post_congr S h

theorem sat_seq {α β} {m : KM α} {n : KM β} (hm : Sat S m) (hn : Sat S n) : Sat S (m >>= fun _ => n) :=
  sat_bind S hm (fun _ => hn)

theorem sat_attempt {α} {m : KM α} (hm : Sat S m) : Sat S (KM.attempt m) := by
  intro k hk
  have h := hm k hk
  unfold KM.attempt
  generalize m k = x at h ⊢
  rcases x with ⟨k1, a | e | s | _⟩
  · exact post_congr S h
  · exact post_plain S (h.2.2 (Or.inl rfl))
  all_goals exact post_congr S h

theorem sat_handle {α} {m : KM α} {h : LErr → KM α} (hm : Sat S m) (hh : ∀ e, Sat S (h e)) : Sat S (KM.handle m h) := by
  intro k hk
  have h0 := hm k hk
  unfold KM.handle
  generalize m k = x at h0 ⊢
  rcases x with ⟨k1, a | e | s | _⟩
  · exact h0
  · exact hh e k1 (h0.2.2 (Or.inl rfl))
  all_goals exact h0

theorem sat_void {α} {m : KM α} (hm : Sat S m) : Sat S (KM.void m) :=
  fun k hk => (post_void S).2 (hm k hk)

theorem blocked_free (k : KLoc) (w : Bool) (h : k.lock = .free) : blocked k w = false := by
  simp [blocked, h]

/-- the heart: one call of a State method, whatever its body `f` computes and whether or not the fault oracle makes it panic -/
theorem sat_kCall {α} (m : Meth) (f : St → St × Except LErr α) : Sat S (kCall m f) := by
  intro k hk
  unfold kCall
  rw [blocked_free k _ (S.free k hk)]
  simp only [Bool.false_eq_true, if_false]
  cases hfault : k.fault m k.loc.st with
  | some s =>
    -- the body panics: excluded by a strict invariant; otherwise the invariant says that no lock stays behind
    cases hst : S.strict with
    | true => cases (S.strictOK hst k hk m k.loc.st).symm.trans hfault
    | false =>
      refine ⟨rfl, fun hs => by simp [hst] at hs, fun h => ?_⟩
      simp only [S.panicOK (h.resolve_left (by simp [Res.isPanic])) hst k m hk]
      exact S.stable k s hk
  | none =>
    simp only
    rcases f k.loc.st with ⟨s, a | e⟩ <;> exact post_plain S (S.stable k s hk)

theorem sat_kGet {id : String} {now : Int} : Sat S (kGet id now) := sat_kCall S _ _
/-- `Add` with the add hook of a System: the hook's refusal puts the memory back, outside the lock -/
theorem sat_kAdd {id : String} {x : Obj} {now : Int} : Sat S (kAdd id x now) := by
  intro k hk
  have h := sat_kCall S .add (fun s => addK s id x now) k hk
  unfold kAdd
  split
  · exact h
  · generalize kCall .add (fun s => addK s id x now) k = y at h ⊢
    rcases y with ⟨k1, a | e | s | _⟩
    · simp only
      split
      · split
        · exact post_plain S (S.stable k _ hk)
        · exact h
      · exact h
    all_goals exact h

/-- a call on a serving location whose body does not panic is the body, with the lock taken and given back -/
theorem kCall_eq {α} {m : Meth} (f : St → St × Except LErr α) {k : KLoc} (hfree : Serving k) (hff : k.fault m k.loc.st = none) :
    kCall m f k = (withSt k (f k.loc.st).1, match (f k.loc.st).2 with | .ok a => .ok a | .error e => .err e) := by
  unfold kCall
  rw [blocked_free k _ hfree, hff]
  rcases f k.loc.st with ⟨s, a | e⟩ <;> rfl

/-- the add hook of a System is asked only after a successful `Add` -/
theorem kAdd_of_err {id : String} {x : Obj} {now : Int} {k : KLoc} {e : LErr}
    (h : (kCall .add (fun s => addK s id x now) k).2 = .err e) : kAdd id x now k = kCall .add (fun s => addK s id x now) k := by
  unfold kAdd
  split
  · rfl
  · generalize kCall .add (fun s => addK s id x now) k = y at h ⊢
    obtain ⟨k1, a | _ | _ | _⟩ := y
    · cases h
    all_goals rfl

/-- `Rem` with the rem hook of a System: a `Get` first, then the `Rem` proper -/
theorem sat_kRem {id : String} {now : Int} : Sat S (kRem id now) := by
  intro k hk
  unfold kRem
  split
  · exact sat_kCall S .rem _ k hk
  · have h := sat_kCall S .get (fun s => getK s id now) k hk
    generalize kCall .get (fun s => getK s id now) k = y at h ⊢
    rcases y with ⟨k1, fact | e | s | _⟩
    · have hk1 := h.2.2 (Or.inl rfl)
      simp only
      split
      · exact post_plain S hk1
      · exact sat_kCall S .rem _ k1 hk1
    all_goals exact post_congr S h

theorem sat_kGetProp {id prop : String} {dflt : J} {now : Int} : Sat S (kGetProp id prop dflt now) := by
  unfold kGetProp
  refine sat_bind S (sat_attempt S (sat_kGet S)) (fun x => ?_)
  split
  · exact sat_pure S
  · exact sat_fail S
  · split
    · exact sat_pure S
    · exact sat_fail S

theorem sat_kGetPropStringD {prop : String} {now : Int} : Sat S (kGetPropStringD prop now) := by
  unfold kGetPropStringD
  refine sat_bind S (sat_attempt S (sat_kGetProp S)) (fun x => ?_)
  split <;> exact sat_pure S

theorem sat_kRemProp {id prop : String} {now : Int} : Sat S (kRemProp id prop now) := sat_kRem S

theorem sat_kRunGuard {c : Ctx} {now : Int} {g : Guard} : Sat S (kRunGuard c now g) := by
  cases g <;> unfold kRunGuard
  · exact sat_bind S (sat_kGetPropStringD S) fun _ => sat_ite S (sat_pure S) (sat_fail S)
  · exact sat_bind S (sat_kGetPropStringD S) fun _ => sat_ite S (sat_pure S) (sat_fail S)
  · exact sat_bind S (sat_get S) fun _ => sat_ite S (sat_fail S)
      (sat_bind S (sat_kGetPropStringD S) fun _ => sat_ite S (sat_pure S) (sat_fail S))
  · exact sat_bind S (sat_get S) fun _ => sat_bind S (sat_kCall S _ _) fun _ => sat_ite S (sat_fail S) (sat_pure S)

theorem sat_kRunGuards {c : Ctx} {now : Int} {gs : List Guard} : Sat S (kRunGuards c now gs) := by
  induction gs with
  | nil => exact sat_pure S
  | cons g gs ih => exact sat_seq S (sat_kRunGuard S) ih

theorem sat_kAddRule {c : Ctx} {id : String} {rule : Obj} {now : Int} : Sat S (kAddRule c id rule now) := by
  unfold kAddRule
  refine sat_seq S (sat_kRunGuards S) ?_
  split
  · exact sat_fail S
  · split
    · exact sat_fail S
    · exact sat_kAdd S

theorem sat_kRemRule {c : Ctx} {id : String} {now : Int} : Sat S (kRemRule c id now) := by
  unfold kRemRule
  refine sat_seq S (sat_kRunGuards S) (sat_seq S (sat_kRem S) (sat_bind S (sat_kGetProp S) fun x => ?_))
  split
  exact sat_ite S (sat_seq S (sat_kRemProp S) (sat_pure S)) (sat_pure S)

theorem sat_kRuleEnabled {c : Ctx} {id : String} {now : Int} : Sat S (kRuleEnabled c id now) := by
  unfold kRuleEnabled
  refine sat_seq S (sat_kRunGuards S) (sat_bind S (sat_kGetProp S) fun x => ?_)
  split
  split <;> exact sat_pure S

theorem sat_kGetRule {c : Ctx} {id : String} {now : Int} : Sat S (kGetRule c id now) := by
  unfold kGetRule
  refine sat_seq S (sat_kRunGuards S) (sat_bind S (sat_kGet S) fun f => ?_)
  split
  · exact sat_pure S
  · exact sat_fail S
  · exact sat_fail S

theorem sat_kGetParentsRaw {now : Int} : Sat S (kGetParentsRaw now) := by
  unfold kGetParentsRaw
  refine sat_bind S (sat_kGetProp S) (fun x => ?_)
  split
  refine sat_ite S (sat_pure S) ?_
  split
  · exact sat_pure S
  · exact sat_fail S

theorem sat_klocSearchFacts {c : Ctx} {p : Obj} {now : Int} : Sat S (klocSearchFacts c p now) :=
  sat_seq S (sat_kRunGuards S) (sat_kCall S _ _)

theorem sat_kSearchFacts {c : Ctx} {p : Obj} {inh : Bool} {now : Int} : Sat S (kSearchFacts c p inh now) :=
  sat_ite S (sat_bind S (sat_kGetParentsRaw S) fun _ => sat_ite S (sat_fail S) (sat_klocSearchFacts S))
    (sat_klocSearchFacts S)

theorem sat_klocSearchRules {c : Ctx} {ev : Obj} {now : Int} : Sat S (klocSearchRules c ev now) := by
  unfold klocSearchRules
  refine sat_seq S (sat_kRunGuards S) (sat_bind S (sat_kCall S _ _) fun cands => ?_)
  split
  · exact sat_pure S
  · exact sat_fail S

theorem sat_kSearchRulesAnc {c : Ctx} {ev : Obj} {now : Int} : Sat S (kSearchRulesAnc c ev now) :=
  sat_bind S (sat_kGetParentsRaw S) fun _ => sat_ite S (sat_fail S) (sat_klocSearchRules S)

theorem sat_kListRules {c : Ctx} {inh : Bool} {now : Int} (hs : S.strict = false ∨ S.allowed .listRulesNil ∨ inh = true) :
    Sat S (kListRules c inh now) := by
  unfold kListRules
  refine sat_seq S (sat_kRunGuards S) ?_
  refine sat_handle S (sat_bind S (sat_kSearchFacts S) (fun _ => sat_pure S)) (fun e => ?_)
  split
  · exact sat_pure S
  · next hinh => exact sat_panicAt S (hs.imp_right (·.resolve_right hinh))

/-! Queries and rule conditions search the location again: `nestedPanic` / `leakNested` stand for those searches -/

theorem Res.site_eq_some {α} {r : Res α} {s : PanicSite} (h : r.site = some s) : r = .panic s := by
  cases r <;> simp_all [Res.site]

theorem post_nested {α} (c : Ctx) (now : Int) {k : KLoc} (hk : S.P k) {b : Prop} [Decidable b] {site : PanicSite}
    (h : (if b then nestedPanic k c now else none) = some site) :
    Post S (leakNested k c now, (.panic site : Res α)) := by
  have hs : Post S (kSearchFacts c [] true now k) := sat_kSearchFacts S k hk
  refine ⟨rfl, fun hst s' hs' => ?_, fun hp => ?_⟩
  · cases Res.panic.inj hs'
    exact hs.2.1 hst site (Res.site_eq_some (Option.ite_none_right_eq_some.1 h).2)
  · exact S.relock k _ hk (hs.2.2 (Or.inr (hp.resolve_left (by simp [Res.isPanic]))))

theorem sat_kExecQuery {c : Ctx} {q : J} {now : Int} : Sat S (kExecQuery c q now) := by
  intro k hk
  unfold kExecQuery
  simp only []
  split
  · exact post_plain S hk
  · split
    · next hsite => exact post_nested S c now hk hsite
    · simp only [blocked_free k _ (S.free k hk)]
      exact post_plain S hk

theorem sat_kEnabledFlags {c : Ctx} {now : Int} {l : List (String × RuleM)} : Sat S (kEnabledFlags c now l) := by
  induction l with
  | nil => exact sat_pure S
  | cons x rest ih =>
    exact sat_bind S (sat_attempt S (sat_kRuleEnabled S)) fun _ => sat_bind S ih fun _ => sat_pure S

theorem sat_kCandidates {c : Ctx} {ev : Obj} {now : Int} : Sat S (kCandidates c ev now) := by
  unfold kCandidates
  split
  · refine sat_bind S (sat_kGetRule S) (fun body => ?_)
    split
    · exact sat_kEnabledFlags S
    · exact sat_fail S
  · exact sat_fail S
  · split
    · split
      · exact sat_pure S
      · exact sat_fail S
    · exact sat_fail S
    · exact sat_bind S (sat_kSearchRulesAnc S) (fun _ => sat_kEnabledFlags S)

theorem sat_kWalk {c : Ctx} {ev : Obj} {now : Int} {cands : List (String × RuleM × Bool)} : Sat S (kWalk c ev now cands) := by
  intro k hk
  unfold kWalk
  simp only []
  split
  · next hsite => exact post_nested S c now hk hsite
  · simp only [blocked_free k _ (S.free k hk)]
    exact post_plain S hk

theorem sat_kProcessEvent {c : Ctx} {ev : Obj} {now : Int} : Sat S (kProcessEvent c ev now) := by
  unfold kProcessEvent
  refine sat_bind S (sat_attempt S (sat_kCandidates S)) (fun x => ?_)
  split
  · exact sat_pure S
  · exact sat_kWalk S

/-- the one operation with a panic of its own: the non-inherited `ListRules` -/
def PubOp.localList : PubOp → Bool
  | .listRules _ inh _ => !inh
  | _ => false

theorem sat_run (op : PubOp) (hs : S.strict = false ∨ S.allowed .listRulesNil ∨ op.localList = false) : Sat S (run op) := by
  cases op <;> unfold run <;> apply sat_void
  · exact sat_seq S (sat_kRunGuards S) (sat_kAdd S)
  · exact sat_seq S (sat_kRunGuards S) (sat_seq S (sat_kRem S) (sat_pure S))
  · exact sat_seq S (sat_kRunGuards S) (sat_kGet S)
  · exact sat_kSearchFacts S
  · exact sat_kAddRule S
  · exact sat_kRemRule S
  · exact sat_kGetRule S
  · exact sat_seq S (sat_kRunGuards S) (sat_ite S (sat_seq S (sat_kRemProp S) (sat_pure S))
      (sat_seq S (sat_kAdd S) (sat_pure S)))
  · exact sat_kRuleEnabled S
  · exact sat_kListRules S (by simpa [PubOp.localList] using hs)
  · exact sat_seq S (sat_kRunGuards S) (sat_ite S (sat_kSearchRulesAnc S) (sat_klocSearchRules S))
  · exact sat_seq S (sat_kRunGuards S) (sat_kExecQuery S)
  · exact sat_kProcessEvent S

/-- a history keeps the invariant, and none of its operations blocks, as long as the invariant survives panics or none
happens -/
theorem sat_runAll (hs : S.strict = false ∨ S.allowed .listRulesNil) (ops : List PubOp) (k : KLoc) (hk : S.P k)
    (hp : S.onPanic = true ∨ ∀ r ∈ (runAll ops k).2, r.2.isPanic = false) :
    (∀ r ∈ (runAll ops k).2, r.2.isHang = false) ∧ S.P (runAll ops k).1 := by
  induction ops generalizing k with
  | nil => exact ⟨fun r hr => (nomatch hr), hk⟩
  | cons op ops ih =>
    have h1 := sat_run S op (hs.imp_right Or.inl) k hk
    simp only [runAll, List.forall_mem_cons] at hp ⊢
    have ih' := ih _ (h1.2.2 (hp.symm.imp_left (·.1))) (hp.imp_right (·.2))
    exact ⟨⟨h1.1, ih'.1⟩, ih'.2⟩

/-! ## The lock discipline of the source -/

/-- a panic inside a method leaves no lock behind exactly when its lock region cannot panic or releases by `defer` -/
theorem leakIn_eq_none {tbl : List C13Gen.LockUse} {kind : Kind} {m : Meth} :
    leakIn tbl kind m = none ↔ (panicUnderLock kind m = true → deferredIn tbl (methName kind m) = true) := by
  unfold leakIn
  cases panicUnderLock kind m <;> cases deferredIn tbl (methName kind m) <;> simp

/-- `p` of each of the twelve methods (six of either state) -/
def forallMeth (p : Kind → Meth → Bool) : Bool :=
  [Kind.indexed, .linear].all fun kind => [Meth.add, .rem, .get, .search, .findRules, .count].all fun m => p kind m

theorem forallMeth_iff {p : Kind → Meth → Bool} : forallMeth p = true ↔ ∀ kind m, p kind m = true := by
  constructor
  · intro h kind m
    simp only [forallMeth, List.all_cons, List.all_nil, Bool.and_true, Bool.and_eq_true] at h
    cases kind <;> cases m <;> simp only [h]
  · intro h
    simp [forallMeth, h]

/-- The regenerated lock table: every lock region with code able to panic releases by `defer`, and the Go function of
each method does occur in the table. One evaluation for all twelve methods: comparing strings is what costs in the
kernel, and this way each name of the table is decoded once. -/
theorem source_locks (kind : Kind) (m : Meth) :
    (panicUnderLock kind m = true → deferredIn C13Gen.lockUses (methName kind m) = true) ∧
    (C13Gen.lockUses.any (fun u => u.func == methName kind m)) = true := by
  have sweep : forallMeth (fun kind m =>
      (!panicUnderLock kind m || deferredIn C13Gen.lockUses (methName kind m)) &&
        C13Gen.lockUses.any (fun u => u.func == methName kind m)) = true := by decide +kernel
  have h := forallMeth_iff.1 sweep kind m
  simp only [Bool.and_eq_true, Bool.or_eq_true, Bool.not_eq_true'] at h
  exact ⟨fun hp => h.1.resolve_left (by simp [hp]), h.2⟩

theorem leakIn_source_none (kind : Kind) (m : Meth) : leakIn C13Gen.lockUses kind m = none :=
  leakIn_eq_none.2 (source_locks kind m).1

/-! ## The three invariants -/

/-- `Serving`: the state lock is free -/
def servingSpec : GoodSpec where
  P := fun k => k.lock = .free
  onPanic := false
  strict := false
  allowed := fun _ => True
  free := fun _ h => h
  stable := fun _ _ h => h
  panicOK := fun h => by simp at h
  strictOK := fun h => by simp at h
  relock := fun _ _ _ h => h

/-- a location (either state) under the lock discipline of the current source: serving, also after a panic -/
def poisonSpec : GoodSpec where
  P := fun k => k.lock = .free ∧ k.locks = C13Gen.lockUses
  onPanic := true
  strict := false
  allowed := fun _ => True
  free := fun _ h => h.1
  stable := fun _ _ h => h
  panicOK := fun _ _ k m h => by rw [h.2]; exact leakIn_source_none _ m
  strictOK := fun h => by simp at h
  relock := fun _ _ h h' => ⟨h'.1, h.2⟩

/-- a serving location none of whose State method bodies panics (kept also by the one panic that is left, which
happens outside every lock); `sites` = the panics to be shown the only possible ones -/
def cleanSpec (sites : PanicSite → Prop) : GoodSpec where
  P := fun k => k.lock = .free ∧ FaultFree k
  onPanic := true
  strict := true
  allowed := sites
  free := fun _ h => h.1
  stable := fun _ _ h => h
  panicOK := fun _ h => by simp at h
  strictOK := fun _ _ h => h.2
  relock := fun _ _ h h' => ⟨h'.1, h.2⟩

end C13
