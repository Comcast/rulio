import RulioModel.MatchFrag
import RulioProofs.ExceptBind
import RulioProofs.JsonBase
import Mathlib.Data.List.Perm.Subperm
import Mathlib.Data.List.Forall2

/-! # Base lemmas for the matcher proofs (C05): variables, bindings, `mapM`, `splitNth`, `distinctJ` / `eraseDups`, and
the equations of the ground partial match `gmatch` -/

theorem isVar_iff (s : String) : isVar s = true ↔ ['?'] <+: s.toList := by
  unfold isVar; exact String.startsWith_string_iff
theorem isOptVar_iff (s : String) : isOptVar s = true ↔ ['?','?'] <+: s.toList := by
  unfold isOptVar; exact String.startsWith_string_iff
theorem isVar_of_isOptVar {s : String} : isOptVar s = true → isVar s = true := by
  rw [isVar_iff, isOptVar_iff]
  rintro ⟨t, ht⟩
  exact ⟨'?' :: t, by simp [← ht]⟩
theorem isOptVar_anon : isOptVar "?" = false := by simp [isOptVar]

/-- the test for a variable element of an array pattern, which `matchA` and `patOK` write out as a `match`; `isVarJ` of
`RulioModel/PatIndexSpec.lean` is the same function -/
def isVarElem (x : J) : Bool := match x with | .str s => isVar s | _ => false

theorem isVarElem_false {x : J} (h : isVarElem x = false) (s : String) (e : x = .str s) : isVar s = false := by
  subst e; exact h

theorem isVarElem_scalar {x : J} (h : isVarElem x = true) : x.isScalar = true := by
  cases x <;> simp_all [isVarElem, J.isScalar]

theorem isVarElem_struct {x : J} (h : x.isScalar = false) : isVarElem x = false :=
  Bool.eq_false_iff.2 fun hv => by rw [isVarElem_scalar hv] at h; cases h

theorem Bs.ext_set {bs : Bs} {k : String} (v : J) (h : bs.get? k = none) : bs.Ext (bs.set k v) := by
  intro k' w hw
  rw [Bs.get?_set]
  by_cases hk : k' = k
  · subst hk; rw [h] at hw; cases hw
  · simp [hk, hw]

theorem Bs.set_ext {bs τ : Bs} {k : String} {v : J} (h : bs.Ext τ) (hv : τ.get? k = some v) :
    (bs.set k v).Ext τ := by
  intro k' w hw
  rw [Bs.get?_set] at hw
  by_cases hk : k' = k
  · subst hk; simp at hw; subst hw; exact hv
  · simp [hk] at hw; exact h _ _ hw

theorem mapM_ok_forall₂ {ε α β : Type} (f : α → Except ε β) (l : List α) (rs : List β) (h : l.mapM f = .ok rs) :
    List.Forall₂ (fun a r => f a = .ok r) l rs :=
  List.forall₂_map_left_iff.1 (List.forall₂_map_right_iff.1 (by
    rw [List.forall₂_eq_eq_eq]; exact List.mapM_eq_ok_iff.1 h))

theorem forall₂_exists_right {α β : Type} {R : α → β → Prop} {l1 : List α} {l2 : List β}
    (h : List.Forall₂ R l1 l2) : ∀ a ∈ l1, ∃ b ∈ l2, R a b := by
  induction h with
  | nil => intro a ha; cases ha
  | cons h1 _ ih =>
    intro a ha
    rcases List.mem_cons.1 ha with rfl | ha
    · exact ⟨_, List.mem_cons_self, h1⟩
    · obtain ⟨b, hb, hr⟩ := ih a ha
      exact ⟨b, List.mem_cons_of_mem _ hb, hr⟩

theorem forall₂_map_eq {α β γ : Type} {R : α → β → Prop} {f : α → γ} {g : β → γ} (hR : ∀ a b, R a b → g b = f a)
    {l1 : List α} {l2 : List β} (h : List.Forall₂ R l1 l2) : l2.map g = l1.map f := by
  induction h with
  | nil => rfl
  | cons hab _ ih => simp [hR _ _ hab, ih]

theorem flatten_keys_sublist {α β : Type} {xs : List (String × α)} {per : List (List (String × β))}
    (h : List.Forall₂ (fun x r => r = [] ∨ ∃ b, r = [(x.1, b)]) xs per) :
    (per.flatten.map (·.1)).Sublist (xs.map (·.1)) := by
  induction h with
  | nil => exact .slnil
  | @cons x r xs per hxr _ ih =>
    rcases hxr with rfl | ⟨b, rfl⟩
    · simpa using ih.cons x.1
    · simpa using ih.cons_cons x.1

theorem filterMap_id_keys {α β : Type} {xs : List (String × α)} {os : List (Option (String × β))}
    (h : List.Forall₂ (fun x o => o = none ∨ ∃ r, o = some (x.1, r)) xs os) :
    ((os.filterMap id).map (·.1)).Sublist (xs.map (·.1)) := by
  induction h with
  | nil => exact .slnil
  | @cons x o xs os hxo _ ih =>
    rcases hxo with rfl | ⟨r, rfl⟩
    · simpa using ih.cons x.1
    · simpa using ih.cons_cons x.1

theorem mem_ite_singleton {α : Type} {c : Prop} [Decidable c] {a b : α} :
    a ∈ (if c then [b] else []) ↔ c ∧ a = b := by
  split <;> simp [*]

theorem splitNth_perm {α : Type} : ∀ {l : List α} {y : α} {r : List α}, (y, r) ∈ splitNth l → l.Perm (y :: r)
  | [], _, _, h => by simp [splitNth] at h
  | x :: xs, y, r, h => by
      simp only [splitNth, List.mem_cons, List.mem_map] at h
      rcases h with h | ⟨⟨y', r'⟩, hm, h⟩
      · cases h; exact List.Perm.refl _
      · cases h
        have := splitNth_perm hm
        exact (List.Perm.cons x this).trans (List.Perm.swap _ _ _)

theorem splitNth_mem {α : Type} : ∀ {l : List α} {y : α}, y ∈ l → ∃ r, (y, r) ∈ splitNth l
  | [], _, h => by cases h
  | x :: xs, y, h => by
      rcases List.mem_cons.1 h with rfl | h
      · exact ⟨xs, List.mem_cons_self⟩
      · obtain ⟨r, hr⟩ := splitNth_mem h
        exact ⟨x :: r, List.mem_cons_of_mem _ (List.mem_map.2 ⟨(y, r), hr, rfl⟩)⟩

theorem distinctJ_iff_nodup : ∀ {l : List J}, distinctJ l = true ↔ l.Nodup
  | [] => by simp [distinctJ]
  | x :: xs => by simp [distinctJ, distinctJ_iff_nodup (l := xs)]

theorem distinctJ_eraseDups {l : List J} (h : distinctJ l = true) : l.eraseDups = l :=
  eraseDups_of_nodup (distinctJ_iff_nodup.1 h)

theorem eraseDups_sublist : ∀ (n : Nat) (l : List J), l.length ≤ n → l.eraseDups.Sublist l
  | _, [], _ => by simp
  | 0, _ :: _, h => by simp at h
  | n + 1, x :: xs, h => by
      rw [List.eraseDups_cons]
      exact ((eraseDups_sublist n _ (Nat.le_trans (List.length_filter_le _ xs) (Nat.le_of_succ_le_succ h))).trans
        List.filter_sublist).cons_cons x

theorem gmatch_scalar {b : J} (hb : b.isScalar = true) (f : J) : gmatch b f = if b == f then 1 else 0 := by
  cases b <;> first | (rw [gmatch.eq_def]; cases f <;> rfl) | cases hb

theorem gmatch_obj (kvs f : List (String × J)) : gmatch (.obj kvs) (.obj f) = gmatchO kvs f := by
  rw [gmatch.eq_def]
theorem gmatch_arr (xs fs : List J) :
    gmatch (.arr xs) (.arr fs) =
      gmatchA xs (fs.filter J.isScalar).eraseDups (fs.filter (fun y => !y.isScalar)) := by
  rw [gmatch.eq_def]
theorem gmatchO_nil (f : List (String × J)) : gmatchO [] f = 1 := by rw [gmatchO.eq_def]
theorem gmatchO_cons (k : String) (v : J) (r f : List (String × J)) :
    gmatchO ((k, v) :: r) f =
      (match lookupKey k f with | none => 0 | some fv => gmatch v fv * gmatchO r f) := by
  rw [gmatchO.eq_def]; rfl
theorem gmatchA_nil (sc st : List J) : gmatchA [] sc st = 1 := by rw [gmatchA.eq_def]
theorem gmatchA_cons (x : J) (xs sc st : List J) :
    gmatchA (x :: xs) sc st =
      (if x.isScalar then (if sc.contains x then gmatchA xs (sc.erase x) st else 0)
       else gmatchPick x xs sc [] st) := by
  rw [gmatchA.eq_def]
theorem gmatchPick_nil (x : J) (xs sc pre : List J) : gmatchPick x xs sc pre [] = 0 := by
  rw [gmatchPick.eq_def]
theorem gmatchPick_cons (x : J) (xs sc pre : List J) (f : J) (post : List J) :
    gmatchPick x xs sc pre (f :: post) =
      gmatch x f * gmatchA xs sc (pre ++ post) + gmatchPick x xs sc (pre ++ [f]) post := by
  rw [gmatchPick.eq_def]
theorem gmatchPick_eq_sum (x : J) (xs sc : List J) : ∀ (post pre : List J),
    gmatchPick x xs sc pre post = ((splitNth post).map (fun fr => gmatch x fr.1 * gmatchA xs sc (pre ++ fr.2))).sum
  | [], pre => by rw [gmatchPick_nil]; rfl
  | f :: post, pre => by
      rw [gmatchPick_cons, gmatchPick_eq_sum x xs sc post (pre ++ [f])]
      simp only [splitNth, List.map_cons, List.sum_cons, List.map_map, Function.comp_def, List.append_assoc,
        List.singleton_append]
