/-! # `List.lookup`: what the association lists of the model have in common

`amGet` (with `lookupKey`, `Obj.get?`, `Bs.get?` behind it), `kget`, `Crolt.get`, `aGet` and `PI.child` are each
`List.lookup` written out again; so are their erasures (a filter on keys) and their two kinds of write (`(k, v) ::` the
erasure, or overwrite in place). Their modules state the first once (`amGet_eq_lookup`, …) and take from here, or from
core (`List.lookup_append`, `List.lookup_eq_none_iff`, …), what does not depend on the spelling. At the end two facts about
lists that several groups share: `eraseDups_of_nodup`, `List.countP_set_add`. Core Lean only. -/

namespace List
universe u v w
variable {κ : Type u} {α : Type v} {β : Type w} [BEq κ] [LawfulBEq κ] [DecidableEq κ]

omit [DecidableEq κ] in
/-- a filter that looks at keys only: the shape of every `erase` / `del` of the model -/
theorem lookup_filter_key (q : κ → Bool) (m : List (κ × α)) (k : κ) :
    (m.filter (fun p => q p.1)).lookup k = if q k then m.lookup k else none := by
  induction m with
  | nil => exact (ite_self _).symm
  | cons e m ih =>
    obtain ⟨k', v⟩ := e
    by_cases hk : k = k'
    · subst hk; cases hq : q k <;> simp [hq, ih]
    · have hb : (k == k') = false := beq_false_of_ne hk
      cases hq : q k' <;> simp [lookup_cons, hq, hb, ih]

/-- erasing one key, as `kdel`, `Crolt.del` and `aErase` spell it -/
theorem lookup_filter_ne (m : List (κ × α)) (k k' : κ) :
    (m.filter (fun p => decide (p.1 ≠ k))).lookup k' = if k' = k then none else m.lookup k' := by
  rw [lookup_filter_key (fun x => decide (x ≠ k))]
  by_cases h : k' = k
  · rw [if_pos h, if_neg (by simpa using h)]
  · rw [if_neg h, if_pos (by simpa using h)]

omit [DecidableEq κ] in
theorem mem_of_lookup_eq_some {m : List (κ × α)} {k : κ} {v : α} (h : m.lookup k = some v) : (k, v) ∈ m := by
  obtain ⟨l₁, l₂, rfl, -⟩ := lookup_eq_some_iff.1 h
  exact mem_append_right _ mem_cons_self

omit [DecidableEq κ] in
theorem lookup_eq_some_of_mem {m : List (κ × α)} (hn : (m.map (·.1)).Nodup) {k : κ} {v : α} (h : (k, v) ∈ m) :
    m.lookup k = some v := by
  obtain ⟨l₁, l₂, rfl⟩ := append_of_mem h
  refine lookup_eq_some_iff.2 ⟨l₁, l₂, rfl, fun p hp => ?_⟩
  rw [map_append, map_cons, nodup_append] at hn
  exact bne_iff_ne.2 fun e => hn.2.2 p.1 (mem_map_of_mem hp) k mem_cons_self e.symm

omit [LawfulBEq κ] [DecidableEq κ] in
theorem lookup_map_snd (f : α → β) (m : List (κ × α)) (k : κ) :
    (m.map (fun p => (p.1, f p.2))).lookup k = (m.lookup k).map f := by
  induction m with
  | nil => rfl
  | cons e m ih =>
    obtain ⟨k', v⟩ := e
    simp only [map_cons, lookup_cons, ih]
    cases k == k' <;> rfl

omit [DecidableEq κ] in
theorem find?_key_eq_lookup (m : List (κ × α)) (k : κ) : (m.find? (·.1 == k)).map (·.2) = m.lookup k := by
  induction m with
  | nil => rfl
  | cons p r ih =>
    obtain ⟨k', v⟩ := p
    rw [find?_cons, lookup_cons, ← ih, BEq.comm (a := k)]
    cases k' == k <;> rfl

theorem lookup_map_replace (m : List (κ × α)) (k k' : κ) (v : α) :
    (m.map (fun p => if p.1 == k then (k, v) else p)).lookup k' =
      if k' = k then (m.lookup k).map (fun _ => v) else m.lookup k' := by
  induction m with
  | nil => exact (ite_self _).symm
  | cons p r ih =>
    obtain ⟨k₀, v₀⟩ := p
    rw [map_cons, lookup_cons (k := k₀), lookup_cons (k := k₀)]
    by_cases h0 : k₀ = k
    · subst h0
      rw [if_pos (beq_self_eq_true _), lookup_cons, ih]
      by_cases h1 : k' = k₀
      · subst h1; simp
      · simp [h1, beq_false_of_ne h1]
    · rw [if_neg (by simpa using h0), lookup_cons, ih]
      by_cases h1 : k' = k
      · subst h1; simp [beq_false_of_ne (Ne.symm h0)]
      · simp [h1]

/-- insert or overwrite in place: the shape of `amSet`, `PI.setChild` and `Cap.put` -/
theorem lookup_upsert (m : List (κ × α)) (k k' : κ) (v : α) :
    (if m.any (fun p => p.1 == k) then m.map (fun p => if p.1 == k then (k, v) else p) else m ++ [(k, v)]).lookup k' =
      if k' = k then some v else m.lookup k' := by
  split
  · next h =>
    obtain ⟨p, hp, hk⟩ := any_eq_true.1 h
    have : (m.lookup k).isSome := lookup_isSome_iff.2 ⟨p, hp, by rw [beq_iff_eq] at hk ⊢; exact hk.symm⟩
    obtain ⟨x, hx⟩ := Option.isSome_iff_exists.1 this
    rw [lookup_map_replace, hx]; rfl
  · next h =>
    have hn : m.lookup k = none := lookup_eq_none_iff.2 fun p hp => by
      rw [bne_iff_ne]; exact fun e => h (any_eq_true.2 ⟨p, hp, by rw [beq_iff_eq]; exact e.symm⟩)
    rw [lookup_append, lookup_cons, lookup_nil]
    by_cases hk : k' = k
    · subst hk; rw [hn, beq_self_eq_true, if_pos rfl]; rfl
    · rw [if_neg hk, beq_false_of_ne hk, Option.or_none]

omit [BEq κ] [LawfulBEq κ] [DecidableEq κ] in
theorem nodup_of_nodup_map (g : κ → α) {l : List κ} (h : (l.map g).Nodup) : l.Nodup :=
  (pairwise_map.mp h).imp fun hne e => hne (congrArg g e)

end List

theorem eraseDups_of_nodup {α : Type} [BEq α] [LawfulBEq α] : ∀ {l : List α}, l.Nodup → l.eraseDups = l
  | [], _ => by simp
  | a :: l, h => by
    rw [List.nodup_cons] at h
    rw [List.eraseDups_cons]
    have : l.filter (fun b => !(b == a)) = l := by
      apply List.filter_eq_self.2
      intro b hb
      have : b ≠ a := fun hba => h.1 (hba ▸ hb)
      simpa using this
    rw [this, eraseDups_of_nodup h.2]

theorem List.countP_set_add {α : Type} (p : α → Bool) {l : List α} {i : Nat} {old : α} (h : l[i]? = some old) (new : α) :
    (l.set i new).countP p + (if p old then 1 else 0) = l.countP p + (if p new then 1 else 0) := by
  obtain ⟨hi, rfl⟩ := List.getElem?_eq_some_iff.mp h
  have hpos : p l[i] = true → 0 < l.countP p := fun hp => List.countP_pos_iff.mpr ⟨_, List.getElem_mem hi, hp⟩
  rw [List.countP_set hi]
  split
  · next hp => have := hpos hp; omega
  · omega
