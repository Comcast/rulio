import RulioProofs.StateAll
import RulioProofs.PrepareFact
import Std.Data.String.ToNat

/-! # `add`/`rem` preserve the invariants; reachable states -/

/-! ## generated ids -/

theorem isVar_bang (s : String) : isVar ("!" ++ s) = false := by
  simp only [isVar]
  rw [String.startsWith_string_eq_false_iff]
  intro h
  simp [String.toList_append] at h

theorem isVar_fresh (n : Nat) : isVar ("fresh#" ++ toString n) = false := by
  simp only [isVar]
  rw [String.startsWith_string_eq_false_iff]
  intro h
  simp [String.toList_append] at h

theorem isVar_genPropId (id prop : String) : isVar (genPropId id prop) = false := by
  simp only [genPropId, String.append_assoc]; exact isVar_bang _

theorem genPropId_ne_fresh (id prop : String) (n : Nat) : genPropId id prop ≠ "fresh#" ++ toString n := by
  intro h
  have := congrArg String.toList h
  simp [genPropId, String.toList_append] at this

theorem fresh_inj {n m : Nat} (h : "fresh#" ++ toString n = "fresh#" ++ toString m) : n = m := by
  have := (String.append_right_inj _).1 h
  exact Nat.repr_inj.1 this

theorem genId_isVar {x : Obj} {given fresh id : String} (h : genId x given fresh = .ok id) : isVar id = false := by
  rcases genId_ok h with ⟨pid, prop, _, _, rfl⟩ | ⟨_, _, h3⟩
  · exact isVar_genPropId _ _
  · exact h3

/-! ## invariants under `add` -/

theorem WF.of_eq {s s' : St} (h : WF s) (hf : s'.facts = s.facts) (ht : s'.ti = s.ti) (hk : s'.kind = s.kind) : WF s' :=
  ⟨by simp only [KeysNodup, hf]; exact h.keys,
   St.All.congr h.ids hf,
   by intro hk'; rw [hk] at hk'; intro id fact hm; rw [hf] at hm; rw [ht]; exact h.tiok hk' id fact hm,
   by intro hk'; rw [hk] at hk'; simp only [TINodup, ht]; exact h.tinodup hk'⟩

theorem WF.addFailed {s s1 : St} (h : WF s) (hf : AddFailed s s1) : WF s1 :=
  h.of_eq hf.facts hf.ti hf.kind

theorem WF.added {s s1 : St} {given : String} {x : Obj} {now : Int} {id : String} {fact : Obj}
    (h : WF s) (ha : Added s s1 given x now id fact) : WF s1 := by
  refine ⟨?_, ?_, ?_, ?_⟩
  · simp only [KeysNodup, ha.facts]; exact AM.amKeys_amSet_nodup _ _ _ h.keys
  · obtain ⟨x', hp⟩ := ha.prep
    exact St.All.added (P := fun e => isVar e.1 = false) h.ids ha (genId_isVar ((prepareFact_parts hp).1))
  · intro hk
    rw [ha.kind] at hk
    intro id' fact' hm t ht
    rw [ha.facts] at hm
    rw [ha.ti hk]
    rcases AM.mem_amSet hm with hm | hm
    · injection hm with h1 h2; subst h1; subst h2
      exact TI.has_foldl_add.2 (.inr ⟨rfl, ht⟩)
    · exact TI.has_foldl_add.2 (.inl (h.tiok hk id' fact' hm.1 t ht))
  · intro hk
    rw [ha.kind] at hk
    simp only [TINodup, ha.ti hk]
    exact TI.All.foldl_add (P := List.Nodup) (h.tinodup hk) _ _ fun _ hl =>
      TI.nodup_ins (hl.elim (fun e => e ▸ List.nodup_nil) fun a => a)

theorem WF.add {s : St} (h : WF s) (given : String) (x : Obj) (now : Int) : WF (s.add given x now).1 := by
  rcases add_shape s given x now with ⟨_, _, hf⟩ | ⟨_, _, _, ha⟩
  · exact h.addFailed hf
  · exact h.added ha

/-- caller-supplied ids never have the shape of a generated id -/
def StOp.userIds : StOp → Prop
  | .add id _ _ => ∀ n : Nat, id ≠ "fresh#" ++ toString n
  | .rem _ _ => True

/-- a decidable sufficient condition for `StOp.userIds` -/
def StOp.userIdsB : StOp → Bool
  | .add id _ _ => !id.startsWith "fresh#"
  | .rem _ _ => true

theorem StOp.userIds_of_check {op : StOp} (h : op.userIdsB = true) : op.userIds := by
  cases op with
  | rem _ _ => trivial
  | add id _ _ =>
    intro n heq
    simp only [StOp.userIdsB, Bool.not_eq_true', String.startsWith_string_eq_false_iff] at h
    apply h
    simp [heq, String.toList_append]

theorem FreshOK.add {s : St} (h : FreshOK s) (given : String) (x : Obj) (now : Int)
    (hu : ∀ n : Nat, given ≠ "fresh#" ++ toString n) : FreshOK (s.add given x now).1 := by
  rcases add_shape s given x now with ⟨_, _, hf⟩ | ⟨id, fact, _, ha⟩
  · intro e he n hn
    rw [hf.facts] at he
    exact h e he n (Nat.le_trans hf.fresh hn)
  · intro e he n hn
    rw [ha.facts] at he
    rw [ha.fresh] at hn
    rcases AM.mem_amSet he with he | he
    · subst he
      obtain ⟨x', hp⟩ := ha.prep
      rcases genId_ok ((prepareFact_parts hp).1) with ⟨pid, prop, _, _, rfl⟩ | ⟨_, hid, _⟩
      · exact genPropId_ne_fresh _ _ _
      · simp only
        by_cases hg : given = ""
        · subst hg
          simp only [beq_self_eq_true, ↓reduceIte] at hid
          subst hid
          simp only [beq_self_eq_true, Bool.and_self, ↓reduceIte] at hn
          intro heq
          have := fresh_inj heq
          omega
        · simp only [beq_iff_eq, hg, ↓reduceIte] at hid
          subst hid; exact hu n
    · apply h e he.1 n
      split at hn <;> omega

/-! ## reachable states

Every operation of the `State` interface keeps `WF`; an `Add`/`Rem` history is a history of such operations
(`St.run_eq`). -/

/-- `St.empty k` (SysInv), from which the histories of C06 start, is this state by `rfl` -/
theorem wf_empty (k : Kind) : WF { kind := k } :=
  ⟨by simp [KeysNodup], by intro e he; simp at he, fun _ => by intro id fact hm; simp at hm, fun _ => by intro e he; simp at he⟩

theorem wf_clear (s : St) : WF s.clear := (wf_empty s.kind).of_eq rfl rfl rfl

theorem WF.stepOp {s : St} (h : WF s) (op : ROp) : WF (s.stepOp op).1 :=
  St.stepOp_cases (Q := fun _ s' => WF s') s (fun hp => h.le hp.le) (fun g x now => h.add g x now) (wf_clear s) op

theorem run_wf {s : St} (h : WF s) (ops : List StOp) : WF (s.run ops) := by
  rw [St.run_eq]; exact St.runOps_inv (fun _ op h => h.stepOp op) _ h

theorem run_idsOK {s : St} (h : IdsOK s) (ops : List StOp) : IdsOK (s.run ops) := by
  rw [St.run_eq]
  exact St.runOps_inv (P := IdsOK) (fun s op h => St.All.stepOp (P := fun e => isVar e.1 = false) h op
    fun _ _ _ _ _ _ _ hp => genId_isVar ((prepareFact_parts hp).1)) _ h

theorem run_freshOK {s : St} (h : FreshOK s) (ops : List StOp) (hu : ∀ op, op ∈ ops → op.userIds) : FreshOK (s.run ops) := by
  induction ops generalizing s with
  | nil => exact h
  | cons op r ih =>
    apply ih _ (fun o ho => hu o (List.mem_cons_of_mem _ ho))
    have hop := hu op (by simp)
    cases op with
    | add id x now => exact FreshOK.add h id x now hop
    | rem id now => rw [St.step_eq]; exact (St.stepOp_purge s (op := .rem id now) trivial).le.freshOK h

theorem run_kind (s : St) (ops : List StOp) : (s.run ops).kind = s.kind := by
  rw [St.run_eq]; exact St.runOps_kind _ s
