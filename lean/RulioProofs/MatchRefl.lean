import RulioProofs.MatchTop

/-! # The ground partial match `gmatch` is reflexive on well-formed data (C05)

`match(binding, fact)` with the binding equal to the fact succeeds at least once, provided scalars inside
arrays are distinct (`dataOK`) and map keys are distinct (`dataKeysOK`).  This is what makes completeness
hold without the scalar-repeats condition. -/

open List

theorem gmatchPick_ge (x : J) (xs sc : List J) : ∀ (p1 : List J) (f : J) (p2 pre : List J),
    gmatch x f * gmatchA xs sc (pre ++ p1 ++ p2) ≤ gmatchPick x xs sc pre (p1 ++ f :: p2)
  | [], f, p2, pre => by
      rw [List.nil_append, gmatchPick_cons, List.append_nil]; omega
  | a :: p1, f, p2, pre => by
      rw [List.cons_append, gmatchPick_cons]
      have := gmatchPick_ge x xs sc p1 f p2 (pre ++ [a])
      simp only [List.append_assoc, List.singleton_append] at this ⊢
      omega

theorem distinctKeys_nodup {l : List (String × J)} : distinctKeys l = true → (l.map (·.1)).Nodup :=
  keysNodup_of (fun _ _ _ => by rw [distinctKeys])

theorem lookupKey_of_mem_distinct {f : List (String × J)} {k : String} {v : J} (hd : distinctKeys f = true)
    (h : (k, v) ∈ f) : lookupKey k f = some v :=
  (lookupKey_eq_amGet f k).trans (AM.amGet_of_mem_nodup (distinctKeys_nodup hd) h)

theorem dataKeysOKL_iff {xs : List J} : dataKeysOKL xs = true ↔ ∀ x ∈ xs, dataKeysOK x = true :=
  listAll_iff (by rw [dataKeysOKL]) (fun _ _ => by rw [dataKeysOKL])
theorem dataKeysOKO_iff {kvs : List (String × J)} :
    dataKeysOKO kvs = true ↔ ∀ kv ∈ kvs, dataKeysOK kv.2 = true :=
  listAll_iff (f := fun kv : String × J => dataKeysOK kv.2) (by rw [dataKeysOKO]) (fun ⟨_, _⟩ _ => by rw [dataKeysOKO])

theorem gmatchO_refl (f : List (String × J)) (hd : distinctKeys f = true) : ∀ (r : List (String × J)),
    (∀ kv ∈ r, kv ∈ f) → (∀ kv ∈ r, 1 ≤ gmatch kv.2 kv.2) → 1 ≤ gmatchO r f
  | [], _, _ => by rw [gmatchO_nil]; omega
  | (k, v) :: r, hm, hg => by
      rw [gmatchO_cons, lookupKey_of_mem_distinct hd (hm (k, v) List.mem_cons_self)]
      have h1 := hg (k, v) List.mem_cons_self
      have h2 := gmatchO_refl f hd r (fun kv h => hm kv (List.mem_cons_of_mem _ h))
        (fun kv h => hg kv (List.mem_cons_of_mem _ h))
      exact Nat.mul_le_mul h1 h2

theorem gmatchA_refl : ∀ (xs sc st : List J),
    (xs.filter J.isScalar).Nodup → (∀ x ∈ xs, x.isScalar = true → x ∈ sc) →
    (xs.filter (fun y => !y.isScalar)) <+~ st → (∀ x ∈ xs, 1 ≤ gmatch x x) → 1 ≤ gmatchA xs sc st
  | [], sc, st, _, _, _, _ => by rw [gmatchA_nil]; omega
  | x :: xs, sc, st, hnd, hsc, hst, hg => by
      rw [gmatchA_cons]
      by_cases hx : x.isScalar = true
      · have hxsc : x ∈ sc := hsc x List.mem_cons_self hx
        rw [List.filter_cons_of_pos hx, List.nodup_cons] at hnd
        rw [List.filter_cons_of_neg (by simp [hx])] at hst
        simp only [hx, if_true, List.contains_eq_mem, hxsc, decide_true]
        refine gmatchA_refl xs (sc.erase x) st hnd.2 ?_ hst (fun y hy => hg y (List.mem_cons_of_mem _ hy))
        intro y hy hys
        have hne : y ≠ x := by
          rintro rfl
          exact hnd.1 (List.mem_filter.2 ⟨hy, hys⟩)
        exact (List.mem_erase_of_ne hne).2 (hsc y (List.mem_cons_of_mem _ hy) hys)
      · have hx' : x.isScalar = false := by simpa using hx
        rw [List.filter_cons_of_neg (by simp [hx'])] at hnd
        rw [List.filter_cons_of_pos (by simp [hx'])] at hst
        simp only [hx', Bool.false_eq_true, if_false]
        have hxst : x ∈ st := hst.subset List.mem_cons_self
        obtain ⟨p1, p2, rfl⟩ := List.append_of_mem hxst
        have hst' : (xs.filter (fun y => !y.isScalar)) <+~ (p1 ++ p2) := by
          have h3 : (p1 ++ x :: p2).Perm (x :: (p1 ++ p2)) := List.perm_middle
          exact (List.subperm_cons x).1 (hst.trans h3.subperm)
        have h1 := hg x List.mem_cons_self
        have h2 := gmatchA_refl xs sc (p1 ++ p2) hnd
          (fun y hy hys => hsc y (List.mem_cons_of_mem _ hy) hys) hst'
          (fun y hy => hg y (List.mem_cons_of_mem _ hy))
        have h3 := gmatchPick_ge x xs sc p1 x p2 []
        simp only [List.nil_append] at h3
        have := Nat.mul_le_mul h1 h2
        omega

theorem gmatch_refl : ∀ (d : J), dataOK d = true → dataKeysOK d = true → 1 ≤ gmatch d d := by
  intro d
  induction d using J.ind' with
  | hnull => intro _ _; simp [gmatch]
  | hbool b => intro _ _; simp [gmatch]
  | hnum n => intro _ _; simp [gmatch]
  | hstr s => intro _ _; simp [gmatch]
  | harr xs ih =>
    intro hd hk
    simp only [dataOK, Bool.and_eq_true] at hd
    simp only [dataKeysOK] at hk
    have hdl := dataOKL_iff.1 hd.2
    have hkl := dataKeysOKL_iff.1 hk
    rw [gmatch_arr, distinctJ_eraseDups hd.1]
    apply gmatchA_refl
    · exact distinctJ_iff_nodup.1 hd.1
    · intro x hx hs; exact List.mem_filter.2 ⟨hx, hs⟩
    · exact Subperm.refl _
    · intro x hx; exact ih x hx (hdl x hx) (hkl x hx)
  | hobj kvs ih =>
    intro hd hk
    simp only [dataOK] at hd
    simp only [dataKeysOK, Bool.and_eq_true] at hk
    have hdl := dataOKO_iff.1 hd
    have hkl := dataKeysOKO_iff.1 hk.2
    rw [gmatch_obj]
    exact gmatchO_refl kvs hk.1 kvs (fun _ h => h) (fun kv hkv => ih kv hkv (hdl kv hkv).2 (hkl kv hkv))

/-- the two hypotheses of `match_complete_noscalar` on the datum, which the values of a map and the elements of an array
inherit (`DOK.lookup`, `DOK.elem`) -/
def DOK (d : J) : Prop := dataOK d = true ∧ dataKeysOK d = true

theorem DOK.lookup {fm : List (String × J)} (h : DOK (.obj fm)) {k : String} {fv : J}
    (hl : lookupKey k fm = some fv) : DOK fv := by
  obtain ⟨h1, h2⟩ := h
  simp only [dataOK] at h1
  simp only [dataKeysOK, Bool.and_eq_true] at h2
  exact ⟨lookupKey_dataOK h1 hl, dataKeysOKO_iff.1 h2.2 _ (lookupKey_mem hl)⟩

theorem DOK.elem {fa : List J} (h : DOK (.arr fa)) {y : J} (hy : y ∈ fa) : DOK y := by
  obtain ⟨h1, h2⟩ := h
  simp only [dataOK, Bool.and_eq_true] at h1
  simp only [dataKeysOK] at h2
  exact ⟨dataOKL_iff.1 h1.2 y hy, dataKeysOKL_iff.1 h2 y hy⟩

/-- a specification binding gives the variables of the pattern sub-values of the datum, and those agree with
themselves -/
theorem crit_of_DOK {τ bs : Bs} {p d : J} (hp : patOK p = true) (hd : DOK d) (hpm : pmv τ p d = true) :
    Crit (fun w => Agree w w) τ (varsOf p) bs := by
  intro y hy _ w hw
  obtain ⟨w', hw', hdw⟩ := pmv_vars (G := DOK) (fun h hl => h.lookup hl) (fun h hy => h.elem hy) p hp d hpm hd y hy
  cases hw.symm.trans hw'
  exact gmatch_refl w hdw.1 hdw.2
