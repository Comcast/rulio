import RulioProofs.Query

/-! # `ProcessEvent` without its accumulators (C04: each action exactly once)

The model walks three nested lists, each until the first abort: the dispatched rules (`processEvent.walk`), a rule's
`when` bindings (its `conds`), and a condition's (result binding, action) pairs (`evalCond.go`). All three are
`runUntil` of `RulioModel/QuerySpec.lean` by one lemma, `loop_eq_runUntil`; the steps are `ruleStep`, `evalCond` and
`condStep` (`serialRun` is `runUntil (condStep true)`: `serialRun_eq`). With `processEvent.find` read as `dispatch` this
gives `processEvent_eq`, and `evalCond_eq` with `evalCond_err` / `evalCond_ok`. Everything after that, `Props/C04.lean`
included, is about `runUntil` and `dispatch`. -/

namespace EventsProofs
open QSpec
open QueryProofs

theorem runUntil_nil {α β} (f : α → β × List J × Bool) : runUntil f [] = ([], [], false) := rfl

theorem runUntil_cons_abort {α β} (f : α → β × List J × Bool) (x : α) (xs : List α) (h : (f x).2.2 = true) :
    runUntil f (x :: xs) = ([(f x).1], (f x).2.1, true) := by
  rw [runUntil, if_pos h]

theorem runUntil_cons_go {α β} (f : α → β × List J × Bool) (x : α) (xs : List α) (h : (f x).2.2 = false) :
    runUntil f (x :: xs) =
      ((f x).1 :: (runUntil f xs).1, (f x).2.1 ++ (runUntil f xs).2.1, (runUntil f xs).2.2) := by
  rw [runUntil, if_neg (by simp [h])]

theorem runUntil_not_aborted {α β} (f : α → β × List J × Bool) (l : List α) :
    (runUntil f l).2.2 = false ↔ ∀ x ∈ l, (f x).2.2 = false := by
  induction l with
  | nil => simp [runUntil_nil]
  | cons x xs ih =>
    cases h : (f x).2.2 with
    | true => rw [runUntil_cons_abort f x xs h]; simp [h]
    | false => rw [runUntil_cons_go f x xs h]; simp [h, ih]

theorem runUntil_all {α β} (f : α → β × List J × Bool) (l : List α) (h : ∀ x ∈ l, (f x).2.2 = false) :
    runUntil f l = (l.map (fun x => (f x).1), l.flatMap (fun x => (f x).2.1), false) := by
  induction l with
  | nil => rfl
  | cons x xs ih =>
    rw [runUntil_cons_go f x xs (h x (by simp)), ih (fun y hy => h y (by simp [hy]))]
    rfl

/-- a step that, whenever it does not abort, returns the node `spec x` and establishes `Q x` -/
def StepSpec {α β} (f : α → β × List J × Bool) (spec : α → β) (Q : α → Prop) : Prop :=
  ∀ x, (f x).2.2 = false → (f x).1 = spec x ∧ Q x

theorem runUntil_spec {α β} {f : α → β × List J × Bool} {spec : α → β} {Q : α → Prop} (hf : StepSpec f spec Q)
    (l : List α) (h : (runUntil f l).2.2 = false) : (runUntil f l).1 = l.map spec ∧ ∀ x ∈ l, Q x := by
  have hall := (runUntil_not_aborted f l).mp h
  rw [runUntil_all f l hall]
  exact ⟨List.map_congr_left fun x hx => (hf x (hall x hx)).1, fun x hx => (hf x (hall x hx)).2⟩

theorem runUntil_stops {α β} (f : α → β × List J × Bool) (pre post : List α) (x : α)
    (hpre : ∀ y ∈ pre, (f y).2.2 = false) (hx : (f x).2.2 = true) :
    runUntil f (pre ++ x :: post) =
      ((pre ++ [x]).map (fun y => (f y).1), (pre ++ [x]).flatMap (fun y => (f y).2.1), true) := by
  induction pre with
  | nil => rw [List.nil_append, runUntil_cons_abort f x post hx]; simp
  | cons y ys ih =>
    rw [List.cons_append, runUntil_cons_go f y _ (hpre y (by simp)), ih (fun z hz => hpre z (by simp [hz]))]
    rfl

theorem runUntil_prefix {α β} (f : α → β × List J × Bool) (l : List α) :
    ∃ n, (runUntil f l).1 = (l.take n).map (fun x => (f x).1) := by
  induction l with
  | nil => exact ⟨0, rfl⟩
  | cons x xs ih =>
    cases h : (f x).2.2 with
    | true => rw [runUntil_cons_abort f x xs h]; exact ⟨1, rfl⟩
    | false =>
      obtain ⟨n, h1⟩ := ih
      rw [runUntil_cons_go f x xs h, h1]
      exact ⟨n + 1, rfl⟩

theorem runUntil_values {α β} (f : α → β × List J × Bool) (g : β → List J) (l : List α)
    (h : ∀ x ∈ l, (f x).2.1 = g (f x).1) : (runUntil f l).2.1 = (runUntil f l).1.flatMap g := by
  induction l with
  | nil => rfl
  | cons x xs ih =>
    have hx := h x List.mem_cons_self
    cases ha : (f x).2.2 with
    | true => rw [runUntil_cons_abort f x xs ha, hx]; exact (List.append_nil _).symm
    | false =>
      rw [runUntil_cons_go f x xs ha, List.flatMap_cons, ← hx, ← ih fun y hy => h y (List.mem_cons_of_mem _ hy)]

/-! ## `dispatch`: its equations, what is in it, when it answers -/

/-- `FindRules.Do` for one candidate, as a function of whether it is enabled and of its `when` bindings -/
theorem dispatchOne_eq (ev : Obj) (c : String × RuleM × Bool) :
    dispatchOne ev c = (if c.2.2 then whenBindings ev c.2.1 else .ok []).map
      fun bss => if bss.isEmpty then none else some (c.1, c.2.1, bss) := by
  unfold dispatchOne
  cases c.2.2 with
  | false => rfl
  | true => cases whenBindings ev c.2.1 <;> rfl

theorem dispatch_nil (ev : Obj) : dispatch ev [] = .ok [] := rfl

theorem dispatch_cons (ev : Obj) (c : String × RuleM × Bool) (l : List (String × RuleM × Bool)) :
    dispatch ev (c :: l) = (do let o ← dispatchOne ev c; let ds ← dispatch ev l; pure (o.toList ++ ds)) :=
  mapM_then_cons (dispatchOne ev) (List.filterMap id) Option.toList (fun o _ => by cases o <;> rfl) c l

theorem dispatch_append (ev : Obj) (l₁ l₂ : List (String × RuleM × Bool)) :
    dispatch ev (l₁ ++ l₂) = (do let d₁ ← dispatch ev l₁; let d₂ ← dispatch ev l₂; pure (d₁ ++ d₂)) :=
  mapM_then_append (dispatchOne ev) (List.filterMap id) (fun _ _ => List.filterMap_append) l₁ l₂

theorem dispatch_drop (ev : Obj) (c : String × RuleM × Bool) (post : List (String × RuleM × Bool))
    (h : dispatchOne ev c = .ok none) (pre : List (String × RuleM × Bool)) :
    dispatch ev (pre ++ c :: post) = dispatch ev (pre ++ post) := by
  rw [dispatch_append, dispatch_append, dispatch_cons, h]
  cases dispatch ev pre <;> cases dispatch ev post <;> rfl

theorem dispatchOne_disabled (ev : Obj) (id : String) (r : RuleM) : dispatchOne ev (id, r, false) = .ok none := by
  rw [dispatchOne_eq]; rfl

theorem dispatchOne_nomatch (ev : Obj) (id : String) (r : RuleM) (en : Bool)
    (h : whenBindings ev r = .ok []) : dispatchOne ev (id, r, en) = .ok none := by
  rw [dispatchOne_eq]
  cases en with
  | false => rfl
  | true => show (whenBindings ev r).map _ = _; rw [h]; rfl

theorem dispatchOne_match (ev : Obj) (id : String) (r : RuleM) (bss : List Bs)
    (h : whenBindings ev r = .ok bss) (hne : bss ≠ []) : dispatchOne ev (id, r, true) = .ok (some (id, r, bss)) := by
  rw [dispatchOne_eq]
  show (whenBindings ev r).map _ = _
  rw [h]
  cases bss with
  | nil => exact absurd rfl hne
  | cons b bs => rfl

theorem dispatchOne_some (ev : Obj) (c : String × RuleM × Bool) (d : String × RuleM × List Bs)
    (h : dispatchOne ev c = .ok (some d)) :
    c = (d.1, d.2.1, true) ∧ whenBindings ev d.2.1 = .ok d.2.2 ∧ d.2.2 ≠ [] := by
  obtain ⟨id, r, en⟩ := c
  rw [dispatchOne_eq] at h
  cases en with
  | false => cases h
  | true =>
    replace h : (whenBindings ev r).map _ = _ := h
    cases hw : whenBindings ev r with
    | error e => rw [hw] at h; cases h
    | ok bss =>
      rw [hw] at h
      cases bss with
      | nil => cases h
      | cons b bs => cases h; exact ⟨rfl, hw, List.cons_ne_nil b bs⟩

theorem dispatch_ok (ev : Obj) : ∀ (cands : List (String × RuleM × Bool)) (disp : List (String × RuleM × List Bs)),
    dispatch ev cands = .ok disp →
    disp = cands.filterMap (fun c => match dispatchOne ev c with | .ok o => o | .error _ => none) := by
  intro cands
  induction cands with
  | nil => intro disp h; cases h; rfl
  | cons c l ih =>
    intro disp h
    rw [dispatch_cons] at h
    obtain ⟨o, h1, h⟩ := Except.bind_eq_ok.1 h
    obtain ⟨ds, h2, h⟩ := Except.bind_eq_ok.1 h
    rw [List.filterMap_cons, h1, ← ih ds h2]
    cases h; cases o <;> rfl

theorem dispatch_mem (ev : Obj) (cands : List (String × RuleM × Bool)) (disp : List (String × RuleM × List Bs))
    (h : dispatch ev cands = .ok disp) (d : String × RuleM × List Bs) (hd : d ∈ disp) :
    (d.1, d.2.1, true) ∈ cands ∧ whenBindings ev d.2.1 = .ok d.2.2 ∧ d.2.2 ≠ [] := by
  rw [dispatch_ok ev cands disp h, List.mem_filterMap] at hd
  obtain ⟨c, hc, hs⟩ := hd
  cases h1 : dispatchOne ev c with
  | error e => rw [h1] at hs; cases hs
  | ok o =>
    rw [h1] at hs
    obtain ⟨rfl, hw⟩ := dispatchOne_some ev c d (h1.trans (congrArg Except.ok hs))
    exact ⟨hc, hw⟩

theorem dispatch_mem_iff (ev : Obj) (cands : List (String × RuleM × Bool)) (disp : List (String × RuleM × List Bs))
    (h : dispatch ev cands = .ok disp) (d : String × RuleM × List Bs) :
    d ∈ disp ↔ (d.1, d.2.1, true) ∈ cands ∧ whenBindings ev d.2.1 = .ok d.2.2 ∧ d.2.2 ≠ [] := by
  refine ⟨dispatch_mem ev cands disp h d, fun ⟨hc, hw, hne⟩ => ?_⟩
  rw [dispatch_ok ev cands disp h]
  exact List.mem_filterMap.2 ⟨_, hc, by rw [dispatchOne_match ev d.1 d.2.1 d.2.2 hw hne]⟩

theorem dispatch_ids_sublist {ev : Obj} {cands : List (String × RuleM × Bool)} {disp : List (String × RuleM × List Bs)}
    (h : dispatch ev cands = .ok disp) : (disp.map (·.1)).Sublist (cands.map (·.1)) := by
  rw [dispatch_ok ev cands disp h]
  clear h
  induction cands with
  | nil => exact .slnil
  | cons c l ih =>
    cases h1 : dispatchOne ev c with
    | error e => simp only [List.filterMap_cons, h1]; exact ih.cons _
    | ok o =>
      cases o with
      | none => simp only [List.filterMap_cons, h1]; exact ih.cons _
      | some d =>
        simp only [List.filterMap_cons, h1, List.map_cons]
        rw [(dispatchOne_some ev c d h1).1]
        exact ih.cons_cons _

theorem dispatch_total {ev : Obj} {cands : List (String × RuleM × Bool)}
    (h : ∀ cd ∈ cands, ∃ bss, whenBindings ev cd.2.1 = .ok bss) : ∃ disp, dispatch ev cands = .ok disp := by
  have : ∀ cd ∈ cands, ∃ o, dispatchOne ev cd = .ok o := fun cd hcd => by
    obtain ⟨bss, hb⟩ := h cd hcd
    rw [dispatchOne_eq, hb]
    cases cd.2.2 <;> exact ⟨_, rfl⟩
  obtain ⟨ds, hds⟩ := mapM_ok_of_forall this
  exact ⟨ds.filterMap id, by unfold dispatch; rw [hds]; rfl⟩

/-! ## the accumulator loops of the model are `runUntil` / `dispatch` -/

theorem loop_eq_runUntil {α β} (f : α → β × List J × Bool) (L : List α → List β → List J → List β × List J × Bool)
    (hnil : ∀ acc vals, L [] acc vals = (acc, vals, false))
    (hcons : ∀ x xs acc vals, L (x :: xs) acc vals =
      if (f x).2.2 then (acc ++ [(f x).1], vals ++ (f x).2.1, true) else L xs (acc ++ [(f x).1]) (vals ++ (f x).2.1))
    (l : List α) (acc : List β) (vals : List J) :
    L l acc vals = (acc ++ (runUntil f l).1, vals ++ (runUntil f l).2.1, (runUntil f l).2.2) := by
  induction l generalizing acc vals with
  | nil => rw [hnil, runUntil_nil]; simp
  | cons x xs ih =>
    rw [hcons]
    cases h : (f x).2.2 with
    | true => rw [runUntil_cons_abort f x xs h, if_pos rfl]
    | false => rw [runUntil_cons_go f x xs h, if_neg Bool.false_ne_true, ih]; simp

theorem conds_eq (srch : Srch) (loc : String) (ev : Obj) (id : String) (r : RuleM) (bs : List Bs)
    (cacc : List CondNode) (vals : List J) :
    processEvent.walk.conds srch loc ev id r bs cacc vals =
      (cacc ++ (runUntil (evalCond srch loc ev id r) bs).1,
       vals ++ (runUntil (evalCond srch loc ev id r) bs).2.1,
       (runUntil (evalCond srch loc ev id r) bs).2.2) :=
  loop_eq_runUntil _ (processEvent.walk.conds srch loc ev id r) (fun _ _ => processEvent.walk.conds.eq_1 ..)
    (fun _ _ _ _ => processEvent.walk.conds.eq_2 ..) bs cacc vals

theorem walk_eq (srch : Srch) (loc : String) (ev : Obj) (ds : List (String × RuleM × List Bs))
    (acc : List RuleNode) (vals : List J) :
    processEvent.walk srch loc ev ds acc vals =
      (acc ++ (runUntil (ruleStep srch loc ev) ds).1,
       vals ++ (runUntil (ruleStep srch loc ev) ds).2.1,
       (runUntil (ruleStep srch loc ev) ds).2.2) := by
  refine loop_eq_runUntil _ (processEvent.walk srch loc ev) (fun _ _ => processEvent.walk.eq_1 ..) (fun d _ _ _ => ?_)
    ds acc vals
  obtain ⟨id, r, bss⟩ := d
  rw [processEvent.walk.eq_2, conds_eq]
  simp only [List.nil_append]
  rfl

theorem find_cons (ev : Obj) (c : String × RuleM × Bool) (rest : List (String × RuleM × Bool))
    (acc : List (String × RuleM × List Bs)) :
    processEvent.find ev (c :: rest) acc =
      (match dispatchOne ev c with
       | .error e => .error e
       | .ok o => processEvent.find ev rest (acc ++ o.toList)) := by
  obtain ⟨id, r, en⟩ := c
  rw [processEvent.find.eq_2, dispatchOne_eq]
  unfold whenBindings
  cases en with
  | false => simp [Except.map]
  | true =>
    cases r.when? with
    | none => rfl
    | some pat =>
      simp only [Bool.not_true, Bool.false_eq_true, if_false, if_true]
      cases matchesJ (.obj pat) (.obj ev) with
      | error e => rfl
      | ok bss => cases bss <;> simp [Except.map]

theorem find_eq (ev : Obj) (cands : List (String × RuleM × Bool)) (acc : List (String × RuleM × List Bs)) :
    processEvent.find ev cands acc =
      (match dispatch ev cands with
       | .error e => .error e
       | .ok ds => .ok (acc ++ ds)) := by
  induction cands generalizing acc with
  | nil => rw [processEvent.find.eq_1]; exact congrArg Except.ok (List.append_nil acc).symm
  | cons c rest ih =>
    rw [find_cons, dispatch_cons]
    cases dispatchOne ev c with
    | error e => rfl
    | ok o =>
      dsimp only
      rw [ih]
      cases dispatch ev rest with
      | error e => rfl
      | ok ds => exact congrArg Except.ok (List.append_assoc acc o.toList ds)

theorem processEvent_eq (srch : Srch) (loc : String) (ev : Obj) (cands : List (String × RuleM × Bool)) :
    processEvent srch loc ev cands =
      (match dispatch ev cands with
       | .error e => { err := some e, rules := [], values := [], aborted := true }
       | .ok disp =>
         { err := none, rules := (runUntil (ruleStep srch loc ev) disp).1,
           values := (runUntil (ruleStep srch loc ev) disp).2.1,
           aborted := (runUntil (ruleStep srch loc ev) disp).2.2 }) := by
  rw [processEvent.eq_1, find_eq]
  cases dispatch ev cands with
  | error e => rfl
  | ok disp => simp only []; rw [walk_eq]; simp

theorem no_err_dispatch (srch : Srch) (loc : String) (ev : Obj) (cands : List (String × RuleM × Bool))
    (h : (processEvent srch loc ev cands).err = none) : ∃ disp, dispatch ev cands = .ok disp := by
  rw [processEvent_eq] at h
  cases hd : dispatch ev cands with
  | error e => rw [hd] at h; cases h
  | ok disp => exact ⟨disp, rfl⟩

theorem map_pairsOf (r : RuleM) (out : List Bs) :
    (pairsOf r out).map (fun p => actNodeOf p.1 p.2) = actsOf r out := by
  unfold pairsOf actsOf
  rw [List.map_flatMap]
  congr 1; funext b
  rw [List.map_map]; rfl

theorem evalCond_eq (srch : Srch) (loc : String) (ev : Obj) (id : String) (r : RuleM) (bs : Bs) :
    evalCond srch loc ev id r bs =
      (match condResult srch r (condEnv loc ev id bs) with
       | .error e => ({ bs := condEnv loc ev id bs, err := some e, acts := [] }, [], true)
       | .ok out =>
         if r.serial then
           ({ bs := condEnv loc ev id bs, err := none, acts := (evalCond.go (pairsOf r out) [] []).1 },
            (evalCond.go (pairsOf r out) [] []).2.1, (evalCond.go (pairsOf r out) [] []).2.2)
         else
           ({ bs := condEnv loc ev id bs, err := none, acts := (pairsOf r out).map (fun p => actNodeOf p.1 p.2) },
            okValues ((pairsOf r out).map (fun p => actNodeOf p.1 p.2)), false)) := by
  rw [evalCond.eq_1]
  unfold condResult condEnv
  generalize r.condition = c
  cases c <;> rfl

theorem evalCond_err (srch : Srch) (loc : String) (ev : Obj) (id : String) (r : RuleM) (bs : Bs) (e : LErr)
    (h : condResult srch r (condEnv loc ev id bs) = .error e) :
    evalCond srch loc ev id r bs = ({ bs := condEnv loc ev id bs, err := some e, acts := [] }, [], true) := by
  rw [evalCond_eq, h]

theorem actNodeOf_ok (b : Bs) (a : J) (v : J) (h : execAction a b = .ok v) :
    actNodeOf b a = { ok := true, value := v } := by unfold actNodeOf; rw [h]
theorem actNodeOf_err (b : Bs) (a : J) (e : LErr) (h : execAction a b = .error e) :
    actNodeOf b a = failedNode := by unfold actNodeOf; rw [h]; rfl

theorem okValues_nil : okValues [] = [] := rfl
theorem okValues_cons_ok (v : J) (l : List ActNode) : okValues ({ ok := true, value := v } :: l) = v :: okValues l := rfl
theorem okValues_cons_failed (l : List ActNode) : okValues (failedNode :: l) = okValues l := rfl
theorem okValues_append (l1 l2 : List ActNode) : okValues (l1 ++ l2) = okValues l1 ++ okValues l2 := by
  unfold okValues; rw [List.filter_append, List.map_append]

theorem okValues_flatMap {α} (l : List α) (f : α → List ActNode) :
    okValues (l.flatMap f) = l.flatMap (fun x => okValues (f x)) := by
  induction l with
  | nil => rfl
  | cons x xs ih => rw [List.flatMap_cons, List.flatMap_cons, okValues_append, ih]

theorem okValues_map {α} (g : α → ActNode) (l : List α) : okValues (l.map g) = l.flatMap fun x => okValues [g x] := by
  rw [List.map_eq_flatMap, okValues_flatMap]

/-! ## the actions under a condition: the third walk

The (binding, action) pairs are walked like the `when` bindings and the rules; a failed action aborts the walk only
under `serialActions`. -/

/-- one (binding, action) pair as a step of `runUntil`: its leaf, its value if it completed, and whether the walk stops
here (a failed action of a serial rule) -/
def condStep (serial : Bool) (p : Bs × J) : ActNode × List J × Bool :=
  (actNodeOf p.1 p.2, okValues [actNodeOf p.1 p.2], serial && !(actNodeOf p.1 p.2).ok)

theorem condStep_ok (s : Bool) {b : Bs} {a v : J} (h : execAction a b = .ok v) :
    condStep s (b, a) = ({ ok := true, value := v }, [v], false) := by
  unfold condStep; rw [actNodeOf_ok b a v h]; cases s <;> rfl

theorem condStep_err (s : Bool) {b : Bs} {a : J} {e : LErr} (h : execAction a b = .error e) :
    condStep s (b, a) = (failedNode, [], s) := by
  unfold condStep; rw [actNodeOf_err b a e h]; cases s <;> rfl

theorem condStep_go (p : Bs × J) : (condStep true p).2.2 = false ↔ ∃ v, execAction p.2 p.1 = .ok v := by
  obtain ⟨b, a⟩ := p
  cases h : execAction a b with
  | ok v => rw [condStep_ok true h]; exact ⟨fun _ => ⟨v, rfl⟩, fun _ => rfl⟩
  | error e => rw [condStep_err true h]; exact ⟨fun h => (nomatch h), fun ⟨_, h⟩ => (nomatch h)⟩

theorem serialRun_eq : ∀ ps, serialRun ps = runUntil (condStep true) ps
  | [] => by rw [serialRun]; rfl
  | (b, a) :: rest => by
    rw [serialRun, serialRun_eq rest]
    cases h : execAction a b with
    | ok v =>
      rw [runUntil_cons_go _ _ _ (show (condStep true (b, a)).2.2 = false by rw [condStep_ok true h]),
        condStep_ok true h]
      rfl
    | error e =>
      rw [runUntil_cons_abort _ _ _ (show (condStep true (b, a)).2.2 = true by rw [condStep_err true h]),
        condStep_err true h]

theorem go_eq (pairs : List (Bs × J)) (acc : List ActNode) (vals : List J) :
    evalCond.go pairs acc vals =
      (acc ++ (runUntil (condStep true) pairs).1, vals ++ (runUntil (condStep true) pairs).2.1,
       (runUntil (condStep true) pairs).2.2) :=
  loop_eq_runUntil (condStep true) evalCond.go (fun _ _ => evalCond.go.eq_1 ..)
    (fun p rest acc vals => by
      obtain ⟨b, a⟩ := p
      rw [evalCond.go.eq_2]
      cases h : execAction a b with
      | ok v => rw [condStep_ok true h]; rfl
      | error e => rw [condStep_err true h, if_pos rfl, List.append_nil]; rfl)
    pairs acc vals

theorem evalCond_ok (srch : Srch) (loc : String) (ev : Obj) (id : String) (r : RuleM) (bs : Bs)
    (out : List Bs) (h : condResult srch r (condEnv loc ev id bs) = .ok out) :
    evalCond srch loc ev id r bs =
      ({ bs := condEnv loc ev id bs, err := none, acts := (runUntil (condStep r.serial) (pairsOf r out)).1 },
        (runUntil (condStep r.serial) (pairsOf r out)).2.1, (runUntil (condStep r.serial) (pairsOf r out)).2.2) := by
  rw [evalCond_eq, h]
  cases r.serial with
  | true =>
    simp only [if_true]
    rw [go_eq]
    simp
  | false =>
    simp only [Bool.false_eq_true, if_false]
    rw [runUntil_all (condStep false) _ fun _ _ => rfl, okValues_map]
    rfl

theorem evalCond_all (srch : Srch) (loc : String) (ev : Obj) (id : String) (r : RuleM) (bs : Bs)
    (out : List Bs) (h : condResult srch r (condEnv loc ev id bs) = .ok out)
    (hgo : ∀ p ∈ pairsOf r out, (condStep r.serial p).2.2 = false) :
    evalCond srch loc ev id r bs =
      ({ bs := condEnv loc ev id bs, err := none, acts := actsOf r out }, okValues (actsOf r out), false) := by
  rw [evalCond_ok srch loc ev id r bs out h, runUntil_all _ _ hgo, ← map_pairsOf, okValues_map]
  rfl

theorem evalCond_nonserial (srch : Srch) (loc : String) (ev : Obj) (id : String) (r : RuleM) (bs : Bs)
    (out : List Bs) (h : condResult srch r (condEnv loc ev id bs) = .ok out) (hs : r.serial = false) :
    evalCond srch loc ev id r bs =
      ({ bs := condEnv loc ev id bs, err := none, acts := actsOf r out }, okValues (actsOf r out), false) :=
  evalCond_all srch loc ev id r bs out h (by rw [hs]; exact fun _ _ => rfl)

theorem walk_values (s : Bool) (ps : List (Bs × J)) :
    (runUntil (condStep s) ps).2.1 = okValues (runUntil (condStep s) ps).1 := by
  rw [runUntil_values (condStep s) (fun n => okValues [n]) ps fun _ _ => rfl]
  exact (okValues_map id _).symm.trans (by rw [List.map_id])

theorem evalCond_bs (srch : Srch) (loc : String) (ev : Obj) (id : String) (r : RuleM) (bs : Bs) :
    (evalCond srch loc ev id r bs).1.bs = condEnv loc ev id bs := by
  cases h : condResult srch r (condEnv loc ev id bs) with
  | error e => rw [evalCond_err _ _ _ _ _ _ e h]
  | ok out => rw [evalCond_ok _ _ _ _ _ _ out h]

theorem evalCond_values (srch : Srch) (loc : String) (ev : Obj) (id : String) (r : RuleM) (bs : Bs) :
    (evalCond srch loc ev id r bs).2.1 = okValues (evalCond srch loc ev id r bs).1.acts := by
  cases h : condResult srch r (condEnv loc ev id bs) with
  | error e => rw [evalCond_err _ _ _ _ _ _ e h]; rfl
  | ok out => rw [evalCond_ok _ _ _ _ _ _ out h]; exact walk_values _ _

theorem evalCond_spec (srch : Srch) (loc : String) (ev : Obj) (id : String) (r : RuleM) :
    StepSpec (evalCond srch loc ev id r) (condNodeSpec srch loc ev id r)
      (fun b => ∃ out, condResult srch r (condEnv loc ev id b) = .ok out) := by
  intro b h
  cases hc : condResult srch r (condEnv loc ev id b) with
  | error e => rw [evalCond_err _ _ _ _ _ _ e hc] at h; cases h
  | ok out =>
    refine ⟨?_, out, hc⟩
    rw [evalCond_ok _ _ _ _ _ _ out hc] at h
    rw [evalCond_all _ _ _ _ _ _ out hc ((runUntil_not_aborted _ _).mp h), condNodeSpec, condOut, hc]

/-! ## whole trees -/

theorem ruleStep_values (srch : Srch) (loc : String) (ev : Obj) (d : String × RuleM × List Bs) :
    (ruleStep srch loc ev d).2.1 = (ruleStep srch loc ev d).1.conds.flatMap (fun c => okValues c.acts) := by
  unfold ruleStep
  exact runUntil_values _ (fun (c : CondNode) => okValues c.acts) d.2.2 (fun b _ => evalCond_values srch loc ev d.1 d.2.1 b)

theorem ruleStep_spec (srch : Srch) (loc : String) (ev : Obj) :
    StepSpec (ruleStep srch loc ev) (ruleNodeSpec srch loc ev)
      (fun d => ∀ b ∈ d.2.2, ∃ out, condResult srch d.2.1 (condEnv loc ev d.1 b) = .ok out) :=
  fun d h =>
    have h2 := runUntil_spec (evalCond_spec srch loc ev d.1 d.2.1) d.2.2 h
    ⟨congrArg (fun c => ({ id := d.1, bss := d.2.2, conds := c } : RuleNode)) h2.1, h2.2⟩

theorem tree_not_aborted (srch : Srch) (loc : String) (ev : Obj) (cands : List (String × RuleM × Bool))
    (disp : List (String × RuleM × List Bs)) (hd : dispatch ev cands = .ok disp)
    (h : (processEvent srch loc ev cands).aborted = false) :
    (processEvent srch loc ev cands).rules = disp.map (ruleNodeSpec srch loc ev) ∧
    ∀ d ∈ disp, ∀ b ∈ d.2.2, ∃ out, condResult srch d.2.1 (condEnv loc ev d.1 b) = .ok out := by
  rw [processEvent_eq, hd] at h ⊢
  exact runUntil_spec (ruleStep_spec srch loc ev) disp h

/-! ## the leaves, the environment of a condition, what an action sees -/

theorem actsOf_length (r : RuleM) (out : List Bs) : (actsOf r out).length = out.length * r.actions.length := by
  unfold actsOf
  induction out with
  | nil => simp
  | cons b bs ih =>
    rw [List.flatMap_cons, List.length_append, ih, List.length_map, List.length_cons, Nat.succ_mul, Nat.add_comm]

theorem actsOf_split (r : RuleM) (p q : List J) (a : J) (h : r.actions = p ++ a :: q) (out : List Bs) :
    actsOf r out = out.flatMap (fun b => p.map (actNodeOf b) ++ actNodeOf b a :: q.map (actNodeOf b)) := by
  unfold actsOf; rw [h]
  congr 1; funext b
  rw [List.map_append, List.map_cons]

theorem addDefault_get (bs : Bs) (k : String) (v : J) (k' : String) :
    Bs.get? (addDefault bs k v) k' = (Bs.get? bs k').or (Bs.get? [(k, v)] k') := by
  unfold addDefault
  cases h : Bs.get? bs k with
  | none =>
    simp only [Option.isSome_none, Bool.false_eq_true, if_false]
    rw [Bs.get?_append]
  | some w =>
    simp only [Option.isSome_some, if_true]
    rw [get?_cons, get?_nil]
    by_cases hk : k' = k
    · subst hk; rw [h]; rfl
    · have : (k' == k) = false := by simpa using hk
      rw [this]; simp

theorem addDefault_prefix (bs : Bs) (k : String) (v : J) : bs <+: addDefault bs k v := by
  unfold addDefault
  split
  · exact List.prefix_refl _
  · exact List.prefix_append _ _

theorem condEnv_get (loc : String) (ev : Obj) (id : String) (bs : Bs) (k : String) :
    Bs.get? (condEnv loc ev id bs) k =
      (Bs.get? bs k).or (Bs.get? [("?event", .obj ev), ("?location", .str loc), ("?ruleId", .str id)] k) := by
  unfold condEnv
  rw [addDefault_get, addDefault_get, addDefault_get]
  rw [show [("?event", J.obj ev), ("?location", J.str loc), ("?ruleId", J.str id)]
        = [("?event", J.obj ev)] ++ ([("?location", J.str loc)] ++ [("?ruleId", J.str id)]) from rfl,
      Bs.get?_append, Bs.get?_append]
  cases Bs.get? bs k <;> cases Bs.get? [("?event", J.obj ev)] k <;> rfl

theorem execAction_obj (o : Obj) (b : Bs) :
    execAction (.obj o) b = evalTmpl ((Obj.get? o "verif_tmpl").getD .null) (stripQ b) := rfl

theorem execAction_nonobj (a : J) (b : Bs) (h : ∀ o, a ≠ .obj o) : execAction a b = .error "script" := by
  cases a with
  | obj o => exact absurd rfl (h o)
  | _ => rfl

theorem execAction_echo (a : J) (b : Bs) (h : isEcho a) : execAction a b = .ok (.obj (stripQ b)) := by
  obtain ⟨o, t, rfl, h1, h2⟩ := h
  rw [execAction_obj, h1]
  exact evalTmpl_echo t _ h2

/-! ## aborted runs: what is in the tree is a prefix of the full walk -/

theorem tree_prefix (srch : Srch) (loc : String) (ev : Obj) (cands : List (String × RuleM × Bool))
    (disp : List (String × RuleM × List Bs)) (hd : dispatch ev cands = .ok disp) :
    ∃ n, (processEvent srch loc ev cands).rules = (disp.take n).map (fun d => (ruleStep srch loc ev d).1) := by
  rw [processEvent_eq, hd]
  exact runUntil_prefix (ruleStep srch loc ev) disp

theorem tree_nodes (srch : Srch) (loc : String) (ev : Obj) (cands : List (String × RuleM × Bool))
    (rn : RuleNode) (hrn : rn ∈ (processEvent srch loc ev cands).rules) :
    ∃ disp, dispatch ev cands = .ok disp ∧ ∃ d ∈ disp, rn = (ruleStep srch loc ev d).1 := by
  cases hd : dispatch ev cands with
  | error e => rw [processEvent_eq, hd] at hrn; cases hrn
  | ok disp =>
    obtain ⟨n, hn⟩ := tree_prefix srch loc ev cands disp hd
    rw [hn, List.mem_map] at hrn
    obtain ⟨d, hd1, hd2⟩ := hrn
    exact ⟨disp, rfl, d, List.mem_of_mem_take hd1, hd2.symm⟩

/-! ## changing one rule's actions: runs of related steps, `dispatch` when one candidate's rule is replaced -/

theorem runUntil_rel {α β} (f f' : α → β × List J × Bool) (D : α → α → Prop) (R : β → β → Prop)
    (h : ∀ x x', D x x' → (f x).2.2 = (f' x').2.2 ∧ R (f x).1 (f' x').1) (l l' : List α) (hl : Pointwise D l l') :
    (runUntil f l).2.2 = (runUntil f' l').2.2 ∧ Pointwise R (runUntil f l).1 (runUntil f' l').1 := by
  induction hl with
  | nil => exact ⟨rfl, .nil⟩
  | @cons x x' xs xs' hx _ ih =>
    obtain ⟨hab, hr⟩ := h x x' hx
    cases ha : (f x).2.2 with
    | true =>
      rw [runUntil_cons_abort f x xs ha, runUntil_cons_abort f' x' xs' (hab ▸ ha)]
      exact ⟨rfl, .cons hr .nil⟩
    | false =>
      rw [runUntil_cons_go f x xs ha, runUntil_cons_go f' x' xs' (hab ▸ ha)]
      exact ⟨ih.1, .cons hr ih.2⟩

theorem ruleStep_rel (srch : Srch) (loc : String) (ev : Obj) (id : String) (r r' : RuleM) (bss : List Bs)
    (hc : r'.condition = r.condition) (hs : r.serial = false) (hs' : r'.serial = false) :
    (ruleStep srch loc ev (id, r, bss)).2.2 = (ruleStep srch loc ev (id, r', bss)).2.2 ∧
    NodeRel id r r' (ruleStep srch loc ev (id, r, bss)).1 (ruleStep srch loc ev (id, r', bss)).1 := by
  have hcr : ∀ env, condResult srch r' env = condResult srch r env := fun env => by unfold condResult; rw [hc]
  obtain ⟨h1, h2⟩ := runUntil_rel (evalCond srch loc ev id r) (evalCond srch loc ev id r') Eq (CondRel r r')
    (fun b _ hb => by
      subst hb
      cases h : condResult srch r (condEnv loc ev id b) with
      | error e =>
        rw [evalCond_err _ _ _ _ r _ e h, evalCond_err _ _ _ _ r' _ e ((hcr _).trans h)]
        exact ⟨rfl, rfl, rfl, [], rfl, rfl⟩
      | ok out =>
        rw [evalCond_nonserial _ _ _ _ r _ out h hs, evalCond_nonserial _ _ _ _ r' _ out ((hcr _).trans h) hs']
        exact ⟨rfl, rfl, rfl, out, rfl, rfl⟩)
    bss bss (pointwise_refl _ bss fun _ _ => rfl)
  exact ⟨h1, Or.inr ⟨rfl, rfl, rfl, h2⟩⟩

theorem dispatchOne_change (ev : Obj) (id : String) (r r' : RuleM) (en : Bool) (hw : r'.when? = r.when?) :
    dispatchOne ev (id, r', en) = (dispatchOne ev (id, r, en)).map (fun o => o.map (fun d => (d.1, r', d.2.2))) := by
  rw [dispatchOne_eq, dispatchOne_eq, show whenBindings ev r' = whenBindings ev r by unfold whenBindings; rw [hw]]
  cases (if (id, r, en).2.2 then whenBindings ev r else .ok []) with
  | error e => rfl
  | ok bss => cases bss <;> rfl

theorem dispatch_change (ev : Obj) (id : String) (r r' : RuleM) (en : Bool) (post : List (String × RuleM × Bool))
    (hw : r'.when? = r.when?) : ∀ (pre : List (String × RuleM × Bool)),
    (∃ e, dispatch ev (pre ++ (id, r, en) :: post) = .error e ∧ dispatch ev (pre ++ (id, r', en) :: post) = .error e) ∨
    (∃ disp disp', dispatch ev (pre ++ (id, r, en) :: post) = .ok disp ∧
      dispatch ev (pre ++ (id, r', en) :: post) = .ok disp' ∧ Pointwise (DRel id r r') disp disp') := by
  intro pre
  have hrefl : ∀ ds, Pointwise (DRel id r r') ds ds := fun ds => pointwise_refl _ ds fun _ _ => Or.inl rfl
  rw [dispatch_append, dispatch_append, dispatch_cons, dispatch_cons, dispatchOne_change ev id r r' en hw]
  cases dispatch ev pre with
  | error e => exact .inl ⟨e, rfl, rfl⟩
  | ok d₁ =>
    cases h1 : dispatchOne ev (id, r, en) with
    | error e => exact .inl ⟨e, rfl, rfl⟩
    | ok o =>
      cases dispatch ev post with
      | error e => exact .inl ⟨e, rfl, rfl⟩
      | ok d₂ =>
        refine .inr ⟨_, _, rfl, rfl, pointwise_append (hrefl d₁) (pointwise_append ?_ (hrefl d₂))⟩
        cases o with
        | none => exact .nil
        | some d =>
          obtain ⟨hc, _⟩ := dispatchOne_some ev _ d h1
          cases hc
          exact .cons (Or.inr ⟨d.2.2, rfl, rfl⟩) .nil

end EventsProofs
