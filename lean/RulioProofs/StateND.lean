import RulioProofs.StateScan
import RulioProofs.StateBasic
import RulioProofs.StateRi
import RulioProofs.ExceptBind
import RulioProofs.PrepareFact

/-! # No function of the State model answers the literal error `"diverge"`

`"diverge"` is produced only by `doAncestors` (and its inner `loop`) on fuel exhaustion. `ND r` says that `r` is not
that error. Each proof walks a model definition: a leaf is an error literal different from `"diverge"`, a mapped
index/matcher error (`perr`, `merr`), or an error propagated from a callee (`genId`, `setExpires`, `checkExpiration`:
read off the list of their errors in `PrepareFact`). `CloseDiverge` goes on with the Location
methods and Systems. (C09) -/

def ND {α} (r : Except LErr α) : Prop := ∀ e, r = .error e → e ≠ "diverge"

theorem ND.ok {α} (a : α) : ND (.ok a : Except LErr α) := fun _ h => by cases h
theorem ND.lit {α} {e : LErr} (h : e ≠ "diverge") : ND (.error e : Except LErr α) := fun _ h' => by cases h'; exact h
theorem ND.ne {α} {r : Except LErr α} (h : ND r) : r ≠ .error "diverge" := fun h' => h _ h' rfl
theorem ND.of_ne {α} {r : Except LErr α} (h : r ≠ .error "diverge") : ND r := fun _ h' hd => h (hd ▸ h')
theorem ND.err {α β} {r : Except LErr α} {e : LErr} (h : ND r) (he : r = .error e) : ND (.error e : Except LErr β) :=
  ND.lit (h e he)
theorem ND.err₂ {σ α β} {p : σ × Except LErr α} {s : σ} {e : LErr} (h : ND p.2) (he : p = (s, .error e)) :
    ND (.error e : Except LErr β) := h.err (congrArg Prod.snd he)

theorem ND.bind {α β} {m : Except LErr α} {f : α → Except LErr β} (hm : ND m) (hf : ∀ a, ND (f a)) :
    ND (m >>= f) :=
  fun e h => (Except.bind_eq_error.1 h).elim (hm e) fun ⟨a, _, h⟩ => hf a e h

theorem ND.ite {α} {c : Prop} [Decidable c] {a b : Except LErr α} (ha : ND a) (hb : ND b) :
    ND (if c then a else b) := by
  split <;> assumption

theorem ND.map {α β} {r : Except LErr α} (h : ND r) (f : α → β) : ND (r.map f) := by
  cases r with
  | error e => exact h.err rfl
  | ok a => exact ND.ok _

theorem perr_nd (e : PErr) : perr e ≠ "diverge" := by cases e <;> simp [perr]
theorem merr_nd (e : MErr) : merr e ≠ "diverge" := by cases e <;> simp [merr]

theorem matchesJ_nd (p d : J) : ND (matchesJ p d) := by
  unfold matchesJ
  split
  · exact ND.ok _
  · exact ND.lit (merr_nd _)

theorem checkExpiration_nd (f : Obj) (now : Int) : ND (checkExpiration f now) :=
  fun _ h => by rw [checkExpiration_err h]; simp

theorem getRulePattern_nd (r : Obj) : ND (getRulePattern r) :=
  fun _ h => by rw [getRulePattern_err h]; decide

theorem extractRule_nd (f : Obj) (b : Bool) : ND (extractRule f b) := by
  unfold extractRule
  split
  · split <;> exact ND.ok _
  · exact ND.ite (ND.lit (by simp)) (ND.ok _)
  · exact ND.ite (ND.lit (by simp)) (ND.ok _)

theorem PI.riRem_nd (ri : PI) (id : String) (r : Obj) : ND (PI.riRem ri id r) := fun _ h => by
  rcases PI.riRem_error h with rfl | ⟨pe, rfl⟩
  · decide
  · exact perr_nd pe

theorem unindexRule_nd (s : St) (id : String) (r : Obj) : ND (s.unindexRule id r) := by
  rw [St.unindexRule_eq_riRem]; exact (PI.riRem_nd _ _ _).map _

theorem tiSearch_nd (ti : TI) (ts : List String) : ND (TI.search ti ts) := by
  unfold TI.search
  split
  · exact ND.lit (by simp)
  · exact ND.ok _

/-! ## removal, search and reads of the two State implementations -/

theorem reTest_nd (p : Obj) (id : String) (fact : Obj) : ND (reTest p id fact) := by
  unfold reTest
  split
  · next h => exact (matchesJ_nd _ _).err h
  · exact ND.ok _

/-- the indexed `Search` loop logs the errors of its removals and goes on: it can only fail in its re-match -/
theorem isearchLoop_nd (fuel : Nat) (s : St) (p : Obj) (ids : List String) (now : Int) (acc) :
    ND (St.isearchLoop fuel s p ids now acc).2 := by
  rw [isearchLoop_eq]
  exact St.readLoop_err (R := isearchOps p now) (P := (· ≠ "diverge")) (by decide) nofun nofun
    (fun _ id fact => reTest_nd p id fact) _ _ _ _

theorem irem_group_nd (fuel : Nat) :
    (∀ s id now, ND (St.irem fuel s id now).2) ∧
    (∀ s id now, ND (St.ideps fuel s id now).2) ∧
    (∀ s ids now, ND (St.iremAll fuel s ids now).2) ∧
    (∀ s p now, ND (St.isearch fuel s p now).2) := by
  induction fuel with
  | zero =>
    exact ⟨fun _ _ _ => ND.lit (by simp), fun _ _ _ => ND.lit (by simp), fun _ _ _ => ND.lit (by simp),
      fun _ _ _ => ND.lit (by simp)⟩
  | succ fuel ih =>
    obtain ⟨ihrem, ihdeps, ihall, ihsearch⟩ := ih
    refine ⟨?_, ?_, ?_, ?_⟩
    · intro s id now
      simp only [St.irem]
      split
      · split
        · next h =>
            revert h; split
            · exact fun h => (unindexRule_nd _ _ _).err h
            · exact fun h => nomatch h
        · split
          · next h => exact (ihdeps _ _ _).err₂ h
          · exact ND.ok _
      · split
        · next h => exact (ihdeps _ _ _).err₂ h
        · exact ND.ok _
    · intro s id now
      simp only [St.ideps]
      split
      · exact ND.ok _
      · split
        · next h => exact (ihsearch _ _ _).err₂ h
        · exact ihall _ _ _
    · intro s ids now
      simp only [St.iremAll]
      split
      · exact ND.ok _
      · split
        · next h => exact (ihrem _ _ _).err₂ h
        · exact ihall _ _ _
    · intro s p now
      simp only [St.isearch]
      split
      · next h =>
          revert h; split
          · exact fun h => nomatch h
          · exact fun h => (tiSearch_nd _ _).err h
      · exact isearchLoop_nd _ _ _ _ _ _

theorem irem_nd (fuel : Nat) (s : St) (id : String) (now : Int) : ND (St.irem fuel s id now).2 :=
  (irem_group_nd fuel).1 s id now
theorem isearch_nd (fuel : Nat) (s : St) (p : Obj) (now : Int) : ND (St.isearch fuel s p now).2 :=
  (irem_group_nd fuel).2.2.2 s p now

theorem lrem_group_nd (fuel : Nat) :
    (∀ s id now, ND (St.lrem fuel s id now).2) ∧
    (∀ s ids now, ND (St.lremAll fuel s ids now).2) ∧
    (∀ s p now, ND (St.lsearch fuel s p now).2) ∧
    (∀ s p ids now acc, ND (St.lsearchLoop fuel s p ids now acc).2) := by
  induction fuel with
  | zero =>
    exact ⟨fun _ _ _ => ND.lit (by simp), fun _ _ _ => ND.lit (by simp), fun _ _ _ => ND.lit (by simp),
      fun _ _ _ _ _ => ND.lit (by simp)⟩
  | succ fuel ih =>
    obtain ⟨ihrem, ihall, ihsearch, ihloop⟩ := ih
    refine ⟨?_, ?_, ?_, ?_⟩
    · intro s id now
      simp only [St.lrem]
      split
      · exact ND.ok _
      · split
        · next h => exact (ihsearch _ _ _).err₂ h
        · split
          · next h => exact (ihall _ _ _).err₂ h
          · exact ND.ok _
    · intro s ids now
      simp only [St.lremAll]
      split
      · exact ND.ok _
      · split
        · next h => exact (ihrem _ _ _).err₂ h
        · exact ihall _ _ _
    · intro s p now
      simp only [St.lsearch]
      exact ihloop _ _ _ _ _
    · intro s p ids now acc
      simp only [lsearchLoop_eq] at ihloop ⊢
      refine St.readLoop_err_step (R := lsearchOps p now) (P := (· ≠ "diverge")) (fun fact => checkExpiration_nd fact now)
        (fun s id e h => ?_) (fun _ id fact => reTest_nd p id fact) (ihloop · p · now) s ids acc
      -- the removal's error, if any, is the one that stops the loop
      have := ihrem s id now
      simp only [lsearchOps, strictRem] at h
      split at h <;> cases h
      exact this e (by assumption)

theorem lrem_nd (fuel : Nat) (s : St) (id : String) (now : Int) : ND (St.lrem fuel s id now).2 :=
  (lrem_group_nd fuel).1 s id now
theorem lsearch_nd (fuel : Nat) (s : St) (p : Obj) (now : Int) : ND (St.lsearch fuel s p now).2 :=
  (lrem_group_nd fuel).2.2.1 s p now

theorem ruleBodyAt_nd (s : St) (id : String) : ND (ruleBodyAt s id) := by
  unfold ruleBodyAt
  split
  · exact ND.lit (by simp)
  · split
    · next h => exact (extractRule_nd _ _).err h
    · exact ND.ok _
    · exact ND.lit (by simp)

theorem iFindRules_nd (s : St) (ev : Obj) (now : Int) : ND (s.iFindRules ev now).2 := by
  unfold St.iFindRules
  split
  · exact ND.lit (perr_nd _)
  · rw [iFindRules_go_eq]
    exact St.readLoop_err (R := iFindOps now) (P := (· ≠ "diverge")) (by decide) nofun nofun
      (fun s id _ => (ruleBodyAt_nd s id).map some) _ _ _ _

theorem linCand_nd (ev : Obj) (e : String × Obj) : ND (linCand ev e) := by
  unfold linCand
  split
  · exact ND.ok _
  · split
    · split
      · split
        · next h => exact (matchesJ_nd _ _).err h
        · exact ND.ok _
      · exact ND.ok _
    · exact ND.lit (by simp)

theorem lFindRules_nd (s : St) (ev : Obj) (now : Int) : ND (s.lFindRules ev now).2 := by
  unfold St.lFindRules
  rw [lFindRules_go_eq]
  refine St.readLoop_err (R := lFindOps ev now) (P := (· ≠ "diverge")) (by decide) (fun fact => checkExpiration_nd fact now)
    (fun _ s id e h => ?_) (fun _ id fact => linCand_nd ev (id, fact)) _ _ _ _
  simp only [lFindOps, strictRem] at h
  split at h <;> cases h
  exact lrem_nd _ s id now e (by assumption)

theorem St.search_nd (s : St) (p : Obj) (now : Int) : ND (s.search p now).2 := by
  unfold St.search; split; exact isearch_nd _ _ _ _; exact lsearch_nd _ _ _ _
theorem St.findRules_nd (s : St) (ev : Obj) (now : Int) : ND (s.findRules ev now).2 := by
  unfold St.findRules; split; exact iFindRules_nd _ _ _; exact lFindRules_nd _ _ _
theorem St.rem_nd (s : St) (id : String) (now : Int) : ND (s.rem id now).2 := by
  unfold St.rem; split; exact irem_nd _ _ _ _; exact lrem_nd _ _ _ _
theorem St.get_nd (s : St) (id : String) (now : Int) : ND (s.get id now).2 := by
  rw [St.get_eq]
  split
  · exact ND.lit (by simp)
  · split
    · next h => exact (checkExpiration_nd _ _).err h
    · split
      · next h => exact (St.rem_nd _ _ _).err₂ h
      · exact ND.lit (by simp)
    · exact ND.ok _

/-! ## writes -/

theorem genId_nd (f : Obj) (g fr : String) : ND (genId f g fr) :=
  fun _ h => by rcases genId_err h with rfl | rfl | rfl <;> simp

theorem setExpires_nd (f : Obj) (now : Int) : ND (setExpires f now) :=
  fun _ h => by rcases setExpires_err h with rfl | rfl | rfl <;> simp

theorem prepareFact_nd (g fr : String) (x : Obj) (now : Int) : ND (prepareFact g fr x now) := by
  unfold prepareFact
  refine ND.bind (genId_nd _ _ _) fun id => ND.bind (setExpires_nd _ _) fun y => ?_
  split
  exact ND.ite (ND.lit (by simp)) (ND.ok _)

theorem PI.riOpt_nd {ri : PI} {id : String} {o : Option Obj} {e : LErr} (h : (PI.riOpt ri id o).2 = some e) :
    e ≠ "diverge" := by
  unfold PI.riOpt at h
  split at h
  · split at h
    · cases h
    · unfold PI.riAdd at h
      split at h
      · next hp => cases h; exact getRulePattern_nd _ _ hp
      · cases h; simp
      · next pat _ =>
        cases hpe : (piAdd ri pat id).2 with
        | none => rw [hpe] at h; cases h
        | some pe => rw [hpe] at h; cases h; exact perr_nd _
  · cases h

/-- an error of the index transaction is the one `unindexRule` gave for the stored rule or `indexRule` for the new one -/
theorem PI.swap_nd {ri : PI} {id : String} {old rule : Option Obj} {e : LErr} (h : (PI.swap ri id old rule).2 = some e) :
    e ≠ "diverge" := by
  unfold PI.swap at h
  split at h
  · next hr =>
    cases h
    unfold PI.riRemOpt at hr
    split at hr
    · exact PI.riRem_nd _ _ _ _ hr
    · cases hr
  · split at h
    · cases h
    · next hio => cases h; exact PI.riOpt_nd (congrArg Prod.snd hio)

theorem iadd_nd (s : St) (g : String) (x : Obj) (now : Int) : ND (s.iadd g x now).2 := by
  rw [St.iadd_unfold]
  split
  · next h => exact (prepareFact_nd _ _ _ _).err h
  · split
    · next h => exact (extractRule_nd _ _).err h
    · unfold iaddCore
      split
      · next hsw => exact ND.lit (PI.swap_nd (congrArg Prod.snd hsw))
      · exact ND.ok _

theorem iAdd_nd (s : St) (g : String) (x : Obj) (now : Int) : ND (s.iAdd g x now).2 := by
  unfold St.iAdd
  split
  · next h => exact (iadd_nd _ _ _ _).err₂ h
  · exact ND.ok _

theorem lAdd_nd (s : St) (g : String) (x : Obj) (now : Int) : ND (s.lAdd g x now).2 := by
  unfold St.lAdd
  split
  · next h => exact (prepareFact_nd _ _ _ _).err h
  · exact ND.ok _

theorem St.add_nd (s : St) (g : String) (x : Obj) (now : Int) : ND (s.add g x now).2 := by
  unfold St.add; split; exact iAdd_nd _ _ _ _; exact lAdd_nd _ _ _ _

theorem iLoad_go_nd (now : Int) : ∀ (docs : List (String × J)) (s : St), ND (St.iLoad.go now s docs) := by
  intro docs
  induction docs with
  | nil => exact fun s => ND.ok _
  | cons d rest ih =>
    intro s
    obtain ⟨id, doc⟩ := d
    simp only [St.iLoad.go]
    split
    · split
      · exact ih _
      · exact ih _
      · next _ h => exact (iadd_nd _ _ _ _).err₂ h
    · exact ND.lit (by simp)

theorem lLoad_go_nd : ∀ (docs : List (String × J)) (acc : List (String × Obj)), ND (St.lLoad.go docs acc) := by
  intro docs
  induction docs with
  | nil => exact fun acc => ND.ok _
  | cons d rest ih =>
    intro acc
    obtain ⟨id, doc⟩ := d
    cases doc <;> simp only [St.lLoad.go] <;> first | exact ih _ | exact ND.lit (by simp)

theorem St.reload_nd (s : St) (now : Int) : ND (s.reload now) := by
  unfold St.reload
  split
  · exact (iLoad_go_nd _ _ _).map _
  · refine ND.map ?_ _
    unfold St.lLoad
    split
    · exact ND.ok _
    · next h => exact (lLoad_go_nd _ _).err h
