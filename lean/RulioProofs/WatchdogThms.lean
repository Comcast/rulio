import RulioProofs.WatchdogReach

/-! # C14: what holds in every reachable control state (by evaluation), lifted to all schedules -/

namespace Watchdog

theorem init_k (c : Cfg) : (init c).k = Ctl.init := rfl

/-! ## the call ends, and with the script's own outcome: no watchdog installed, or the timer does not expire -/

/-- the caller can only get the script's own outcome; when nothing can move the state is `final`; every effective
step decreases the measure -/
def OwnOutcome (c : KCfg) (final : Ctl → Prop) (k : Ctl) : Prop :=
  (∀ r, k.m = .ret r → r = .own) ∧ k.m ≠ .panicked ∧
  ∀ z, ((∀ t, stepCtl c z t k = none) → final k) ∧ ∀ t, decStep c z t k = true

instance (c : KCfg) (final : Ctl → Prop) [DecidablePred final] : DecidablePred (OwnOutcome c final) :=
  fun k => by unfold OwnOutcome; infer_instance

theorem unguarded_holds : ∀ c : KCfg, c.enabled = false → Holds c true (OwnOutcome c fun k => k.m = .ret .own) := by
  decide +kernel

/-- either capacity of `watchdogCleanup`; nothing is left behind -/
theorem fast_holds : ∀ c : KCfg, c.enabled = true → c.fires = false →
    Holds c true (OwnOutcome c fun k => k.cleanFinal .own = true) := by
  decide +kernel

section
variable (c : Cfg) (n : Nat) (hp : c.polls = some n) {final : Ctl → Prop} [DecidablePred final]
  (h : Holds c.toKCfg true (OwnOutcome c.toKCfg final)) (sched : List Tid)
include hp h

/-- `OwnOutcome` in every reachable control state, said of the state after any schedule of a script that ends after `n` polls -/
theorem own_outcome :
    (∀ r, (run c sched (init c)).k.m = .ret r → r = .own) ∧
    (run c sched (init c)).k.m ≠ .panicked ∧
    (stuck c (run c sched (init c)) = true → final (run c sched (init c)).k) ∧
    (∀ t s', step c t (run c sched (init c)) = some s' → mu c s' < mu c (run c sched (init c))) :=
  have ⟨h1, h2, h3⟩ := h.of_run (fun _ => rfl) sched
  ⟨h1, h2, fun hs => (h3 _).1 (stuck_ctl c _ hs), fun t s' => mu_dec_some c n hp _ t ((h3 _).2 t) s'⟩

/-- … hence no schedule has more steps that are not blocked than the initial measure -/
theorem own_outcome_bound : effSteps c sched (init c) ≤ mu c (init c) :=
  Nat.le_of_add_right_le <| effSteps_le c (fun s => inReach c.toKCfg true s.k = true)
    (fun s t => next_inv_at c _ s t (h.preservedAt _ fun _ => rfl))
    (fun s t s' hi => mu_dec_some c n hp s t (((h.of_mem hi).1.2.2 _).2 t) s') sched (init c) h.1

end

theorem unguarded (c : Cfg) (n : Nat) (he : c.enabled = false) (hp : c.polls = some n) (sched : List Tid) :
    (∀ r, (run c sched (init c)).k.m = .ret r → r = .own) ∧
    (run c sched (init c)).k.m ≠ .panicked ∧
    (stuck c (run c sched (init c)) = true → (run c sched (init c)).k.m = .ret .own) ∧
    (∀ t s', step c t (run c sched (init c)) = some s' → mu c s' < mu c (run c sched (init c))) :=
  own_outcome c n hp (unguarded_holds c.toKCfg he) sched

/-! ## the unchanged tree (unbuffered `watchdogCleanup`) -/

/-- whenever the caller has control back it got the script's own outcome: the `(nil, nil)` of the recovered Halt is
never delivered, because that path never gets past the deferred send. Once the interrupt has been taken the caller
sits in that send for ever, and the pending Halt stays the pending Halt. -/
theorem coded_holds : ∀ c : KCfg, c.enabled = true → c.cleanupBuffered = false →
    Holds c true fun k => (∀ r, k.m = .ret r → r = .own) ∧
      (k.m = .dSend .halt → ∀ z, stepCtl c z .main k = none ∧
        ∀ t, (stepCtl c z t k).all (fun r => r.1.m == .dSend .halt) = true) := by
  decide +kernel

theorem coded_loops_holds : ∀ c : KCfg, c.enabled = true → c.cleanupBuffered = false →
    Holds c false fun k => k.returned = false := by
  decide +kernel

/-- as coded (and with or without a watchdog): whatever the schedule, if the caller got control back it got the
script's own outcome -/
theorem coded_returns_own (c : Cfg) (hb : c.cleanupBuffered = false) (sched : List Tid) (r : Ret) :
    (run c sched (init c)).k.m = .ret r → r = .own := by
  cases he : c.enabled with
  | true => exact ((coded_holds c.toKCfg he hb).of_run (fun _ => rfl) sched).1 r
  | false => exact ((unguarded_holds c.toKCfg he).of_run (fun _ => rfl) sched).1 r

/-- as coded, a script that never ends by itself never gives control back, whatever the timer does -/
theorem coded_loop_never_returns (c : Cfg) (he : c.enabled = true) (hb : c.cleanupBuffered = false)
    (hp : c.polls = none) (sched : List Tid) : returned (run c sched (init c)) = false :=
  (coded_loops_holds c.toKCfg he hb).of_run (by simp [hp]) sched

/-- as coded, once the interrupt has been taken the caller stays in the deferred send for ever -/
theorem coded_halt_is_forever (c : Cfg) (he : c.enabled = true) (hb : c.cleanupBuffered = false)
    (sched : List Tid) (hh : (run c sched (init c)).k.m = .dSend .halt) (more : List Tid) :
    (run c more (run c sched (init c))).k.m = .dSend .halt ∧
    step c .main (run c more (run c sched (init c))) = none := by
  have h := coded_holds c.toKCfg he hb
  -- the states from which the fact is used are those after `sched ++ l`
  have key : ∀ l pre, (run c pre (init c)).k.m = .dSend .halt → (run c (pre ++ l) (init c)).k.m = .dSend .halt := by
    intro l
    induction l with
    | nil => intro pre hpre; simpa using hpre
    | cons t l ih =>
      intro pre hpre
      rw [List.append_cons]
      refine ih _ ?_
      rw [run_append, run_cons]
      cases hst : step c t (run c pre (init c)) with
      | none => rw [next_of_none hst]; exact hpre
      | some s' =>
        obtain ⟨k', p, hk, rfl⟩ := step_some_iff.mp hst
        have := (((h.of_run (fun _ => rfl) pre).2 hpre (atEnd c (run c pre (init c)))).2 t)
        rw [hk] at this
        rw [next_of_step hst]
        simpa [run] using this
  rw [← run_append]
  refine ⟨key more sched hh, ?_⟩
  have := (((h.of_run (fun _ => rfl) _).2 (key more sched hh)) (atEnd c (run c (sched ++ more) (init c)))).1
  simp [step, this]

/-! ## the repair (`watchdogCleanup` buffered with capacity 1) -/

/-- the caller's goroutine is never blocked; when nothing can move the caller has returned and the watchdog
goroutine has exited; with Halt reported as an error the caller gets the script's outcome or the timeout error -/
theorem fixed_holds : ∀ c : KCfg, c.enabled = true → c.cleanupBuffered = true →
    Holds c true fun k => (k.returned = false → ∀ z, (stepCtl c z .main k).isSome = true) ∧
      (∀ z, (∀ t, stepCtl c z t k = none) → k.returned = true ∧ k.w = .done) ∧
      (c.haltIsError = true → ∀ r, k.m = .ret r → r = .own ∨ r = .timeoutErr) ∧
      k.m ≠ .panicked := by
  decide +kernel

/-- the repair, a script that never ends by itself, the timer expires: the caller can only get the timeout error;
the control measure never increases, and as long as the call is not over some thread has a step that decreases it -/
theorem fixed_loops_holds : ∀ c : KCfg, c.enabled = true → c.fires = true → c.cleanupBuffered = true →
    c.haltIsError = true → Holds c false fun k => (∀ r, k.m = .ret r → r = .timeoutErr) ∧
      (∀ t, decStep c false t k = true) ∧
      (k.overFinal .timeoutErr = false →
        ¬ ∀ t, (stepCtl c false t k).all (fun r => decide (muK c k ≤ muK c r.1)) = true) := by
  decide +kernel

end Watchdog
