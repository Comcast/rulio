import RulioProofs.MatchTop

/-! # Order independence (C05): the specification, the fragment and the variable multiset of a pattern
are invariant under permutations of map pairs and array elements at any depth (`PatPerm.inv`); two patterns with the same
specification and the same variables return the same bindings (`results_determined`) -/

open List

theorem distinctJ_perm {l l' : List J} (h : l.Perm l') (hd : distinctJ l = true) : distinctJ l' = true :=
  distinctJ_iff_nodup.2 ((h.nodup_iff).1 (distinctJ_iff_nodup.1 hd))

theorem varsOfO_perm {l1 l2 : List (String × J)} (h : l1.Perm l2) : (varsOfO l1).Perm (varsOfO l2) := by
  induction h with
  | nil => exact .refl _
  | cons x _ ih => obtain ⟨k, v⟩ := x; simp only [varsOfO]; exact ih.append_left _
  | swap x y l =>
    obtain ⟨k, v⟩ := x; obtain ⟨k', v'⟩ := y
    simp only [varsOfO]
    exact List.perm_append_comm_assoc _ _ _
  | trans _ _ ih1 ih2 => exact ih1.trans ih2

/-- what a rearrangement of a pattern keeps -/
def PermInv (p q : J) : Prop :=
  p.isScalar = q.isScalar ∧ (p.isScalar = true → q = p) ∧
    (patOK p = true → patOK q = true ∧ (varsOf p).Perm (varsOf q) ∧ ∀ σ d, pmv σ p d = pmv σ q d)

theorem PermInv.refl (p : J) : PermInv p p := ⟨rfl, fun _ => rfl, fun hp => ⟨hp, .refl _, fun _ _ => rfl⟩⟩

theorem PermInv.trans {p q r : J} (h1 : PermInv p q) (h2 : PermInv q r) : PermInv p r := by
  refine ⟨h1.1.trans h2.1, fun hs => ?_, fun hp => ?_⟩
  · have := h1.2.1 hs
    subst this
    exact h2.2.1 hs
  · obtain ⟨hq, hv1, hm1⟩ := h1.2.2 hp
    obtain ⟨hr, hv2, hm2⟩ := h2.2.2 hq
    exact ⟨hr, hv1.trans hv2, fun σ d => (hm1 σ d).trans (hm2 σ d)⟩

theorem PermInv.obj_perm {kvs kvs' : List (String × J)} (hperm : kvs.Perm kvs') : PermInv (.obj kvs) (.obj kvs') := by
  refine ⟨rfl, fun h => by simp [J.isScalar] at h, fun hp => ?_⟩
  rw [patOK_obj_iff] at hp
  have hk' : ∀ kv ∈ kvs', isVar kv.1 = false := fun kv hkv => hp.1 kv (hperm.mem_iff.2 hkv)
  refine ⟨(patOK_obj_iff kvs').2 ⟨hk', fun kv hkv => hp.2 kv (hperm.mem_iff.2 hkv)⟩, ?_, ?_⟩
  · rw [varsOf_obj, varsOf_obj]; exact varsOfO_perm hperm
  · intro σ d
    rw [pmv_obj, pmv_obj]
    cases d with
    | obj dm =>
      simp only
      rw [Bool.eq_iff_iff, pmO_const_iff σ dm kvs dm hp.1, pmO_const_iff σ dm kvs' dm hk']
      exact ⟨fun h kv hkv => h kv (hperm.mem_iff.2 hkv), fun h kv hkv => h kv (hperm.mem_iff.1 hkv)⟩
    | _ => rfl

theorem PermInv.arr_perm {xs xs' : List J} (hperm : xs.Perm xs') : PermInv (.arr xs) (.arr xs') := by
  refine ⟨rfl, fun h => by simp [J.isScalar] at h, fun hp => ?_⟩
  rw [patOK_arr_iff] at hp
  refine ⟨(patOK_arr_iff xs').2 ⟨?_, ?_, fun x hx => hp.2.2 x (hperm.mem_iff.2 hx)⟩, ?_, ?_⟩
  · rw [← (hperm.filter isVarElem).length_eq]; exact hp.1
  · exact distinctJ_perm (hperm.filter J.isScalar) hp.2.1
  · rw [varsOf_arr, varsOf_arr]; exact varsOfL_perm hperm
  · intro σ d
    rw [pmv_arr, pmv_arr]
    cases d with
    | arr ds =>
      simp only
      rw [Bool.eq_iff_iff]
      exact ⟨pmA_of_subperm hperm (Subperm.refl _), pmA_of_subperm hperm.symm (Subperm.refl _)⟩
    | _ => rfl

theorem PermInv.obj_head (k : String) {v v' : J} (r : List (String × J)) (h : PermInv v v') :
    PermInv (.obj ((k, v) :: r)) (.obj ((k, v') :: r)) := by
  refine ⟨rfl, fun h => by simp [J.isScalar] at h, fun hp => ?_⟩
  rw [patOK_obj_iff, List.forall_mem_cons, List.forall_mem_cons] at hp
  obtain ⟨hpv', hvars, hpm⟩ := h.2.2 hp.2.1
  have hk' : ∀ kv ∈ (k, v') :: r, isVar kv.1 = false := List.forall_mem_cons.2 hp.1
  refine ⟨(patOK_obj_iff _).2 ⟨hk', List.forall_mem_cons.2 ⟨hpv', hp.2.2⟩⟩, ?_, fun σ d => ?_⟩
  · simp only [varsOf_obj, varsOfO]
    exact (hvars.append_left _).append_right _
  · rw [pmv_obj, pmv_obj]
    cases d with
    | obj dm =>
      rw [Bool.eq_iff_iff, pmO_const_iff σ dm _ dm (List.forall_mem_cons.2 hp.1), pmO_const_iff σ dm _ dm hk',
        List.forall_mem_cons, List.forall_mem_cons]
      simp only [hpm]
    | _ => rfl

theorem PermInv.arr_head {x x' : J} (r : List J) (h : PermInv x x') : PermInv (.arr (x :: r)) (.arr (x' :: r)) := by
  refine ⟨rfl, fun h => by simp [J.isScalar] at h, fun hp => ?_⟩
  by_cases hx : x.isScalar = true
  · rw [h.2.1 hx]
    exact ⟨hp, .refl _, fun _ _ => rfl⟩
  · have hx0 : x.isScalar = false := by simpa using hx
    have hx0' : x'.isScalar = false := by rw [← h.1]; exact hx0
    have hv := isVarElem_struct hx0
    have hv' := isVarElem_struct hx0'
    rw [patOK_arr_iff, List.filter_cons_of_neg (by simp [hv]), List.filter_cons_of_neg (by simp [hx0]),
      List.forall_mem_cons] at hp
    obtain ⟨hpx', hvars, hpm⟩ := h.2.2 hp.2.2.1
    refine ⟨?_, ?_, fun σ d => ?_⟩
    · rw [patOK_arr_iff, List.filter_cons_of_neg (by simp [hv']), List.filter_cons_of_neg (by simp [hx0']),
        List.forall_mem_cons]
      exact ⟨hp.1, hp.2.1, hpx', hp.2.2.2⟩
    · simp only [varsOf_arr, varsOfL]
      exact hvars.append_right _
    · rw [pmv_arr, pmv_arr]
      cases d with
      | arr ds =>
        rw [Bool.eq_iff_iff, pmA_cons_iff, pmA_cons_iff]
        simp only [hpm]
      | _ => rfl

/-- `PermInv p q`, written out -/
theorem PatPerm.inv {p q : J} (h : PatPerm p q) :
    p.isScalar = q.isScalar ∧ (p.isScalar = true → q = p) ∧
    (patOK p = true → patOK q = true ∧ (varsOf p).Perm (varsOf q) ∧ ∀ σ d, pmv σ p d = pmv σ q d) := by
  show PermInv p q
  induction h with
  | refl p => exact .refl p
  | obj hperm => exact .obj_perm hperm
  | arr hperm => exact .arr_perm hperm
  | objIn k pre post _ ih =>
    -- a position in the middle is the head position up to a permutation
    exact (PermInv.obj_perm perm_middle).trans ((PermInv.obj_head k _ ih).trans (.obj_perm perm_middle.symm))
  | arrIn pre post _ ih =>
    exact (PermInv.arr_perm perm_middle).trans ((PermInv.arr_head _ ih).trans (.arr_perm perm_middle.symm))
  | trans _ _ ih1 ih2 => exact ih1.trans ih2

theorem PatPerm.symm {p q : J} (h : PatPerm p q) : PatPerm q p := by
  induction h with
  | refl p => exact .refl p
  | obj hperm => exact .obj hperm.symm
  | arr hperm => exact .arr hperm.symm
  | objIn k pre post _ ih => exact .objIn k pre post ih
  | arrIn pre post _ ih => exact .arrIn pre post ih
  | trans _ _ ih1 ih2 => exact .trans ih2 ih1

/-- one direction: a binding returned for `p` is a minimal specification binding, of `p` and hence of `q`, and
`complete_min` finds it among the bindings returned for `q` -/
theorem results_determined {p q d : J} {bs : Bs} {bss1 bss2 : List Bs}
    (hp : patOK p = true) (hq : patOK q = true) (hd : dataOK d = true)
    (hvars : (varsOf p).Perm (varsOf q)) (hspec : ∀ σ, pmv σ p d = pmv σ q d)
    (h1 : matchJ p d bs = .ok bss1) (h2 : matchJ q d bs = .ok bss2)
    {σ : Bs} (hσ : σ ∈ bss1) (hsc : SC σ (varsOf p) bs) :
    ∃ σ' ∈ bss2, ∀ k, σ'.get? k = σ.get? k := by
  obtain ⟨hext, hdom, hpm⟩ := soundJ p hp d bs bss1 σ h1 hσ
  exact complete_min hq hd h2 hext (by rw [← hspec]; exact hpm σ (Bs.Ext.refl _) hsc)
    (hdom.mono fun k => hvars.mem_iff.1) (crit_of_SC (hsc.perm hvars))
