import RulioProofs.StateClosure
import RulioProofs.StateSearch

/-! # The deleteWith cascade: what is deleted, why the budget suffices, which errors are possible; proved once for any
`rem`/`remAll` that satisfy `IsCascade`, which the indexed and the linear state do. The invariant `Cascaded` is that of a
worklist argument against the specification `closure`: what was deleted lies in the closure of the roots, and what is
left names nothing that was deleted. -/

def keysOf (F : FactList) : List String := F.map (·.1)

theorem mem_keysOf {F : FactList} {k : String} : k ∈ keysOf F ↔ ∃ fact, (k, fact) ∈ F := by
  simp only [keysOf, List.mem_map]
  constructor
  · rintro ⟨e, he, rfl⟩; exact ⟨e.2, he⟩
  · rintro ⟨fact, h⟩; exact ⟨_, h, rfl⟩

theorem keysOf_filterOut (D : List String) (F : FactList) : keysOf (filterOut D F) = (keysOf F).filter (fun k => !D.contains k) := by
  simp only [keysOf, filterOut, List.filter_map]
  rfl

theorem mem_keysOf_filterOut {D : List String} {F : FactList} {k : String} :
    k ∈ keysOf (filterOut D F) ↔ k ∈ keysOf F ∧ k ∉ D := by
  rw [keysOf_filterOut]; simp

theorem length_keysOf (F : FactList) : (keysOf F).length = F.length := List.length_map _

/-- how many ids of `L` are not among the keys `K` -/
def cntAbs (K L : List String) : Nat := (L.filter (fun i => !K.contains i)).length

theorem cntAbs_cons_of_mem {K : List String} {i : String} (L : List String) (h : i ∈ K) :
    cntAbs K (i :: L) = cntAbs K L := by
  simp [cntAbs, h]

theorem cntAbs_cons_of_not_mem {K : List String} {i : String} (L : List String) (h : i ∉ K) :
    cntAbs K (i :: L) = cntAbs K L + 1 := by
  simp [cntAbs, h]

theorem cntAbs_eq_zero {K L : List String} (h : ∀ i, i ∈ L → i ∈ K) : cntAbs K L = 0 := by
  simp only [cntAbs, List.length_eq_zero_iff, List.filter_eq_nil_iff]
  intro i hi
  simp [h i hi]

/-- `cntAbs K L + |K|` is the number of distinct ids in `K` or `L`, which shrinks with `K` -/
theorem cntAbs_le {L K K1 : List String} (hL : L.Nodup) (hn : K1.Nodup) (hs : K1 ⊆ K) :
    cntAbs K1 L + K1.length ≤ cntAbs K L + K.length := by
  have hnd : (K1 ++ L.filter (fun i => !K1.contains i)).Nodup := by
    refine List.nodup_append.2 ⟨hn, hL.sublist List.filter_sublist, ?_⟩
    rintro a ha b hb rfl
    have := (List.mem_filter.1 hb).2
    simp [ha] at this
  have hsub : K1 ++ L.filter (fun i => !K1.contains i) ⊆ K ++ L.filter (fun i => !K.contains i) := by
    intro x hx
    by_cases hk : x ∈ K
    · exact List.mem_append_left _ hk
    · rcases List.mem_append.1 hx with hx | hx
      · exact absurd (hs hx) hk
      · exact List.mem_append_right _ (List.mem_filter.2 ⟨(List.mem_filter.1 hx).1, by simpa using hk⟩)
  have := hnd.length_le_of_subset hsub
  simp only [List.length_append] at this
  simp only [cntAbs]
  omega

theorem keysOf_nodup_of_le {s s' : St} (hle : StLe s s') (hk : KeysNodup s) : (keysOf s'.facts).Nodup :=
  hle.keys hk

theorem keysOf_subset_of_sublist {F F' : FactList} (h : F'.Sublist F) : keysOf F' ⊆ keysOf F :=
  (h.map _).subset

theorem not_mem_keys_filterOut (F : FactList) (i : String) : i ∉ keysOf (filterOut [i] F) :=
  fun h => (mem_keysOf_filterOut.1 h).2 (by simp)

theorem depPred_spec {F : FactList} {id i : String} (h : depPred F id i = true) :
    ∃ fact, (i, fact) ∈ F ∧ depOn fact id = true := by
  simp only [depPred] at h
  split at h
  · rename_i fact hg; exact ⟨fact, AM.amGet_mem hg, h⟩
  · cases h

theorem depPred_of_mem {F : FactList} (hn : (keysOf F).Nodup) {id i : String} {fact : Obj}
    (hm : (i, fact) ∈ F) (hd : depOn fact id = true) : depPred F id i = true := by
  simp only [depPred, AM.amGet_of_mem_nodup hn hm, hd]

/-- `L` lists, without repetition, exactly the stored facts that name `i`: what the cascade recurses into -/
structure DepsOf (F : FactList) (i : String) (L : List String) : Prop where
  nodup : L.Nodup
  mem : ∀ j, j ∈ L ↔ ∃ fact, (j, fact) ∈ F ∧ depOn fact i = true

theorem DepsOf.keys {F : FactList} {i : String} {L : List String} (h : DepsOf F i L) {j : String} (hj : j ∈ L) :
    j ∈ keysOf F := by
  obtain ⟨fact, hm, _⟩ := (h.mem j).1 hj
  exact mem_keysOf.2 ⟨fact, hm⟩

theorem DepsOf.cnt {F : FactList} {i : String} {L : List String} (h : DepsOf F i L) : cntAbs (keysOf F) L = 0 :=
  cntAbs_eq_zero fun _ hj => h.keys hj

theorem DepsOf.notVar {s : St} {i : String} {L : List String} (h : DepsOf s.facts i L) (hids : IdsOK s) :
    ∀ j, j ∈ L → isVar j = false := by
  intro j hj
  obtain ⟨fact, hm, _⟩ := (h.mem j).1 hj
  exact hids (j, fact) hm

theorem depsOf_filter {F : FactList} (hn : (keysOf F).Nodup) {i : String} {c : List String} (hc : c.Nodup)
    (hcomp : ∀ j fact, (j, fact) ∈ F → depOn fact i = true → j ∈ c) : DepsOf F i (c.filter (depPred F i)) :=
  ⟨hc.sublist List.filter_sublist, fun j =>
    ⟨fun hj => depPred_spec (List.mem_filter.1 hj).2,
     fun ⟨fact, hm, hd⟩ => List.mem_filter.2 ⟨hcomp j fact hm hd, depPred_of_mem hn hm hd⟩⟩⟩

/-- `s0` is `s` once `rem` has taken the root `i` out of memory and, if it was in memory, out of storage -/
structure RootOut (s : St) (i : String) (s0 : St) : Prop where
  le : StLe s s0
  facts : s0.facts = filterOut [i] s.facts
  store : s0.store = filterOut [i] s.store ∨ (i ∉ keysOf s.facts ∧ s0.store = s.store)

namespace RootOut
variable {s s0 : St} {i : String}

theorem length (h : RootOut s i s0) (hk : KeysNodup s) (hi : i ∈ keysOf s.facts) :
    s0.facts.length + 1 = s.facts.length := by
  rw [h.facts, ← amErase_eq_filterOut]
  exact length_amErase_of_mem _ _ hk hi

theorem absent (hg : amGet s.facts i = none) : RootOut s i s :=
  have hk : i ∉ keysOf s.facts := (AM.amGet_eq_none_iff _ _).1 hg
  ⟨StLe.refl s, (filterOut_of_not_mem hk).symm, Or.inr ⟨hk, rfl⟩⟩

end RootOut

/-! ## the invariant of the worklist argument -/

/-- `s'` is `s` less the ids `D`. Sound: every deleted id is in the closure of the roots `R`. Complete: the roots are
gone and no fact that is left names a root or a deleted id. (Then `D` is the closure, as far as it was stored:
`Cascaded.exact`.) -/
structure Cascaded (s s' : St) (R D : List String) : Prop where
  facts : s'.facts = filterOut D s.facts
  store : s'.store = filterOut D s.store
  sound : ∀ d, d ∈ D → d ∈ closure s.facts R
  gone : ∀ r, r ∈ R → r ∉ keysOf s'.facts
  closed : ∀ e, e ∈ s'.facts → ∀ d, d ∈ R ∨ d ∈ D → depOn e.2 d = false

namespace Cascaded
variable {s s0 s1 s' : St} {R R1 R2 D D1 D2 L : List String} {i : String}

theorem nil (s : St) : Cascaded s s [] [] :=
  ⟨(filterOut_nil _).symm, (filterOut_nil _).symm, nofun, nofun, fun _ _ _ h => by simp at h⟩

theorem sub (h : Cascaded s s' R D) : ∀ e, e ∈ s'.facts → e ∈ s.facts :=
  fun _ he => (mem_filterOut.1 (h.facts ▸ he)).1

theorem comp (h1 : Cascaded s s1 R1 D1) (h2 : Cascaded s1 s' R2 D2) : Cascaded s s' (R1 ++ R2) (D1 ++ D2) := by
  have hr := closure_roots s.facts (R1 ++ R2)
  refine ⟨?_, ?_, fun d hd => ?_, fun r hr hk => ?_, fun e he d hd => ?_⟩
  · rw [h2.facts, h1.facts, filterOut_filterOut]
  · rw [h2.store, h1.store, filterOut_filterOut]
  · rcases List.mem_append.1 hd with hd | hd
    · exact closure_sub (fun _ => id) (fun r h => hr r (List.mem_append_left _ h)) d (h1.sound d hd)
    · exact closure_sub h1.sub (fun r h => hr r (List.mem_append_right _ h)) d (h2.sound d hd)
  · rcases List.mem_append.1 hr with hr | hr
    · exact h1.gone r hr (keysOf_subset_of_sublist (h2.facts ▸ filterOut_sublist _ _) hk)
    · exact h2.gone r hr hk
  · simp only [List.mem_append] at hd
    rcases hd with (hd | hd) | (hd | hd)
    · exact h1.closed e (h2.sub e he) d (.inl hd)
    · exact h2.closed e he d (.inl hd)
    · exact h1.closed e (h2.sub e he) d (.inr hd)
    · exact h2.closed e he d (.inr hd)

/-- the dependents of `i` done, so is `i` -/
theorem root (h0 : RootOut s i s0) (hL : DepsOf s0.facts i L) (h : Cascaded s0 s' L D) : ∃ D', Cascaded s s' [i] D' := by
  have hsub : ∀ e, e ∈ s0.facts → e ∈ s.facts := fun e he => h0.le.facts.subset he
  have hi := closure_roots s.facts [i] i (by simp)
  have sound : ∀ d, d ∈ D → d ∈ closure s.facts [i] := fun d hd =>
    closure_sub hsub (fun l hl => by
      obtain ⟨fact, hm, hdep⟩ := (hL.mem l).1 hl
      exact closure_closed _ _ (hsub _ hm) hi hdep) d (h.sound d hd)
  have gone : ∀ r, r ∈ [i] → r ∉ keysOf s'.facts := fun r hr hk => by
    simp only [List.mem_singleton] at hr; subst hr
    exact not_mem_keys_filterOut s.facts r (h0.facts ▸ keysOf_subset_of_sublist (h.facts ▸ filterOut_sublist _ _) hk)
  have closed : ∀ e, e ∈ s'.facts → ∀ d, d ∈ [i] ∨ d ∈ D → depOn e.2 d = false := fun e he d hd => by
    rcases hd with hd | hd
    · simp only [List.mem_singleton] at hd; subst hd
      cases hdep : depOn e.2 d with
      | false => rfl
      | true => exact absurd (mem_keysOf.2 ⟨e.2, he⟩) (h.gone e.1 ((hL.mem e.1).2 ⟨e.2, h.sub e he, hdep⟩))
    · exact h.closed e he d (.inr hd)
  rcases h0.store with hs | ⟨hk, hs⟩
  · refine ⟨i :: D, ?_, ?_, fun d hd => ?_, gone, fun e he d hd => closed e he d ?_⟩
    · rw [h.facts, h0.facts, filterOut_filterOut]; rfl
    · rw [h.store, hs, filterOut_filterOut]; rfl
    · rcases List.mem_cons.1 hd with rfl | hd
      · exact hi
      · exact sound d hd
    · rcases hd with hd | hd
      · exact .inl hd
      · rcases List.mem_cons.1 hd with rfl | hd
        · exact .inl (by simp)
        · exact .inr hd
  · have hf : s0.facts = s.facts := h0.facts.trans (filterOut_of_not_mem hk)
    exact ⟨D, hf ▸ h.facts, hs ▸ h.store, sound, gone, closed⟩

/-- sound and complete: what was deleted is the closure of the roots -/
theorem exact (h : Cascaded s s' R D) :
    s'.facts = filterOut (closure s.facts R) s.facts ∧ ∀ k, k ∈ keysOf s.facts → (k ∈ D ↔ k ∈ closure s.facts R) := by
  have hsup : ∀ k, k ∈ closure s.facts R → k ∈ R ∨ k ∈ D := by
    refine closure_least _ _ _ (fun r hr => .inl hr) fun k fact d hm hX hdep => ?_
    by_cases hk : k ∈ D
    · exact .inr hk
    · have := h.closed (k, fact) (h.facts ▸ mem_filterOut.2 ⟨hm, hk⟩) d hX
      rw [hdep] at this; cases this
  have hiff : ∀ k, k ∈ keysOf s.facts → (k ∈ D ↔ k ∈ closure s.facts R) := fun k hk =>
    ⟨h.sound k, fun hc => (hsup k hc).elim
      (fun hr => Classical.byContradiction fun hnD => h.gone k hr (h.facts ▸ mem_keysOf_filterOut.2 ⟨hk, hnD⟩)) id⟩
  refine ⟨?_, hiff⟩
  rw [h.facts]
  refine List.filter_congr fun e he => ?_
  congr 1
  rw [Bool.eq_iff_iff]
  simp only [List.contains_iff_mem]
  exact hiff e.1 (mem_keysOf.2 ⟨e.2, he⟩)

end Cascaded

/-! ## what `WF` and "nothing is expired" amount to for a linear (`CInv`) and an indexed (`IInv`) state

The cascade below is stated with `WF` and `NoneExpiredBut` themselves and uses none of these four structures. -/

structure CInv (s : St) (now : Int) : Prop where
  keys : KeysNodup s
  nexp : NoneExpired s now
  ids : IdsOK s

structure IInv (s : St) (now : Int) : Prop extends CInv s now where
  tiok : TIOK s
  tinodup : TINodup s

/-- the invariants with "nothing expired" relaxed for the root id `i` (deletion of `i` by its own expiry) -/
structure CInvBut (s : St) (i : String) (now : Int) : Prop where
  keys : KeysNodup s
  nexp : NoneExpiredBut s i now
  ids : IdsOK s

structure IInvBut (s : St) (i : String) (now : Int) : Prop extends CInvBut s i now where
  tiok : TIOK s
  tinodup : TINodup s

theorem CInvBut.root {s s0 : St} {i : String} {now : Int} (h : CInvBut s i now) (h0 : RootOut s i s0) : CInv s0 now :=
  ⟨h0.le.keys h.keys, St.All.of_but h.nexp h0.facts, St.All.le h.ids h0.le⟩

theorem IInvBut.root {s s0 : St} {i : String} {now : Int} (h : IInvBut s i now) (h0 : RootOut s i s0) : IInv s0 now :=
  ⟨h.toCInvBut.root h0, h0.le.tiok h.tiok, h0.le.tinodup h.tinodup⟩

theorem IInvBut.absent {s : St} {i : String} {now : Int} (h : IInvBut s i now) (hg : amGet s.facts i = none) :
    IInv s now :=
  h.root (.absent hg)

theorem CInvBut.absent {s : St} {i : String} {now : Int} (h : CInvBut s i now) (hg : amGet s.facts i = none) :
    CInv s now :=
  h.root (.absent hg)

theorem NoneExpired.but {s : St} {now : Int} (h : NoneExpired s now) (i : String) : NoneExpiredBut s i now :=
  St.All.imp h fun _ he _ => he

/-- how a cascade over the roots `L` that had its budget ends -/
def CascOut {α} (U : St → Prop) (s : St) (L : List String) (x : St × Except LErr α) (v : α) : Prop :=
  (x.2 = .ok v ∧ ∃ D, Cascaded s x.1 L D) ∨ (¬ U s ∧ ∃ e, x.2 = .error e ∧ e ≠ "fuel")

theorem CascOut.ne_fuel {α} {U : St → Prop} {s : St} {L : List String} {x : St × Except LErr α} {v : α}
    (h : CascOut U s L x v) : x.2 ≠ .error "fuel" := by
  rcases h with ⟨h, _⟩ | ⟨_, e, h, he⟩ <;> rw [h]
  · nofun
  · exact fun h' => he (by injection h')

/-! ## the cascade of either kind -/

/-- What the theorem on the cascade uses of the state kind `K`; the invariant is `WF` and "nothing (but the root) is
expired" for both kinds. `U` says that no stored rule fails to leave the pattern index. `remAll` runs `rem` over a list.
`rem f s i` takes the root out (`s0`) and then either stops with an error (the fuel error only if `f < B s0 + k`; no
other error under `U s`) or is `remAll (f - k) s0 L` over the dependents `L` of `i`; `k` counts the levels between a
`rem` and its `remAll` (indexed: through `ideps`). `B s` is the budget that suffices for the dependents of an id once
it is out of `s`: it covers their search, and every deleted fact gives `k + 1` of it back (`budget_le`). -/
structure IsCascade (K : Kind) (now : Int) (k : Nat) (B : St → Nat) (U : St → Prop)
    (rem : Nat → St → String → St × Except LErr Bool) (remAll : Nat → St → List String → St × Except LErr Unit) : Prop
    extends IsRemAll rem remAll where
  k_pos : 0 < k
  B_pos : ∀ s, 0 < B s
  ok_le : ∀ {s s'}, StLe s s' → U s → U s'
  frame : ∀ f s i, StLe s (rem f s i).1
  budget_le : ∀ {s s'}, StLe s s' → B s' + (k + 1) * (s.facts.length - s'.facts.length) ≤ B s
  rem_eq : ∀ {s i} f, WF s → s.kind = K → NoneExpiredBut s i now → isVar i = false →
    ∃ s0 L, RootOut s i s0 ∧ DepsOf s0.facts i L ∧
      ((∃ e, (rem f s i).2 = .error e ∧ (e = "fuel" → f < B s0 + k) ∧ (U s → e = "fuel")) ∨
       ∃ f', f = f' + k ∧ rem f s i = ((remAll f' s0 L).1, (remAll f' s0 L).2.map fun _ => amHas s.facts i))

namespace IsCascade
variable {K : Kind} {now : Int} {k : Nat} {B : St → Nat} {U : St → Prop}
  {rem : Nat → St → String → St × Except LErr Bool} {remAll : Nat → St → List String → St × Except LErr Unit}
  (C : IsCascade K now k B U rem remAll)
include C

/-- With its budget a cascade ends as `CascOut` says: it terminates, has deleted exactly what hangs on the roots, and
fails only where a stored rule cannot leave the pattern index. A listed id that is no longer stored (the cascade of an
earlier one took it) is charged a whole `rem`, `k + 1` units: whether it still has dependents is then not asked, so the
budget does not depend on what has been deleted so far. -/
theorem total (f : Nat) :
    (∀ s i, WF s → s.kind = K → NoneExpiredBut s i now → isVar i = false →
      (B s + k ≤ f ∨ (i ∈ keysOf s.facts ∧ B s ≤ f + 1)) → CascOut U s [i] (rem f s i) (amHas s.facts i)) ∧
    (∀ s L, WF s → s.kind = K → NoneExpired s now → L.Nodup → (∀ i, i ∈ L → isVar i = false) →
      B s + (k + 1) * cntAbs (keysOf s.facts) L ≤ f → CascOut U s L (remAll f s L) ()) := by
  induction f using Nat.strongRecOn with
  | _ f ih =>
    refine ⟨fun s i hw hK hne hi hb => ?_, fun s L hw hK hne hnd hLv hb => ?_⟩
    · obtain ⟨s0, L, h0, hL, hrem⟩ := C.rem_eq f hw hK hne hi
      have hw0 := hw.le h0.le
      have hb0 : B s0 + k ≤ f := by
        have hbud := C.budget_le h0.le
        rcases hb with hb | ⟨hk, hb⟩
        · omega
        · have hlen := h0.length hw.keys hk
          rw [show s.facts.length - s0.facts.length = 1 by omega, Nat.mul_one] at hbud
          omega
      rcases hrem with ⟨e, he, hfuel, hu⟩ | ⟨f', rfl, heq⟩
      · have hne : e ≠ "fuel" := fun h => by have := hfuel h; omega
        exact .inr ⟨fun hU => hne (hu hU), e, he, hne⟩
      · rw [heq]
        rcases (ih f' (by have := C.k_pos; omega)).2 s0 L hw0 (h0.le.kind.trans hK) (St.All.of_but hne h0.facts)
          hL.nodup (hL.notVar hw0.ids) (by rw [hL.cnt]; omega) with ⟨hr, D, hD⟩ | ⟨hnU, e, hr, hne⟩
        · exact .inl ⟨by rw [hr]; rfl, hD.root h0 hL⟩
        · exact .inr ⟨fun hU => hnU (C.ok_le h0.le hU), e, by rw [hr]; rfl, hne⟩
    · cases f with
      | zero => have := C.B_pos s; omega
      | succ f =>
        obtain ⟨ih1, ih2⟩ := ih f (Nat.lt_succ_self f)
        cases L with
        | nil => rw [C.nil]; exact .inl ⟨rfl, [], Cascaded.nil s⟩
        | cons i rest =>
          rw [C.cons]
          rw [List.nodup_cons] at hnd
          have h1 : CascOut U s [i] (rem f s i) (amHas s.facts i) := by
            refine ih1 s i hw hK (hne.but i) (hLv i (by simp)) ?_
            by_cases hk : i ∈ keysOf s.facts
            · rw [cntAbs_cons_of_mem rest hk] at hb; exact .inr ⟨hk, by omega⟩
            · rw [cntAbs_cons_of_not_mem rest hk, Nat.mul_succ] at hb; exact .inl (by omega)
          rcases h1 with ⟨hd, D1, hD1⟩ | ⟨hnU, e, hd, hne⟩
          · rw [hd]
            have hle1 := C.frame f s i
            have h2 : CascOut U (rem f s i).1 rest (remAll f (rem f s i).1 rest) () := by
              refine ih2 _ rest (hw.le hle1) (hle1.kind.trans hK) (St.All.le hne hle1) hnd.2
                (fun j hj => hLv j (List.mem_cons_of_mem _ hj)) ?_
              -- The step cost one unit. The `d` facts that went gave back `(k + 1) * d`; at most `d` more ids of the
              -- list are absent now (`cntAbs_le`), and `i`, absent now, leaves the list.
              have hcnt := cntAbs_le (L := i :: rest) (List.nodup_cons.2 hnd) (keysOf_nodup_of_le hle1 hw.keys)
                (keysOf_subset_of_sublist hle1.facts)
              rw [cntAbs_cons_of_not_mem rest (hD1.gone i (by simp))] at hcnt
              simp only [length_keysOf] at hcnt
              have hlen := hle1.length_le
              have hmul := Nat.mul_le_mul_left (k + 1) (show cntAbs (keysOf (rem f s i).1.facts) rest + 1 ≤
                cntAbs (keysOf s.facts) (i :: rest) + (s.facts.length - (rem f s i).1.facts.length) by omega)
              rw [Nat.mul_add, Nat.mul_add, Nat.mul_one] at hmul
              have hB1 := C.budget_le hle1
              omega
            rcases h2 with ⟨hr, D2, hD2⟩ | ⟨hnU, e, hr, hne⟩
            · exact .inl ⟨hr, D1 ++ D2, hD1.comp hD2⟩
            · exact .inr ⟨fun hU => hnU (C.ok_le hle1 hU), e, hr, hne⟩
          · rw [hd]
            exact .inr ⟨hnU, e, rfl, hne⟩

end IsCascade

/-! ## indexed state -/

/-- `irem` first takes the root out (`unindexOf`, then `idel`), unless the stored rule fails to leave the pattern
index; what remains is `ideps` -/
theorem irem_root (s : St) (i : String) (now : Int) :
    ∃ s0, RootOut s i s0 ∧
      ((∃ e, e ≠ "fuel" ∧ ¬ UnindexOK s ∧ ∀ f, St.irem (f + 1) s i now = (s, .error e)) ∨
       ∀ f, St.irem (f + 1) s i now =
         ((St.ideps f s0 i now).1, (St.ideps f s0 i now).2.map fun _ => amHas s.facts i)) := by
  cases hg : amGet s.facts i with
  | none =>
    refine ⟨s, .absent hg, Or.inr fun f => ?_⟩
    rw [St.irem_succ, hg, AM.amHas_eq, hg]
    rfl
  | some fact =>
    cases hu : s.unindexOf i fact with
    | error e =>
      have hsame := SameButRi.refl s
      refine ⟨s.idel i fact, ⟨idel_le hsame i fact, idel_facts hsame i fact, Or.inl (idel_store hsame i fact)⟩,
        Or.inl ⟨e, unindexOf_err_ne_fuel hu, fun hun => ?_, fun f => ?_⟩⟩
      · obtain ⟨s1, h1⟩ := unindexOf_ok_iff (s := s).2 (hun (i, fact) (AM.amGet_mem hg))
        rw [hu] at h1; cases h1
      · rw [St.irem_succ, hg]; simp only [hu]
    | ok s1 =>
      have hsame := unindexOf_same hu
      refine ⟨s1.idel i fact, ⟨idel_le hsame i fact, idel_facts hsame i fact, Or.inl (idel_store hsame i fact)⟩,
        Or.inr fun f => ?_⟩
      rw [St.irem_succ, hg, AM.amHas_eq, hg]
      simp only [hu]
      rfl

/-- `irem` on a well-formed state where nothing but the root is expired: after the root, `deleteDependencies` searches for
the dependents, which costs one more unit of fuel, and runs `iremAll` over them -/
theorem irem_eq {s : St} {now : Int} {i : String} (hw : WF s) (hK : s.kind = .indexed) (hne : NoneExpiredBut s i now)
    (hi : isVar i = false) (f : Nat) :
    ∃ s0 L, RootOut s i s0 ∧ DepsOf s0.facts i L ∧
      ((∃ e, (St.irem f s i now).2 = .error e ∧ (e = "fuel" → f < 3 * s0.facts.length + tiWidth s0.ti + 4 + 2) ∧
          (UnindexOK s → e = "fuel")) ∨
       ∃ f', f = f' + 2 ∧ St.irem f s i now =
         ((St.iremAll f' s0 L now).1, (St.iremAll f' s0 L now).2.map fun _ => amHas s.facts i)) := by
  obtain ⟨s0, h0, hroot⟩ := irem_root s i now
  have hw0 := hw.le h0.le
  have hK0 := h0.le.kind.trans hK
  obtain ⟨c, hcs⟩ := St.cands_ok s0 (depPat i)
  have hclen := hcs.width (extractTerms_depPat_ne_nil i)
  refine ⟨s0, _, h0, depsOf_filter hw0.keys (hcs.nodup hw0.keys (hw0.tinodup hK0))
    fun _ _ hm hd => hcs.complete (hw0.tiok hK0) hm (terms_depPat_subset hi hd), ?_⟩
  cases f with
  | zero => exact Or.inl ⟨"fuel", rfl, fun _ => by omega, fun _ => rfl⟩
  | succ f =>
    rcases hroot with ⟨e, hef, hnu, he⟩ | hroot
    · exact Or.inl ⟨e, by rw [he], fun h => absurd h hef, fun hu => absurd hu hnu⟩
    · rw [hroot]
      cases f with
      | zero => exact Or.inl ⟨"fuel", rfl, fun _ => by omega, fun _ => rfl⟩
      | succ f =>
        rw [St.ideps_succ, if_neg (by simp [hi])]
        rcases dep_search hi (isearch_spec (St.All.of_but hne h0.facts) hcs.eq) f with ⟨h1, hle⟩ | ⟨found, h1, hm⟩
        · exact .inl ⟨"fuel", by rw [h1]; rfl, fun _ => by omega, fun _ => rfl⟩
        · exact .inr ⟨f, rfl, by rw [h1, ← hm]⟩

/-- `k = 2`: `irem` reaches `iremAll` through `ideps`. `B`: `k + 1` for each stored fact, and for the search for the
dependents `c.length + 2 ≤ tiWidth s.ti + 2` (`CandsOf.width`, `irem_eq`), with room to spare. -/
theorem icascade (now : Int) :
    IsCascade .indexed now 2 (fun s => 3 * s.facts.length + tiWidth s.ti + 4) UnindexOK
      (fun f s i => St.irem f s i now) (fun f s L => St.iremAll f s L now) where
  toIsRemAll := iremAll_isRemAll now
  k_pos := Nat.two_pos
  B_pos := fun s => by omega
  ok_le := fun hle h => St.All.le h hle
  frame := fun f s i => (St.irem_purge f s i now).le
  budget_le := fun hle => by have := hle.length_le; have := hle.width; omega
  rem_eq := fun f hw hK hne hi => irem_eq hw hK hne hi f

/-! ## linear state -/

/-- `lrem`: the id leaves memory and storage; then the search for the dependents costs one unit of fuel, and
`lremAll` runs over them -/
theorem lrem_eq {s : St} {now : Int} {i : String} (hw : WF s) (hne : NoneExpiredBut s i now) (hi : isVar i = false)
    (f : Nat) :
    ∃ s0 L, RootOut s i s0 ∧ DepsOf s0.facts i L ∧
      (((St.lrem f s i now).2 = .error "fuel" ∧ f < 2 * s0.facts.length + 3 + 1) ∨
       ∃ f', f = f' + 1 ∧ St.lrem f s i now =
         ((St.lremAll f' s0 L now).1, (St.lremAll f' s0 L now).2.map fun _ => amHas s.facts i)) := by
  have hk0 := (ldel_le s i).keys hw.keys
  have hL := depsOf_filter hk0 (i := i) hk0 (fun j fact hm _ => mem_keysOf.2 ⟨fact, hm⟩)
  refine ⟨s.ldel i, _, ⟨ldel_le s i, ldel_facts s i, .inl (ldel_store s i)⟩, hL, ?_⟩
  cases f with
  | zero => exact .inl ⟨rfl, by omega⟩
  | succ f =>
    -- the id itself is no longer stored, so dropping it from the dependents changes nothing
    have hfil := List.filter_eq_self.2 fun j hj => show (j != i) = true by
      simp only [bne_iff_ne, ne_eq]
      rintro rfl
      exact not_mem_keys_filterOut s.facts j (ldel_facts s j ▸ hL.keys hj)
    rw [St.lrem_succ, if_neg (by simp [hi])]
    rcases dep_search hi (lsearch_spec (St.All.of_but hne (ldel_facts s i)) (depPat i)) f with
      ⟨h1, hle⟩ | ⟨found, h1, hm⟩
    · exact .inl ⟨by rw [h1], by omega⟩
    · exact .inr ⟨f, rfl, by rw [h1]; simp only [hm, hfil]⟩

/-- `k = 1`: `lrem` calls `lremAll` itself. `B`: `k + 1` for each stored fact, which covers the search for the
dependents as well, `s.facts.length + 2` units over all stored ids (`lsearch_spec`, `lrem_eq`). -/
theorem lcascade (now : Int) :
    IsCascade .linear now 1 (fun s => 2 * s.facts.length + 3) (fun _ => True)
      (fun f s i => St.lrem f s i now) (fun f s L => St.lremAll f s L now) where
  toIsRemAll := lremAll_isRemAll now
  k_pos := Nat.one_pos
  B_pos := fun s => by omega
  ok_le := fun _ _ => trivial
  frame := fun f s i => (St.lrem_purge f s i now).le
  budget_le := fun hle => by have := hle.length_le; omega
  rem_eq := fun f hw _ hne hi =>
    let ⟨s0, L, h0, hL, h⟩ := lrem_eq hw hne hi f
    ⟨s0, L, h0, hL, h.imp (fun ⟨h1, h2⟩ => ⟨_, h1, fun _ => h2, fun _ => rfl⟩) id⟩
