import RulioModel.Cache
import RulioProofs.Lookup

/-! Helper lemmas for C17 (location cache), sequential semantics.  First the keyed maps (`kget` after `kset` / `kdel`,
`setNth`).  Every operation on a name reads and writes the table slot and the storage bucket of that name only
(`Upd`; `reqE_local`: a request is the pure function `reqL` on that pair — `Open`, the call `callL` through the instance
handed out, `Release`), so everything else is proved on slots: `Open` hands out the cached instance or a fresh load
(`cand`) unless it refuses it, and a slot caches that or nothing (`openL_eq`, `SlotAll.open`), the call against direct
operation (`reqD_eq`, `call_sim`, `refuse_sim`) and with it the simulation of direct operation
(`reqL_sim`, `step_sim`, `run_sim`), one name through a history (`run_view`), used for a name that is never created
(`no_create_run`, `unmarked_run`).  Then `keepMark` (`ClearLocation` puts the marker back: the marker is kept and reloading
stays the identity), `reclock` (a history under other clock readings), and the toy semantics of the examples.
Suffixes as in the model: `…E` works on the whole `SysSt`, `…L` (here) on the slot and bucket of one name, `…D` is direct
operation, `…C` the concurrent protocol.  `chk` is the caller's flag `reqCheck r`; `check` is `cfg.checkExistence`. -/

section kmap
variable {α : Type}

theorem kget_eq_lookup (m : List (String × α)) (k : String) : kget m k = m.lookup k := by
  induction m with
  | nil => rfl
  | cons p r ih =>
    obtain ⟨k', v⟩ := p
    rw [kget, List.lookup_cons, ih]
    by_cases h : k' = k
    · rw [if_pos h, h, beq_self_eq_true]
    · rw [if_neg h, beq_false_of_ne (Ne.symm h)]

theorem kget_kdel (m : List (String × α)) (k k2 : String) :
    kget (kdel m k) k2 = if k2 = k then none else kget m k2 := by
  rw [kget_eq_lookup, kget_eq_lookup]; exact List.lookup_filter_ne m k k2

theorem kget_kset (m : List (String × α)) (k k2 : String) (v : α) :
    kget (kset m k v) k2 = if k2 = k then some v else kget m k2 := by
  rw [kset, kget, kget_kdel]
  by_cases h : k2 = k
  · rw [if_pos h.symm, if_pos h]
  · rw [if_neg (Ne.symm h), if_neg h, if_neg h]

theorem kget_kset_self (m : List (String × α)) (k : String) (v : α) : kget (kset m k v) k = some v := by
  rw [kget_kset, if_pos rfl]


end kmap

theorem setNth_eq_set {α : Type} (l : List α) (i : Nat) (a : α) : setNth l i a = l.set i a := by
  induction l generalizing i with
  | nil => rfl
  | cons x xs ih => cases i with
    | zero => rfl
    | succ i => simp [setNth, ih]

theorem getElem?_setNth {α : Type} {l : List α} {i : Nat} {a0 : α} (h : l[i]? = some a0) (a : α) (j : Nat) :
    (setNth l i a)[j]? = if j = i then some a else l[j]? := by
  obtain ⟨hi, _⟩ := List.getElem?_eq_some_iff.mp h
  rw [setNth_eq_set, List.getElem?_set, if_pos hi]
  by_cases hj : j = i
  · rw [if_pos hj.symm, if_pos hj]
  · rw [if_neg (Ne.symm hj), if_neg hj]

theorem setNth_self {α : Type} {l : List α} {i : Nat} {a : α} (h : l[i]? = some a) : setNth l i a = l := by
  apply List.ext_getElem?
  intro j
  rw [getElem?_setNth h]
  split
  · next hj => rw [hj, h]
  · rfl

theorem mem_setNth {α : Type} (l : List α) (i : Nat) (a x : α) (h : x ∈ setNth l i a) : x = a ∨ x ∈ l := by
  rw [setNth_eq_set] at h
  exact (List.mem_or_eq_of_mem_set h).symm


section seq
variable {sem : LocSem}

/-! ### one name at a time: every operation on `n` reads and writes the table slot and the storage bucket of `n` only -/

def expireL (e? : Option (CEntry sem)) (released : Bool) (now : Int) : Option (CEntry sem) × Option sem.L :=
  match e? with
  | none => (none, none)
  | some e =>
    let e : CEntry sem := { e with pending := if released then e.pending - 1 else e.pending + 1 }
    if decide (0 < e.pending) || (e.loc.isSome && decide (now < e.expires)) then (some e, e.loc) else (none, none)

def getL (cfg : Cfg) (slot : Option (CEntry sem)) (s : sem.S) (e : CEntry sem) (installed chk : Bool) (now : Int) :
    Option (CEntry sem) × Option sem.L :=
  let l := sem.load now s
  if chk && cfg.checkExistence && !sem.created l then (slot, none)
  else
    let e : CEntry sem := { e with loc := some l, expires := (match sem.cacheTTL l with | some d => now + d | none => e.expires) }
    ((if installed then some e else slot), some l)

def openL (cfg : Cfg) (slot : Option (CEntry sem)) (s : sem.S) (chk : Bool) (now : Int) : Option (CEntry sem) × Option sem.L :=
  match expireL slot false now with
  | (slot', some l) => if chk && cfg.checkExistence && !sem.created l then (slot', none) else (slot', some l)
  | (slot', none) =>
    match slot' with
    | some e => getL cfg slot' s e true chk now
    | none =>
      let e : CEntry sem := { expires := newExpires cfg now, pending := 1, loc := none }
      getL cfg (if installs cfg then some e else none) s e (installs cfg) chk now

def viewOf (st : SysSt sem) (n : String) : Option (CEntry sem) × sem.S := (kget st.table n, storeOf st.store n)

theorem storeOf_kset (store : List (String × sem.S)) (n m : String) (v : sem.S) :
    storeOf (kset store n v) m = if m = n then v else storeOf store m := by
  by_cases h : m = n <;> simp [storeOf, kget_kset, h]

/-- `st'` is `st` but for the slot and the bucket of `n`, which are `v` -/
def Upd (n : String) (st : SysSt sem) (v : Option (CEntry sem) × sem.S) (st' : SysSt sem) : Prop :=
  ∀ m, viewOf st' m = if m = n then v else viewOf st m

theorem Upd.refl (n : String) (st : SysSt sem) : Upd n st (viewOf st n) st := by
  intro m
  split
  · next hm => rw [hm]
  · rfl

theorem Upd.self {n : String} {st st' : SysSt sem} {v : Option (CEntry sem) × sem.S} (h : Upd n st v st') :
    viewOf st' n = v := (h n).trans (if_pos rfl)

theorem Upd.trans {n : String} {st st1 st2 : SysSt sem} {v w : Option (CEntry sem) × sem.S} (h1 : Upd n st v st1)
    (h2 : Upd n st1 w st2) : Upd n st w st2 := by
  intro m
  rw [h2 m]
  split
  · rfl
  · next hm => rw [h1 m, if_neg hm]

theorem Upd.table (st : SysSt sem) {n : String} {slot : Option (CEntry sem)} {t' : List (String × CEntry sem)}
    (ht : ∀ m, kget t' m = if m = n then slot else kget st.table m) :
    Upd n st (slot, (viewOf st n).2) { st with table := t' } := by
  intro m
  simp only [viewOf, ht m]
  split
  · next hm => rw [hm]
  · rfl

theorem expire_store (st : SysSt sem) (n : String) (rel : Bool) (now : Int) : (expire st n rel now).1.store = st.store := by
  unfold expire
  split
  · rfl
  · simp only
    generalize (if rel = true then _ else _) = p
    split <;> rfl

theorem expire_local (st : SysSt sem) (n : String) (rel : Bool) (now : Int) :
    (expire st n rel now).2 = (expireL (viewOf st n).1 rel now).2 ∧
    Upd n st ((expireL (viewOf st n).1 rel now).1, (viewOf st n).2) (expire st n rel now).1 := by
  have h0 := Upd.refl n st
  unfold expire expireL
  simp only [viewOf] at h0 ⊢
  cases hk : kget st.table n with
  | none => rw [hk] at h0; exact ⟨rfl, h0⟩
  | some e0 =>
    simp only
    generalize (if rel = true then e0.pending - 1 else e0.pending + 1) = p
    by_cases hb : (decide (0 < p) || (e0.loc.isSome && decide (now < e0.expires))) = true
    · simp only [hb, if_true]; exact ⟨trivial, Upd.table st fun m => kget_kset _ _ _ _⟩
    · simp only [hb, Bool.false_eq_true, if_false]; exact ⟨trivial, Upd.table st fun m => kget_kdel _ _ _⟩

theorem getE_local (cfg : Cfg) (st : SysSt sem) (n : String) (e : CEntry sem) (inst chk : Bool) (now : Int) :
    (getE cfg st n e inst chk now).2 = (getL cfg (viewOf st n).1 (viewOf st n).2 e inst chk now).2 ∧
    Upd n st ((getL cfg (viewOf st n).1 (viewOf st n).2 e inst chk now).1, (viewOf st n).2)
      (getE cfg st n e inst chk now).1 := by
  unfold getE getL
  by_cases hb : (chk && cfg.checkExistence && !sem.created (sem.load now (storeOf st.store n))) = true
  · simp only [viewOf, hb, if_true]; exact ⟨trivial, Upd.refl n st⟩
  · simp only [viewOf, hb, Bool.false_eq_true, if_false]
    cases inst with
    | false => exact ⟨trivial, Upd.refl n st⟩
    | true => exact ⟨trivial, Upd.table st fun m => kget_kset _ _ _ _⟩

theorem openE_local (cfg : Cfg) (st : SysSt sem) (n : String) (chk : Bool) (now : Int) :
    (openE cfg st n chk now).2 = (openL cfg (viewOf st n).1 (viewOf st n).2 chk now).2 ∧
    Upd n st ((openL cfg (viewOf st n).1 (viewOf st n).2 chk now).1, (viewOf st n).2) (openE cfg st n chk now).1 := by
  obtain ⟨hr, hu⟩ := expire_local st n false now
  unfold openE openL
  generalize expire st n false now = x at hr hu
  obtain ⟨st1, r1⟩ := x
  generalize expireL (viewOf st n).1 false now = y at hr hu
  obtain ⟨slot1, r1'⟩ := y
  simp only at hr hu ⊢
  subst hr
  have h1 := hu.self
  cases r1 with
  | some l => simp only; split <;> exact ⟨rfl, hu⟩
  | none =>
    simp only
    rw [show kget st1.table n = slot1 from congrArg Prod.fst h1]
    -- `get` on the state that `expire` (and, for a new entry, its installation) has left
    have hget : ∀ (st2 : SysSt sem) (slot2 : Option (CEntry sem)) (e : CEntry sem) (inst : Bool),
        Upd n st (slot2, (viewOf st n).2) st2 →
        (getE cfg st2 n e inst chk now).2 = (getL cfg slot2 (viewOf st n).2 e inst chk now).2 ∧
        Upd n st ((getL cfg slot2 (viewOf st n).2 e inst chk now).1, (viewOf st n).2) (getE cfg st2 n e inst chk now).1 := by
      intro st2 slot2 e inst h2
      obtain ⟨g1, g2⟩ := getE_local cfg st2 n e inst chk now
      rw [h2.self] at g1 g2
      exact ⟨g1, h2.trans g2⟩
    cases slot1 with
    | some e1 => exact hget st1 _ e1 true hu
    | none =>
      simp only
      cases installs cfg with
      | true =>
        refine hget _ _ _ true ?_
        have h2 := hu.trans (Upd.table st1 fun m =>
          kget_kset st1.table n m { expires := newExpires cfg now, pending := 1, loc := none })
        rwa [h1] at h2
      | false => exact hget st1 _ _ false hu


/-- the call of the request `r` through the instance `l` over the bucket `s` of its name: what it writes — the instance
and the bucket afterwards; `none`: nothing — and what it answers.  `reqE` and `callC` run it on the instance that `Open`
handed out, `reqD` on the location itself. -/
def callL (r : Req sem) (l : sem.L) (s : sem.S) : Option (sem.L × sem.S) × Out sem :=
  match r with
  | .api _ op => (some ((sem.exec l s op).1, (sem.exec l s op).2.1), .ok (sem.exec l s op).2.2)
  | .create _ => if sem.created l then (none, .created false) else (some (sem.mark l s), .created true)
  | .peek _ => (none, .peeked)

/-- the slot and the bucket of a name after a call that wrote `w`: the cached instance is the one written through -/
def wrView (slot : Option (CEntry sem)) (s : sem.S) : Option (sem.L × sem.S) → Option (CEntry sem) × sem.S
  | none => (slot, s)
  | some p => (slot.map (fun e => { e with loc := some p.1 }), p.2)

/-- one request on the slot and the bucket of its name: `Open`; refused, or the call through what it handed out;
`Release` -/
def reqL (cfg : Cfg) (v : Option (CEntry sem) × sem.S) (r : Req sem) (t1 t2 : Int) : (Option (CEntry sem) × sem.S) × Out sem :=
  match openL cfg v.1 v.2 (reqCheck r) t1 with
  | (slot1, none) => (((expireL slot1 true t2).1, v.2), .notFound)
  | (slot1, some l) =>
    (((expireL (wrView slot1 v.2 (callL r l v.2).1).1 true t2).1, (wrView slot1 v.2 (callL r l v.2).1).2), (callL r l v.2).2)

/-! ### what a slot caches -/

def slotLoc (slot : Option (CEntry sem)) : Option sem.L := slot.bind (·.loc)

/-- the instance `Open` is about to hand out: the cached one, else a fresh load -/
def cand (slot : Option (CEntry sem)) (s : sem.S) (now : Int) : sem.L := (slotLoc slot).getD (sem.load now s)

theorem expireL_open (e0 : CEntry sem) (now : Int) :
    expireL (some e0) false now = (some { e0 with pending := e0.pending + 1 }, e0.loc) := by
  simp [expireL]

/-- **`Open` in closed form**: it hands out `cand`, unless the request is checked and `cand` carries no marker; the slot
afterwards caches `cand` or nothing.  (`expire` with `released = false` never deletes: the new holder is counted.) -/
theorem openL_eq (cfg : Cfg) (slot : Option (CEntry sem)) (s : sem.S) (chk : Bool) (now : Int) :
    (openL cfg slot s chk now).2 =
      (if (chk && cfg.checkExistence && !sem.created (cand slot s now)) = true then none else some (cand slot s now)) ∧
    (slotLoc (openL cfg slot s chk now).1 = none ∨ slotLoc (openL cfg slot s chk now).1 = some (cand slot s now)) := by
  cases slot with
  | none =>
    simp only [openL, expireL, getL, cand, slotLoc, Option.bind_none, Option.getD_none]
    by_cases hb : (chk && cfg.checkExistence && !sem.created (sem.load now s)) = true
    · simp only [hb, if_true]; exact ⟨trivial, Or.inl (by split <;> rfl)⟩
    · simp only [hb, Bool.false_eq_true, if_false]
      cases installs cfg
      · exact ⟨trivial, Or.inl rfl⟩
      · exact ⟨trivial, Or.inr rfl⟩
  | some e0 =>
    cases hl : e0.loc with
    | some l =>
      simp only [openL, expireL_open, cand, slotLoc, hl, Option.bind_some, Option.getD_some]
      by_cases hb : (chk && cfg.checkExistence && !sem.created l) = true
      · simp only [hb, if_true]; exact ⟨trivial, Or.inr rfl⟩
      · simp only [hb, Bool.false_eq_true, if_false]; exact ⟨trivial, Or.inr rfl⟩
    | none =>
      simp only [openL, expireL_open, getL, cand, slotLoc, hl, Option.bind_some, Option.getD_none]
      by_cases hb : (chk && cfg.checkExistence && !sem.created (sem.load now s)) = true
      · simp only [hb, if_true]; exact ⟨trivial, Or.inl rfl⟩
      · simp only [hb, Bool.false_eq_true, if_false, if_true]; exact ⟨trivial, Or.inr rfl⟩

theorem slotLoc_expireL (slot : Option (CEntry sem)) (rel : Bool) (now : Int) :
    slotLoc (expireL slot rel now).1 = none ∨ slotLoc (expireL slot rel now).1 = slotLoc slot := by
  unfold expireL
  cases slot with
  | none => exact Or.inl rfl
  | some e0 =>
    simp only
    generalize (if rel = true then e0.pending - 1 else e0.pending + 1) = p
    by_cases hb : (decide (0 < p) || (e0.loc.isSome && decide (now < e0.expires))) = true
    · simp only [hb, if_true]; exact Or.inr rfl
    · simp only [hb, Bool.false_eq_true, if_false]; exact Or.inl rfl

def SlotAll (P : sem.L → Prop) (slot : Option (CEntry sem)) : Prop := ∀ l, slotLoc slot = some l → P l

theorem SlotAll.expire {P : sem.L → Prop} {slot : Option (CEntry sem)} (hs : SlotAll P slot) (rel : Bool) (now : Int) :
    SlotAll P (expireL slot rel now).1 := by
  intro l hl
  rcases slotLoc_expireL slot rel now with h | h <;> rw [h] at hl
  · cases hl
  · exact hs l hl

theorem SlotAll.open {P : sem.L → Prop} {slot : Option (CEntry sem)} (hs : SlotAll P slot) (cfg : Cfg) (s : sem.S)
    (chk : Bool) (now : Int) (hload : P (sem.load now s)) :
    P (cand slot s now) ∧ SlotAll P (openL cfg slot s chk now).1 := by
  have hc : P (cand slot s now) := by
    unfold cand
    cases h : slotLoc slot with
    | none => exact hload
    | some l => exact hs l h
  refine ⟨hc, fun l hl => ?_⟩
  rcases (openL_eq cfg slot s chk now).2 with h | h <;> rw [h] at hl <;> cases hl
  exact hc

theorem SlotAll.wr {slot : Option (CEntry sem)} {s : sem.S} {R : sem.L → sem.S → Prop} (hs : SlotAll (R · s) slot)
    (w : Option (sem.L × sem.S)) (hw : ∀ p, w = some p → R p.1 p.2) :
    SlotAll (R · (wrView slot s w).2) (wrView slot s w).1 := by
  cases w with
  | none => exact hs
  | some p =>
    intro l hl
    cases slot with
    | none => cases hl
    | some e0 => cases hl; exact hw p rfl


theorem dget_kset (d : DSt sem) (n m : String) (p : sem.L × sem.S) (t : Int) :
    dget { d with locs := kset d.locs n p } m t = if m = n then p else dget d m t := by
  by_cases h : m = n <;> simp [dget, kget_kset, h]

/-! ### a whole request on the slot and the bucket of its name -/

def updSt (st1 : SysSt sem) (n : String) (l2 : sem.L) (s2 : sem.S) : SysSt sem :=
  { st1 with store := kset st1.store n s2, table := updLoc st1.table n l2 }

theorem updSt_local (st : SysSt sem) (n : String) (l2 : sem.L) (s2 : sem.S) :
    Upd n st ((viewOf st n).1.map (fun e => { e with loc := some l2 }), s2) (updSt st n l2 s2) := by
  intro m
  simp only [viewOf, updSt, updLoc, storeOf_kset]
  by_cases hm : m = n
  · subst hm
    simp only [if_true]
    cases hk : kget st.table m with
    | none => simp [hk]
    | some e => simp [kget_kset_self]
  · simp only [if_neg hm]
    cases hk : kget st.table n with
    | none => rfl
    | some e => simp [kget_kset, hm]

theorem reqE_local (cfg : Cfg) (st : SysSt sem) (r : Req sem) (t1 t2 : Int) :
    (reqE cfg st r t1 t2).2 = (reqL cfg (viewOf st r.name) r t1 t2).2 ∧
    Upd r.name st (reqL cfg (viewOf st r.name) r t1 t2).1 (reqE cfg st r t1 t2).1 := by
  -- once `Open` has left `slot1`: `Release`; a write, then `Release`
  have hrel : ∀ {n : String} {st1 : SysSt sem} {slot1 : Option (CEntry sem)}, Upd n st (slot1, (viewOf st n).2) st1 →
      Upd n st ((expireL slot1 true t2).1, (viewOf st n).2) (releaseE st1 n t2) := by
    intro n st1 slot1 h1
    have h2 := h1.trans (expire_local st1 n true t2).2
    rwa [h1.self] at h2
  have hwr : ∀ {n : String} {st1 : SysSt sem} {slot1 : Option (CEntry sem)}, Upd n st (slot1, (viewOf st n).2) st1 →
      ∀ l2 s2, Upd n st ((expireL (slot1.map fun e => { e with loc := some l2 }) true t2).1, s2)
        (releaseE (updSt st1 n l2 s2) n t2) := by
    intro n st1 slot1 h1 l2 s2
    have h2 := h1.trans (updSt_local st1 n l2 s2)
    rw [h1.self] at h2
    have h3 := h2.trans (expire_local _ n true t2).2
    rwa [h2.self] at h3
  obtain ⟨ho, hu⟩ := openE_local cfg st r.name (reqCheck r) t1
  have hs : storeOf (openE cfg st r.name (reqCheck r) t1).1.store r.name = (viewOf st r.name).2 := congrArg Prod.snd hu.self
  have hopen := (openL_eq cfg (viewOf st r.name).1 (viewOf st r.name).2 (reqCheck r) t1).1
  unfold reqL
  generalize openL cfg (viewOf st r.name).1 (viewOf st r.name).2 (reqCheck r) t1 = y at ho hu hopen
  obtain ⟨slot1, r1⟩ := y
  generalize hx : openE cfg st r.name (reqCheck r) t1 = x at ho hu hs
  obtain ⟨st1, r1'⟩ := x
  simp only at ho hu hs hopen
  subst ho
  cases r with
  | api n op =>
    simp only [reqE, Req.name, reqCheck] at hx hs ⊢
    rw [hx]
    cases r1' with
    | none => exact ⟨rfl, hrel hu⟩
    | some l => simp only [callL, wrView]; rw [hs]; exact ⟨rfl, hwr hu _ _⟩
  | create n =>
    simp only [reqE, Req.name, reqCheck] at hx hs ⊢
    rw [hx]
    cases r1' with
    | none => exact ⟨rfl, hrel hu⟩
    | some l =>
      simp only [callL]; rw [hs]
      cases hc : sem.created l with
      | true => exact ⟨rfl, hrel hu⟩
      | false => exact ⟨rfl, hwr hu _ _⟩
  | peek n =>
    simp only [reqE, Req.name, reqCheck] at hx hopen ⊢
    rw [hx]
    cases r1' with
    | none => simp at hopen
    | some l => exact ⟨rfl, hrel hu⟩

/-! ### against direct operation -/

def SlotGood (h : ReloadOK sem) (v : Option (CEntry sem) × sem.S) : Prop := SlotAll (fun l => h.R l v.2) v.1

def TabGood (h : ReloadOK sem) (st : SysSt sem) : Prop := ∀ n, SlotGood h (viewOf st n)

def DirOK (h : ReloadOK sem) (st : SysSt sem) (d : DSt sem) : Prop :=
  ∀ n t, (dget d n t).2 = storeOf st.store n ∧ h.R (dget d n t).1 (storeOf st.store n)

theorem dirOK_release (h : ReloadOK sem) (st : SysSt sem) (d : DSt sem) (n : String) (now : Int)
    (hD : DirOK h st d) : DirOK h (releaseE st n now) d := by
  intro m t; rw [releaseE, expire_store]; exact hD m t

/-- the direct location of `n` after a call that wrote `w` -/
def DSt.wr (d : DSt sem) (n : String) : Option (sem.L × sem.S) → DSt sem
  | none => d
  | some p => { d with locs := kset d.locs n p }

theorem reqD_eq (check : Bool) (d : DSt sem) (r : Req sem) (t : Int) :
    reqD check d r t =
      if (reqCheck r && check && !sem.created (dget d r.name t).1) = true then (d, .notFound)
      else (d.wr r.name (callL r (dget d r.name t).1 (dget d r.name t).2).1,
            (callL r (dget d r.name t).1 (dget d r.name t).2).2) := by
  cases r with
  | api n op =>
    simp only [reqD, reqCheck, Req.name, callL, DSt.wr, Bool.true_and]
  | create n =>
    cases hc : sem.created (dget d n t).1 <;> simp [reqD, reqCheck, Req.name, callL, DSt.wr, hc]
  | peek n => rfl

theorem dget_wr (d : DSt sem) (n m : String) (w : Option (sem.L × sem.S)) (t : Int) :
    dget (d.wr n w) m t = if m = n then w.getD (dget d n t) else dget d m t := by
  cases w with
  | none =>
    simp only [DSt.wr, Option.getD_none]
    split
    · next hm => rw [hm]
    · rfl
  | some p => exact dget_kset d n m p t

/-- two instances faithful to one bucket are interchangeable in a call: same answer, same bucket afterwards, both
faithful to it -/
theorem ReloadOK.call (h : ReloadOK sem) (r : Req sem) {l l' : sem.L} {s : sem.S} (hR : h.R l s) (hR' : h.R l' s) :
    (callL r l s).2 = (callL r l' s).2 ∧
    (callL r l s).1.map (·.2) = (callL r l' s).1.map (·.2) ∧
    ∀ p, (callL r l s).1 = some p → h.R p.1 p.2 := by
  cases r with
  | api n op =>
    have he := h.exec_eq l l' s op hR hR'
    refine ⟨?_, ?_, ?_⟩
    · show Out.ok (sem.exec l s op).2.2 = Out.ok (sem.exec l' s op).2.2; rw [he]
    · show some (sem.exec l s op).2.1 = some (sem.exec l' s op).2.1; rw [he]
    · intro p hp; cases hp; exact h.exec_R l s op hR
  | create n =>
    simp only [callL, ← h.created_eq l l' s hR hR']
    split
    · exact ⟨rfl, rfl, nofun⟩
    · refine ⟨rfl, congrArg some (h.mark_eq l l' s hR hR'), ?_⟩
      intro p hp; cases hp; exact h.mark_R l s hR
  | peek n => exact ⟨rfl, rfl, nofun⟩

/-- a call that may not erase the marker leaves it on an instance that carried it -/
theorem callL_marked {check : Bool} {r : Req sem} (hk : ReqKeeps sem check r) (hc : check = true)
    {l : sem.L} {s : sem.S} (hl : sem.created l = true) (p : sem.L × sem.S) (hp : (callL r l s).1 = some p) :
    sem.created p.1 = true := by
  cases r with
  | api n op => cases hp; exact hk hc l s hl
  | create n => simp only [callL, hl, if_true] at hp; cases hp
  | peek n => cases hp

/-- **the call against direct operation**: through an instance faithful to the bucket of its name, a request that is not
refused is answered as on the location operated directly; the direct location afterwards has the bucket the call leaves
and is faithful to it, and so is what the call wrote -/
theorem call_sim (h : ReloadOK sem) (check : Bool) (d : DSt sem) (r : Req sem) (t : Int) {l : sem.L} {s : sem.S}
    (hd : ∀ t, (dget d r.name t).2 = s ∧ h.R (dget d r.name t).1 s) (hR : h.R l s)
    (hchk : (reqCheck r && check && !sem.created l) = false) :
    (reqD check d r t).2 = (callL r l s).2 ∧ (∀ p, (callL r l s).1 = some p → h.R p.1 p.2) ∧
    ∀ slot t', (dget (reqD check d r t).1 r.name t').2 = (wrView slot s (callL r l s).1).2 ∧
      h.R (dget (reqD check d r t).1 r.name t').1 (wrView slot s (callL r l s).1).2 := by
  obtain ⟨hs, hdR⟩ := hd t
  obtain ⟨c1, c2, c3⟩ := h.call r hdR hR
  obtain ⟨-, -, c3'⟩ := h.call r hR hdR
  rw [reqD_eq, hs, h.created_eq _ _ _ hdR hR, hchk]
  refine ⟨c1, c3', fun slot t' => ?_⟩
  simp only [Bool.false_eq_true, if_false, dget_wr, if_true]
  -- both calls wrote nothing, or both wrote the same bucket
  cases hw : (callL r l s).1 <;> cases hw' : (callL r (dget d r.name t).1 s).1 <;> rw [hw, hw'] at c2 <;>
    simp only [Option.map_some, Option.map_none, Option.some.injEq, reduceCtorEq] at c2
  · exact hd t'
  · exact ⟨c2, c2 ▸ c3 _ hw'⟩

/-- a refused request is refused by direct operation too -/
theorem refuse_sim (h : ReloadOK sem) (check : Bool) (d : DSt sem) (r : Req sem) (t : Int) {l : sem.L} {s : sem.S}
    (hd : h.R (dget d r.name t).1 s) (hR : h.R l s) (hchk : (reqCheck r && check && !sem.created l) = true) :
    reqD check d r t = (d, .notFound) := by
  rw [reqD_eq, h.created_eq _ _ _ hd hR, hchk, if_pos rfl]

theorem reqD_other (check : Bool) (d : DSt sem) (r : Req sem) (t : Int) (m : String) (t' : Int) (hm : m ≠ r.name) :
    dget (reqD check d r t).1 m t' = dget d m t' := by
  rw [reqD_eq]
  split
  · rfl
  · rw [dget_wr, if_neg hm]

/-- `Open` hands out a faithful instance (the cached one or a fresh load), so the marker is read and the call answered
as by the direct instance (`refuse_sim`, `call_sim`). -/
theorem reqL_sim (h : ReloadOK sem) (cfg : Cfg) (d : DSt sem) (r : Req sem) (t1 t2 t1' : Int)
    {v : Option (CEntry sem) × sem.S} (hv : SlotGood h v)
    (hd : ∀ t, (dget d r.name t).2 = v.2 ∧ h.R (dget d r.name t).1 v.2) :
    (reqL cfg v r t1 t2).2 = (reqD cfg.checkExistence d r t1').2 ∧ SlotGood h (reqL cfg v r t1 t2).1 ∧
    ∀ t, (dget (reqD cfg.checkExistence d r t1').1 r.name t).2 = (reqL cfg v r t1 t2).1.2 ∧
      h.R (dget (reqD cfg.checkExistence d r t1').1 r.name t).1 (reqL cfg v r t1 t2).1.2 := by
  obtain ⟨hR, o1⟩ := SlotAll.open (P := fun l => h.R l v.2) hv cfg v.2 (reqCheck r) t1 (h.load_R t1 v.2)
  have hres := (openL_eq cfg v.1 v.2 (reqCheck r) t1).1
  unfold reqL
  cases ho : openL cfg v.1 v.2 (reqCheck r) t1 with
  | mk slot1 r1 =>
    rw [ho] at o1 hres
    simp only at hres
    split at hres <;> subst hres
    · next hchk =>
      rw [refuse_sim h _ d r t1' (hd t1').2 hR hchk]
      exact ⟨rfl, o1.expire true t2, hd⟩
    · next hchk =>
      simp only
      have hchk := Bool.eq_false_iff.mpr hchk
      obtain ⟨e1, e2, e3⟩ := call_sim h cfg.checkExistence d r t1' hd hR hchk
      exact ⟨e1.symm, (SlotAll.wr (R := h.R) o1 _ e2).expire true t2, e3 slot1⟩

theorem step_sim (h : ReloadOK sem) (cfg : Cfg) (st : SysSt sem) (d : DSt sem) (r : Req sem) (t1 t2 t1' : Int)
    (hT : TabGood h st) (hD : DirOK h st d) :
    (reqE cfg st r t1 t2).2 = (reqD cfg.checkExistence d r t1').2 ∧
    TabGood h (reqE cfg st r t1 t2).1 ∧
    DirOK h (reqE cfg st r t1 t2).1 (reqD cfg.checkExistence d r t1').1 := by
  obtain ⟨e1, e2⟩ := reqE_local cfg st r t1 t2
  obtain ⟨g1, g2, g3⟩ := reqL_sim h cfg d r t1 t2 t1' (hT r.name) (hD r.name)
  refine ⟨e1.trans g1, fun m => ?_, fun m t => ?_⟩
  · rw [e2 m]
    split
    · exact g2
    · exact hT m
  · show _ = (viewOf (reqE cfg st r t1 t2).1 m).2 ∧ h.R _ (viewOf (reqE cfg st r t1 t2).1 m).2
    rw [e2 m]
    split
    · next hm => subst hm; exact g3 t
    · next hm => rw [reqD_other _ d r t1' m t hm]; exact hD m t


theorem run_sim (h : ReloadOK sem) (cfg : Cfg) :
    ∀ (h1 h2 : List (Req sem × Int × Int)) (st : SysSt sem) (d : DSt sem),
      SameReqs h1 h2 → TabGood h st → DirOK h st d →
      (runE cfg st h1).2 = (runD cfg.checkExistence d h2).2 := by
  intro h1
  induction h1 with
  | nil =>
    intro h2 st d hs _ _
    cases h2 with
    | nil => rfl
    | cons b r2 => exact absurd hs (by simp [SameReqs])
  | cons a r1 ih =>
    intro h2 st d hs hT hD
    cases h2 with
    | nil => exact absurd hs (by simp [SameReqs])
    | cons b r2 =>
      obtain ⟨ra, ta1, ta2⟩ := a
      obtain ⟨rb, tb1, tb2⟩ := b
      simp only [SameReqs] at hs
      obtain ⟨hab, hrest⟩ := hs
      subst hab
      obtain ⟨ho, hT', hD'⟩ := step_sim h cfg st d ra ta1 ta2 tb1 hT hD
      have := ih r2 _ _ hrest hT' hD'
      simp only [runE, runD]
      rw [ho, this]

theorem init_sim (h : ReloadOK sem) (s0 : List (String × sem.S)) :
    TabGood h ({ store := s0 } : SysSt sem) ∧ DirOK h ({ store := s0 } : SysSt sem) ({ base := s0 } : DSt sem) := by
  constructor
  · intro n l hl; cases hl
  · intro n t; exact ⟨rfl, h.load_R _ _⟩

/-! ### one name through a history -/

/-- an invariant `I` of the slot and bucket of `n` (with `Q` of the answers) needs checking on the requests to `n` only:
the others do not touch `n` -/
theorem run_view (cfg : Cfg) (n : String) (I : Option (CEntry sem) × sem.S → Prop) (ok : Req sem → Prop)
    (Q : Req sem → Out sem → Prop)
    (hstep : ∀ v r t1 t2, ok r → r.name = n → I v → I (reqL cfg v r t1 t2).1 ∧ Q r (reqL cfg v r t1 t2).2) :
    ∀ (hist : List (Req sem × Int × Int)) (st : SysSt sem), (∀ x ∈ hist, ok x.1) → I (viewOf st n) →
      (∀ p ∈ hist.zip (runE cfg st hist).2, p.1.1.name = n → Q p.1.1 p.2) ∧ I (viewOf (runE cfg st hist).1 n) := by
  intro hist
  induction hist with
  | nil => intro st _ hI; exact ⟨by intro p hp; simp [runE] at hp, hI⟩
  | cons a rest ih =>
    intro st hok hI
    obtain ⟨r, t1, t2⟩ := a
    obtain ⟨e1, e2⟩ := reqE_local cfg st r t1 t2
    have hI' : I (viewOf (reqE cfg st r t1 t2).1 n) ∧ (r.name = n → Q r (reqE cfg st r t1 t2).2) := by
      rw [e2 n, e1]
      split
      · next hn =>
        have := hstep _ r t1 t2 (hok _ (List.mem_cons_self ..)) hn.symm hI
        exact ⟨hn ▸ this.1, fun _ => hn ▸ this.2⟩
      · next hn => exact ⟨hI, fun e => absurd e.symm hn⟩
    obtain ⟨i1, i2⟩ := ih (reqE cfg st r t1 t2).1 (fun x hx => hok x (List.mem_cons_of_mem _ hx)) hI'.1
    simp only [runE]
    refine ⟨?_, i2⟩
    intro p hp hpn
    simp only [List.zip_cons_cons, List.mem_cons] at hp
    rcases hp with hp | hp
    · subst hp; exact hI'.2 hpn
    · exact i1 p hp hpn

/-- Beside `unmarked_run`: here the history sends `n` checked requests only (no `GetLocation`), so no instance of `n` is
ever cached and the slot stays empty, not only the bucket unchanged. -/
theorem no_create_run (cfg : Cfg) (hc : cfg.checkExistence = true) (n : String) (s : sem.S)
    (hn : ∀ t, sem.created (sem.load t s) = false) :
    ∀ (hist : List (Req sem × Int × Int)) (st : SysSt sem),
      (∀ x ∈ hist, x.1.name = n → ∃ op, x.1 = .api n op) →
      kget st.table n = none → storeOf st.store n = s →
      (∀ p ∈ hist.zip (runE cfg st hist).2, p.1.1.name = n → p.2 = .notFound) ∧
      storeOf (runE cfg st hist).1.store n = s ∧ kget (runE cfg st hist).1.table n = none := by
  intro hist st hok ht hs
  -- on the slot: nothing to expire, the load is refused, the new entry (if one was installed) goes with its only holder
  have hstep : ∀ v (r : Req sem) t1 t2, (r.name = n → ∃ op, r = .api n op) → r.name = n → v = (none, s) →
      (reqL cfg v r t1 t2).1 = (none, s) ∧ (reqL cfg v r t1 t2).2 = .notFound := by
    intro v r t1 t2 hr hname hv
    obtain ⟨op, rfl⟩ := hr hname
    subst hv
    cases hi : installs cfg <;> simp [reqL, reqCheck, openL, expireL, getL, hc, hn t1, hi]
  obtain ⟨h1, h2⟩ := run_view cfg n (· = (none, s)) _ (fun _ o => o = .notFound) hstep hist st hok (Prod.ext ht hs)
  exact ⟨h1, congrArg Prod.snd h2, congrArg Prod.fst h2⟩

/-- the name is not created: its storage is `s` (which holds no marker) and whatever instance of it is cached carries
no marker -/
def Unmarked (v : Option (CEntry sem) × sem.S) (s : sem.S) : Prop :=
  v.2 = s ∧ SlotAll (fun l => sem.created l = false) v.1

/-- a request that is not `CreateLocation` keeps its name un-created, and fails when it is checked — also after
unchecked opens (`GetLocation`) have put an instance into the cache: whatever `Open` could hand out carries no marker,
and a checked request is handed only instances that do -/
theorem reqL_unmarked (cfg : Cfg) (hc : cfg.checkExistence = true) {v : Option (CEntry sem) × sem.S} {s : sem.S}
    (hn : ∀ t, sem.created (sem.load t s) = false) (r : Req sem) (t1 t2 : Int) (hr : r ≠ .create r.name)
    (hU : Unmarked v s) :
    Unmarked (reqL cfg v r t1 t2).1 s ∧ ∀ m op, r = .api m op → (reqL cfg v r t1 t2).2 = .notFound := by
  obtain ⟨rfl, hv⟩ := hU
  obtain ⟨hc0, o1⟩ := hv.open cfg v.2 (reqCheck r) t1 (hn t1)
  have hres := (openL_eq cfg v.1 v.2 (reqCheck r) t1).1
  unfold reqL
  cases ho : openL cfg v.1 v.2 (reqCheck r) t1 with
  | mk slot1 r1 =>
    rw [ho] at o1 hres
    -- `cand` carries no marker: a checked request is refused; `GetLocation` is handed it and writes nothing
    cases r with
    | create n => exact absurd rfl hr
    | api n op =>
      simp only [reqCheck, hc, hc0, Bool.and_self, Bool.not_false, if_true] at hres
      subst hres
      exact ⟨⟨rfl, o1.expire true t2⟩, fun _ _ _ => rfl⟩
    | peek n =>
      simp only [reqCheck, Bool.false_and, Bool.false_eq_true, if_false] at hres
      subst hres
      exact ⟨⟨rfl, o1.expire true t2⟩, nofun⟩

theorem unmarked_run (cfg : Cfg) (hc : cfg.checkExistence = true) (n : String) (s : sem.S)
    (hn : ∀ t, sem.created (sem.load t s) = false) :
    ∀ (hist : List (Req sem × Int × Int)) (st : SysSt sem),
      (∀ x ∈ hist, x.1 ≠ .create n) → Unmarked (viewOf st n) s →
      (∀ p ∈ hist.zip (runE cfg st hist).2, ∀ op, p.1.1 = .api n op → p.2 = .notFound) ∧
      storeOf (runE cfg st hist).1.store n = s := by
  intro hist st hok hU
  obtain ⟨h1, h2⟩ := run_view cfg n (Unmarked · s) (· ≠ .create n) (fun r o => ∀ m op, r = .api m op → o = .notFound)
    (fun v r t1 t2 hr hname hv => reqL_unmarked cfg hc hn r t1 t2 (by rw [hname]; exact hr) hv) hist st hok hU
  exact ⟨fun p hp op hpn => h1 p hp (by rw [hpn]; rfl) n op hpn, h2.1⟩


/-! ### `keepMark`: `ClearLocation` keeps the marker, and reloading stays the identity -/

theorem keepMarkExec_R (h : ReloadOK sem) (isClear : sem.Op → Bool) (l : sem.L) (s : sem.S) (op : sem.Op) (hR : h.R l s) :
    h.R (keepMarkExec sem isClear l s op).1 (keepMarkExec sem isClear l s op).2.1 := by
  unfold keepMarkExec
  simp only
  by_cases hb : (isClear op && sem.created l && !sem.created (sem.exec l s op).1) = true
  · rw [if_pos hb]; exact h.mark_R _ _ (h.exec_R l s op hR)
  · rw [if_neg hb]; exact h.exec_R l s op hR

theorem keepMarkExec_eq (h : ReloadOK sem) (isClear : sem.Op → Bool) (l l' : sem.L) (s : sem.S) (op : sem.Op)
    (hR : h.R l s) (hR' : h.R l' s) :
    (keepMarkExec sem isClear l s op).2 = (keepMarkExec sem isClear l' s op).2 := by
  have he := h.exec_eq l l' s op hR hR'
  have hc := h.created_eq l l' s hR hR'
  have hs : (sem.exec l s op).2.1 = (sem.exec l' s op).2.1 := congrArg Prod.fst he
  have hr : (sem.exec l s op).2.2 = (sem.exec l' s op).2.2 := congrArg Prod.snd he
  have hc2 : sem.created (sem.exec l s op).1 = sem.created (sem.exec l' s op).1 :=
    h.created_eq _ _ _ (h.exec_R l s op hR) (hs ▸ h.exec_R l' s op hR')
  have hm : (sem.mark (sem.exec l s op).1 (sem.exec l s op).2.1).2 = (sem.mark (sem.exec l' s op).1 (sem.exec l' s op).2.1).2 := by
    rw [← hs]; exact h.mark_eq _ _ _ (h.exec_R l s op hR) (hs ▸ h.exec_R l' s op hR')
  unfold keepMarkExec
  simp only
  rw [← hc, ← hc2]
  by_cases hb : (isClear op && sem.created l && !sem.created (sem.exec l s op).1) = true
  · rw [if_pos hb, if_pos hb]; simp only [hm, hr]
  · rw [if_neg hb, if_neg hb]; exact he

def keepMark_reloadOK (h : ReloadOK sem) (isClear : sem.Op → Bool) : ReloadOK (keepMark sem isClear) where
  R := h.R
  load_R := h.load_R
  exec_R := fun l s op hR => keepMarkExec_R h isClear l s op hR
  exec_eq := fun l l' s op hR hR' => keepMarkExec_eq h isClear l l' s op hR hR'
  created_eq := h.created_eq
  mark_R := h.mark_R
  mark_eq := h.mark_eq
  mark_created := h.mark_created

theorem keepMark_keeps (sem : LocSem) (isClear : sem.Op → Bool) (hmc : ∀ l s, sem.created (sem.mark l s).1 = true)
    (op : sem.Op) (hop : isClear op = true) : KeepsMarker (keepMark sem isClear) op := by
  intro l s (hl : sem.created l = true)
  show sem.created (keepMarkExec sem isClear l s op).1 = true
  unfold keepMarkExec
  simp only
  by_cases hb : (isClear op && sem.created l && !sem.created (sem.exec l s op).1) = true
  · rw [if_pos hb]; exact hmc _ _
  · rw [if_neg hb]
    simp [hop, hl] at hb
    exact hb

end seq

theorem sameReqs_refl {sem : LocSem} : ∀ (b : List (Req sem × Int × Int)), SameReqs b b
  | [] => trivial
  | _ :: r => ⟨rfl, sameReqs_refl r⟩

def reclock {sem : LocSem} (f : Int → Int) (h : List (Req sem × Int × Int)) : List (Req sem × Int × Int) :=
  h.map (fun x => (x.1, f x.2.1, f x.2.2))

theorem sameReqs_reclock {sem : LocSem} (f : Int → Int) : ∀ (b : List (Req sem × Int × Int)), SameReqs b (reclock f b)
  | [] => trivial
  | _ :: r => ⟨rfl, sameReqs_reclock f r⟩

theorem toy_add_keeps_aux (k : Nat) (l : List Nat) (hl : l.contains 0 = true) : (k :: l).contains 0 = true := by
  rw [List.contains_cons, hl, Bool.or_true]

theorem toy_add_keeps (k : Nat) : KeepsMarker toySem (TOp.add k) := fun l _ hl => toy_add_keeps_aux k l hl
