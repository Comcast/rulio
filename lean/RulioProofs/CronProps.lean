import RulioProofs.CronTimeline

/-! The in-memory cron (C16): where the jobs and fires of a state come from, step by step, and the trace invariants
(`Track`) built on that; the fires of one job object. -/

namespace CronM
open C16Gen List

theorem serial_le_of_step {s s' : Cron} {op : Op} (hst : Step s op s') : s.serial ≤ s'.serial := by
  cases hst with
  | addFull | addIns => exact Nat.le_succ _
  | _ => exact Nat.le_refl _

/-! ## a trace invariant: what holds of the jobs an `add` creates, and survives re-scheduling, holds of every job and fire -/

/-- `P id serial period next` holds of every live job (pending, or running and due to be re-scheduled), and
`P id serial period due` of every logged fire outside `oldlog` -/
structure Track (P : Nat → Nat → Nat → Nat → Prop) (oldlog : List Fire) (s : Cron) : Prop where
  jobs : ∀ x ∈ s.tl ++ s.running, P x.id x.serial x.period x.next
  fires : ∀ f ∈ s.log, f ∈ oldlog ∨ P f.id f.serial f.period f.due

/-- Every job that is live after a step was so before, or was created by this `add`, or is the re-scheduled recurring job
whose `Fn` just returned; every fire was there before, or is the fire of the head of the timeline by this `tick`. -/
theorem Track.step {P oldlog} {s : Cron} (hw : WF s) (h : Track P oldlog s) (op : Op)
    (hadd : ∀ id due p, op = .add id due p → P id s.serial p (schedJob s.clock ⟨id, due, p, s.serial⟩).next)
    (hdone : ∀ id k p nx c, p ≠ 0 → P id k p nx → P id k p (nextOcc p c)) :
    Track P oldlog (CronM.step s op) := by
  have hrem (id : Nat) : ∀ x ∈ remJob id s.tl ++ remJob id s.running, P x.id x.serial x.period x.next :=
    fun x hx => h.jobs x (((remJob_sublist _ _).append (remJob_sublist _ _)).subset hx)
  have hst := step_rel hw op
  generalize CronM.step s op = s' at hst
  cases hst with
  | control | tickIdle | doneGone => exact ⟨h.jobs, h.fires⟩
  | rem id | addFull id => exact ⟨hrem id, h.fires⟩
  | addIns id due p =>
    refine ⟨fun x hx => ?_, h.fires⟩
    rcases mem_append.1 hx with hx | hx
    · rcases mem_insertJob.1 hx with rfl | hx
      · obtain ⟨i1, i2, i3⟩ := schedJob_id s.clock ⟨id, due, p, s.serial⟩
        rw [i1, i2, i3]; exact hadd id due p rfl
      · exact hrem id x (mem_append_left _ hx)
    · exact hrem id x (mem_append_right _ hx)
  | tickPop j rest _ htl =>
    have hj := h.jobs j (mem_append_left _ (htl ▸ mem_cons_self))
    refine ⟨fun x hx => ?_, fun f hf => (mem_cons.1 hf).elim (fun e => .inr (e ▸ hj)) (h.fires f)⟩
    -- the popped head may have moved to `c.running`
    rcases mem_append.1 hx with hx | hx
    · exact h.jobs x (mem_append_left _ (htl ▸ mem_cons_of_mem _ hx))
    · rcases mem_cons.1 ((pop_running_sublist s j rest).subset hx) with rfl | hx
      · exact hj
      · exact h.jobs x (mem_append_right _ hx)
  | doneBack j hj =>
    refine ⟨fun x hx => ?_, h.fires⟩
    rcases mem_append.1 hx with hx | hx
    · rcases mem_insertJob.1 hx with rfl | hx
      · obtain ⟨i1, i2, i3⟩ := schedJob_id s.clock j
        have hp := hw.runRec j hj
        rw [i1, i2, i3, schedJob_next hp]
        exact hdone _ _ _ _ _ hp (h.jobs j (mem_append_right _ hj))
      · exact h.jobs x (mem_append_left _ hx)
    · exact h.jobs x (mem_append_right _ (eraseP_sublist.subset hx))

/-- `n`: `P` is owed only to the job objects created from serial `n` on; those that `s` holds already are covered by `h` -/
theorem Track.run {P oldlog} {n : Nat} (hadd : ∀ id due p c k, n ≤ k → P id k p (schedJob c ⟨id, due, p, k⟩).next)
    (hdone : ∀ id k p nx c, p ≠ 0 → P id k p nx → P id k p (nextOcc p c)) {s : Cron} (hw : WF s) (hn : n ≤ s.serial)
    (h : Track P oldlog s) (ops : List Op) : Track P oldlog (run s ops) := by
  induction ops generalizing s with
  | nil => exact h
  | cons op ops ih =>
    exact ih (WF_step hw op) (Nat.le_trans hn (serial_le_of_step (step_rel hw op)))
      (h.step hw op (fun id due p _ => hadd id due p _ _ hn) hdone)

/-- after `Rem id` — whether the job was pending or its `Fn` was running — every live job with that id, and every later fire
under that id, was created by a later `Add` -/
theorem removed_track {s : Cron} (h : WF s) (id : Nat) (post : List Op) :
    Track (fun i k _ _ => i = id → s.serial ≤ k) s.log (run (step s (.rem id)) post) := by
  refine Track.run (n := s.serial) (fun _ _ _ _ _ hk _ => hk) (fun _ _ _ _ _ _ hP => hP) (WF_step h _) (Nat.le_refl _) ⟨?_, ?_⟩ post
  · exact fun x hx hid => absurd hid (drop_no_id h id x hx)
  · exact fun f hf => .inl hf

/-- the same after an `Add id …` (a replacement when the id exists): every live job with that id, and every later fire under
that id, belongs to this `Add` or a later one — the replaced job object never fires again, even if its `Fn` was running -/
theorem replaced_track {s : Cron} (h : WF s) (id due p : Nat) (post : List Op) :
    Track (fun i k _ _ => i = id → s.serial ≤ k) s.log (run (step s (.add id due p)) post) := by
  have hst := step_rel h (.add id due p)
  refine Track.run (n := s.serial) (fun _ _ _ _ _ hk _ => hk) (fun _ _ _ _ _ _ hP => hP) (WF_step h _)
    (serial_le_of_step hst) ?_ post
  generalize step s (.add id due p) = s' at hst
  -- the entries with that id have been removed, only the new job may carry it; and an `Add` logs nothing
  have hno := drop_no_id h id
  cases hst with
  | control hc => cases hc
  | addFull => exact ⟨fun x hx hid => absurd hid (hno x hx), fun f hf => .inl hf⟩
  | addIns =>
    refine ⟨fun x hx hid => ?_, fun f hf => .inl hf⟩
    rcases mem_append.1 hx with hx | hx
    · rcases mem_insertJob.1 hx with rfl | hx
      · exact Nat.le_of_eq (schedJob_id s.clock ⟨id, due, p, s.serial⟩).2.1.symm
      · exact absurd hid (hno x (mem_append_left _ hx))
    · exact absurd hid (hno x (mem_append_right _ hx))

/-- a one-shot job keeps its id and its due time: whatever carries the serial of the job object created by `Add id due`
is that job, or a fire of it -/
theorem oneshot_track {s : Cron} (h : WF s) (id due : Nat) (post : List Op) :
    Track (fun i k p n => k = s.serial → i = id ∧ p = 0 ∧ n = due) [] (run (step s (.add id due 0)) post) := by
  refine Track.run (n := s.serial + 1) ?_ ?_ (WF_step h _) ?_ (Track.step h ⟨?_, ?_⟩ _ ?_ ?_) post
  · exact fun _ _ _ _ k hk e => absurd (e ▸ hk) (Nat.not_succ_le_self _)
  · exact fun _ _ _ _ _ hp hP e => absurd (hP e).2.1 hp
  · have hst := step_rel h (.add id due 0)
    generalize step s (.add id due 0) = s' at hst
    cases hst with
    | control hc => cases hc
    | _ => exact Nat.le_refl _
  · -- before the `Add` nothing carries its serial
    exact fun x hx e => absurd e (Nat.ne_of_lt (h.serLt x (((Sublist.refl _).append h.runSub).subset hx)))
  · exact fun f hf => .inr fun e => absurd e (Nat.ne_of_lt (h.logOk f hf).1)
  · intro _ _ _ e _
    cases e
    exact ⟨rfl, rfl, rfl⟩
  · exact fun _ _ _ _ _ hp hP e => absurd (hP e).2.1 hp

theorem firesOf_pairwise {s : Cron} (h : WF s) (k : Nat) :
    (firesOf k s).Pairwise (fun f' f => f'.period = f.period ∧ f'.period ≠ 0 ∧ f.due < f'.due) := by
  have hsub : (firesOf k s).Sublist s.log := filter_sublist
  refine Pairwise.imp_of_mem ?_ (h.logPair.sublist hsub)
  intro f' f hf' hf hR
  have e1 : f'.serial = k := beq_iff_eq.1 (mem_filter.1 hf').2
  have e2 : f.serial = k := beq_iff_eq.1 (mem_filter.1 hf).2
  obtain ⟨_, b, c, d⟩ := hR (e1.trans e2.symm)
  exact ⟨b, c, Nat.lt_of_le_of_lt (h.logOk f (hsub.subset hf)).2.1 d⟩

theorem firesOf_oneshot_le_one {s : Cron} (h : WF s) (k : Nat) {f : Fire} (hf : f ∈ firesOf k s) (h0 : f.period = 0) :
    (firesOf k s).length ≤ 1 := by
  have hp := firesOf_pairwise h k
  match hl : firesOf k s with
  | [] => exact Nat.zero_le _
  | [_] => exact Nat.le_refl _
  | a :: b :: rest =>
    rw [hl] at hp hf
    -- all these fires have the period of the first, which is not 0
    obtain ⟨hab, hrest⟩ := pairwise_cons.1 hp
    have ha := (hab b mem_cons_self).2.1
    rcases mem_cons.1 hf with rfl | hf
    · exact absurd h0 ha
    · exact absurd ((hab f hf).1.trans h0) ha

/-- the return of an `Fn`, the passage of time and the control commands never take anything off the timeline -/
theorem run_tl_keep {s : Cron} (hw : WF s) (ops : List Op) (hops : ∀ o ∈ ops, (∃ k, o = .done k) ∨ o.isControl = true)
    {x : Job} (hx : x ∈ s.tl) : x ∈ (run s ops).tl := by
  induction ops generalizing s with
  | nil => exact hx
  | cons op ops ih =>
    refine ih (WF_step hw op) (fun o ho => hops o (mem_cons_of_mem _ ho)) ?_
    have hst := step_rel hw op
    have hop := hops op mem_cons_self
    generalize step s op = s' at hst
    cases hst with
    | control | doneGone => exact hx
    | doneBack => exact mem_insertJob.2 (.inr hx)
    | _ => rcases hop with ⟨_, e⟩ | e <;> cases e

end CronM
