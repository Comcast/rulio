import RulioModel.Breaker
import RulioProofs.Lookup -- for `List.countP_set_add`

/-! # C20: Throttle bookkeeping, the retry loop of `Submit`, and the capacity gate, sequential and
with concurrent adders -/

open Gen.C20

/-- `pending` is exactly the number of submitters between the increment and the decrement, and at most
`pendingLimit + 1` of them exist — whatever `Disable` calls are interleaved; `L` is the pending limit, which no step
changes -/
structure TInv (L : Nat) (t : Thr) : Prop where
  lim : t.pendingLimit = L
  eq : t.pending = t.waiting
  bound : t.waiting ≤ L + 1

theorem count_waiting_set (pcs : List SPc) (tid : Nat) (old new : SPc) (h : pcs[tid]? = some old) :
    (pcs.set tid new).count .waiting + (if old = .waiting then 1 else 0) =
      pcs.count .waiting + (if new = .waiting then 1 else 0) := by
  simpa [List.count_eq_countP] using List.countP_set_add (· == SPc.waiting) h new

/-- **tie to the generated guard of `t.pending++`**: it is the negation of the test that makes `Submit` return
`ThrottleOverflow` — the increment happens exactly for the submissions that go on to the loop (and the decrement) -/
theorem incr_iff_not_overflow (too disabled : Bool) : incrGuard too disabled = !overflowReturns too := by
  cases too <;> cases disabled <;> rfl

/-- the first critical section of `Submit`: over the limit it returns `ThrottleOverflow` and leaves `pending` alone,
otherwise it counts the submission and goes on to the loop -/
theorem Thr.enter_eq (t : Thr) (tid : Nat) :
    t.enter tid = if t.pendingLimit < t.pending then { t with pcs := t.pcs.set tid .overflow }
      else { t with pending := t.pending + 1, pcs := t.pcs.set tid .waiting } := by
  unfold Thr.enter
  simp only [incr_iff_not_overflow, tooMany, overflowReturns]
  by_cases h : t.pendingLimit < t.pending <;> simp [h]

theorem step_inv {L : Nat} (t : Thr) (tid : Nat) (h : TInv L t) : TInv L (t.step tid) := by
  have heq : t.pending = t.pcs.count .waiting := h.eq
  have hb : t.pcs.count .waiting ≤ L + 1 := h.bound
  have hl := h.lim
  unfold Thr.step
  split
  · rename_i hidle
    rw [Thr.enter_eq]
    split
    · have hc : (t.pcs.set tid .overflow).count .waiting = t.pcs.count .waiting :=
        count_waiting_set t.pcs tid .idle .overflow hidle
      exact ⟨hl, heq.trans hc.symm, Nat.le_trans (Nat.le_of_eq hc) hb⟩
    · have hc : (t.pcs.set tid .waiting).count .waiting = t.pcs.count .waiting + 1 :=
        count_waiting_set t.pcs tid .idle .waiting hidle
      exact ⟨hl, (congrArg (· + 1) heq).trans hc.symm,
        show (t.pcs.set tid .waiting).count .waiting ≤ L + 1 by omega⟩
  · rename_i hwait
    have hc : (t.pcs.set tid .done).count .waiting + 1 = t.pcs.count .waiting :=
      count_waiting_set t.pcs tid .waiting .done hwait
    exact ⟨hl, show t.pending - exitDecrement = (t.pcs.set tid .done).count .waiting by unfold exitDecrement; omega,
      show (t.pcs.set tid .done).count .waiting ≤ L + 1 by omega⟩
  · exact h

theorem ev_inv {L : Nat} (t : Thr) (e : Thr.Ev) (h : TInv L t) : TInv L (t.ev e) := by
  cases e with
  | sub tid => exact step_inv t tid h
  | setDisabled b => exact ⟨h.lim, h.eq, h.bound⟩
  | spawn =>
    have hc : (t.pcs ++ [SPc.idle]).count .waiting = t.pcs.count .waiting := by
      rw [List.count_append]
      rfl
    exact ⟨h.lim, h.eq.trans hc.symm, Nat.le_trans (Nat.le_of_eq hc) h.bound⟩

theorem exec_inv {L : Nat} (t : Thr) (es : List Thr.Ev) (h : TInv L t) : TInv L (t.exec es) := by
  induction es generalizing t with
  | nil => exact h
  | cons e es ih => exact ih _ (ev_inv t e h)

theorem start_inv (limit : Nat) (d : Bool) (n : Nat) : TInv limit (Thr.start limit d n) := by
  refine ⟨rfl, ?_, ?_⟩ <;> simp [Thr.start, Thr.waiting, List.count_replicate]

/-- one round of the loop of `Submit`: past the last attempt it gives up; a `Do` that reports `attempted` ends it;
otherwise the next round decides -/
theorem submitLoop.go_cons (attempts i : Nat) (k : BKind) (st : List BKind) (fuel : Nat) :
    submitLoop.go attempts i (k :: st) (fuel + 1) =
      if i < attempts then
        if k.doF.2 then ((if k.doF.1 then 1 else 0), true)
        else ((if k.doF.1 then 1 else 0) + (submitLoop.go attempts (i + 1) st fuel).1,
          (submitLoop.go attempts (i + 1) st fuel).2)
      else (0, false) := by
  simp [submitLoop.go, loopCond, loopBreaksOnWorked]

theorem submitLoop_go_once (attempts i : Nat) (st : List BKind) (fuel : Nat)
    (hf : ∀ k ∈ st, k.faithful = true) :
    (submitLoop.go attempts i st fuel).1 = (if (submitLoop.go attempts i st fuel).2 then 1 else 0) := by
  induction st generalizing i fuel with
  | nil => cases fuel <;> rfl
  | cons k st ih =>
    cases fuel with
    | zero => rfl
    | succ fuel =>
      have hk : k.doF.1 = k.doF.2 := beq_iff_eq.mp (hf k List.mem_cons_self)
      have ih' := ih (i + 1) fuel (fun k' h' => hf k' (List.mem_cons_of_mem _ h'))
      rw [submitLoop.go_cons, hk]
      by_cases hi : i < attempts
      · rw [if_pos hi]
        cases k.doF.2
        · simpa using ih'
        · rfl
      · rw [if_neg hi]
        rfl

/-- **tie to the generated gates**: `AddFact` and `AddRule` test `AtCapacity` before they store anything -/
theorem Cap.step_addFact (c : Cap) (id v : String) :
    c.step (.addFact id v) = if c.maxFacts ≤ (c.count : Int) then (c, .capacity)
      else ({ c with store := Cap.put c.store id v }, .ok) := by
  simp [Cap.step, addFactGated, atCapacity]

theorem Cap.step_addRule (c : Cap) (id v : String) :
    c.step (.addRule id v) = if c.maxFacts ≤ (c.count : Int) then (c, .capacity)
      else ({ c with store := Cap.put c.store id v }, .ok) := by
  simp [Cap.step, addRuleGated, atCapacity]

theorem put_length_le (st : List (String × String)) (id v : String) : (Cap.put st id v).length ≤ st.length + 1 := by
  unfold Cap.put
  split <;> simp

theorem gated_put_le (c : Cap) (id v : String) (h : ¬ c.maxFacts ≤ (c.count : Int)) :
    (({ c with store := Cap.put c.store id v } : Cap).count : Int) ≤ c.maxFacts := by
  have := put_length_le c.store id v
  unfold Cap.count at *
  show ((Cap.put c.store id v).length : Int) ≤ c.maxFacts
  omega

theorem cap_step_le (c : Cap) (o : CapOp) (hp : Cap.CapOp.public o = true) (h : (c.count : Int) ≤ c.maxFacts) :
    (((c.step o).1.count : Nat) : Int) ≤ (c.step o).1.maxFacts ∧ (c.step o).1.maxFacts = c.maxFacts := by
  cases o with
  | addFact id v | addRule id v =>
    simp only [Cap.step_addFact, Cap.step_addRule]
    split
    · exact ⟨h, rfl⟩
    · exact ⟨gated_put_le c id v ‹_›, rfl⟩
  | rem id =>
    simp only [Cap.step]
    split
    · have := List.length_filter_le (fun kv => kv.1 != id) c.store
      unfold Cap.count at *
      exact ⟨by show ((c.store.filter _).length : Int) ≤ c.maxFacts; omega, rfl⟩
    · exact ⟨h, rfl⟩
  | setProp id v => cases hp

/-! ## capacity under concurrency once the test and the addition are one step (`Location.admission`) -/

/-- the location is within its maximum `M` (which no step changes), and a thread between test and addition holds the
lock and has the answer the test would give now -/
structure CapLocked.Inv (M : Int) (s : CapLocked) : Prop where
  max : s.maxFacts = M
  le : (s.count : Int) ≤ M
  held : ∀ t b, s.pcs[t]? = some (.checked b) → s.holder = some t ∧ b = atCapacity s.maxFacts s.count

/-- after thread `tid` wrote its program counter, with the lock free or its own, a thread between test and addition
can only be `tid` itself, with the counter it just wrote: anybody else there would hold the lock -/
theorem CapLocked.Inv.checked_after_set {M : Int} {s : CapLocked} (h : s.Inv M) {tid : Nat}
    (hh : s.holder = none ∨ s.holder = some tid) {pc : APc} {t : Nat} {b : Bool}
    (ht : (s.pcs.set tid pc)[t]? = some (.checked b)) : t = tid ∧ pc = .checked b := by
  rw [List.getElem?_set] at ht
  split at ht
  · rename_i e
    split at ht
    · exact ⟨e.symm, Option.some.inj ht⟩
    · cases ht
  · rename_i e
    have := (h.held t b ht).1
    rcases hh with hh | hh <;> rw [hh] at this <;> cases this
    exact absurd rfl e

theorem CapLocked.inv_step {M : Int} {s : CapLocked} (h : s.Inv M) (tid : Nat) : (s.step tid).Inv M := by
  unfold CapLocked.step
  split
  · split
    · rename_i hh
      refine ⟨h.max, h.le, fun t b ht => ?_⟩
      obtain ⟨rfl, hpc⟩ := h.checked_after_set (Or.inl hh) ht
      exact ⟨rfl, (APc.checked.inj hpc).symm⟩
    · exact h
  · -- the test said "room": it was made under the lock this thread still holds, so `count` has not moved since
    rename_i hp
    obtain ⟨hhold, hfull⟩ := h.held tid false hp
    have hroom : ¬ s.maxFacts ≤ (s.count : Int) := of_decide_eq_false hfull.symm
    have hm := h.max
    refine ⟨hm, by show ((s.count + 1 : Nat) : Int) ≤ M; omega, fun t b ht => ?_⟩
    cases (h.checked_after_set (Or.inr hhold) ht).2
  · rename_i hp
    refine ⟨h.max, h.le, fun t b ht => ?_⟩
    cases (h.checked_after_set (Or.inr (h.held tid true hp).1) ht).2
  · exact h

theorem CapLocked.inv_exec {M : Int} {s : CapLocked} (h : s.Inv M) (σ : List Nat) : (s.exec σ).Inv M := by
  induction σ generalizing s with
  | nil => exact h
  | cons t ts ih => exact ih (CapLocked.inv_step h t)
