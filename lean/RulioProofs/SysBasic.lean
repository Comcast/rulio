import RulioModel.SysInv
import RulioProofs.AssocMap
import RulioProofs.LocVia

open AM

/-! # Systems as finite maps: `Sys.at` / `Sys.put` frame lemmas, `SysWF` preservation (a fresh system: `Sys.fresh_wf`).
That a method keeps name and provider flag is read off as `(loc*_via …).keepsId` where a proof needs it; the `loc*_keeps`
at the end state it for the five reading methods by name. -/

theorem Sys.keys_eq (sys : Sys) : sys.keys = amKeys sys := rfl

theorem Sys.get?_put (sys : Sys) (l : Loc) (n : String) :
    (sys.put l).get? n = if n == l.name then some l else sys.get? n := by
  simp only [beq_iff_eq]; exact amGet_amSet _ _ _ _

theorem Sys.get?_isSome_iff (sys : Sys) (n : String) : (sys.get? n).isSome ↔ n ∈ sys.keys :=
  amGet_isSome_iff sys n

theorem Sys.get?_eq_none_iff (sys : Sys) (n : String) : sys.get? n = none ↔ n ∉ sys.keys :=
  amGet_eq_none_iff sys n

theorem Sys.mem_keys_of_get? {sys : Sys} {n : String} {l : Loc} (h : sys.get? n = some l) : n ∈ sys.keys :=
  (Sys.get?_isSome_iff sys n).1 (by simp [h])

theorem SysWF.name_of_get? {sys : Sys} (wf : SysWF sys) {n : String} {l : Loc} (h : sys.get? n = some l) :
    l.name = n := wf.named n l (amGet_mem h)

theorem SysWF.put {sys : Sys} (wf : SysWF sys) (l : Loc) : SysWF (sys.put l) := by
  constructor
  · exact amKeys_amSet_nodup sys l.name l wf.nodup
  · intro k l' hm
    have hnd : (amKeys (sys.put l)).Nodup := amKeys_amSet_nodup sys l.name l wf.nodup
    have hg : (sys.put l).get? k = some l' := amGet_of_mem_nodup hnd hm
    rw [Sys.get?_put] at hg
    by_cases hk : k = l.name
    · simp [hk] at hg; subst hg; exact hk.symm
    · simp [hk] at hg; exact wf.name_of_get? hg

theorem Sys.put_same {sys : Sys} (wf : SysWF sys) {n : String} {l : Loc} (hg : sys.get? n = some l) :
    sys.put l = sys := by
  unfold Sys.put
  have : l.name = n := wf.name_of_get? hg
  rw [this]
  exact amSet_same sys wf.nodup hg

theorem Sys.fresh_wf (k : Kind) {names : List String} (h : names.Nodup) : SysWF (Sys.fresh k names) :=
  ⟨by simpa [Sys.fresh, Sys.keys, amKeys, Function.comp_def] using h, fun n l hm => by
    obtain ⟨_, _, e⟩ := List.mem_map.1 hm; cases e; rfl⟩

theorem Sys.keys_put_of_mem (sys : Sys) (l : Loc) (h : l.name ∈ sys.keys) : (sys.put l).keys = sys.keys :=
  amKeys_amSet_of_mem sys l.name l h

theorem Sys.length_put_of_mem (sys : Sys) (l : Loc) (h : l.name ∈ sys.keys) : (sys.put l).length = sys.length :=
  length_amSet_of_mem sys l.name l h

theorem Sys.at_none {α} {sys : Sys} {n : String} (m : LM α) (h : sys.get? n = none) :
    sys.at n m = (sys, .error "notFound") := by
  unfold Sys.at; rw [h]

theorem Sys.at_some {α} {sys : Sys} {n : String} {l : Loc} (m : LM α) (h : sys.get? n = some l) :
    sys.at n m = (sys.put (m l).1, (m l).2) := by
  unfold Sys.at; rw [h]

theorem Sys.at_ok_get? {α} {sys : Sys} {n : String} {m : LM α} {sys' : Sys} {a : α}
    (h : sys.at n m = (sys', .ok a)) : ∃ l, sys.get? n = some l ∧ (m l).2 = .ok a := by
  cases hg : sys.get? n with
  | none => rw [Sys.at_none m hg] at h; cases h
  | some l => rw [Sys.at_some m hg] at h; exact ⟨l, rfl, congrArg Prod.snd h⟩

theorem Sys.at_frame {α} {sys : Sys} (wf : SysWF sys) (n : String) {m : LM α} (hm : m.KeepsName)
    {n' : String} (hne : n' ≠ n) : (sys.at n m).1.get? n' = sys.get? n' := by
  cases hg : sys.get? n with
  | none => rw [Sys.at_none m hg]
  | some l =>
    rw [Sys.at_some m hg]
    simp only [Sys.get?_put]
    have : (m l).1.name = n := by rw [hm l]; exact wf.name_of_get? hg
    simp [this, hne]

theorem Sys.at_self {α} {sys : Sys} (wf : SysWF sys) {n : String} {m : LM α} (hm : m.KeepsName)
    {l : Loc} (hg : sys.get? n = some l) : (sys.at n m).1.get? n = some (m l).1 := by
  rw [Sys.at_some m hg]
  simp only [Sys.get?_put]
  have : (m l).1.name = n := by rw [hm l]; exact wf.name_of_get? hg
  simp [this]

theorem Sys.at_keys {α} {sys : Sys} (wf : SysWF sys) (n : String) {m : LM α} (hm : m.KeepsName) :
    (sys.at n m).1.keys = sys.keys := by
  cases hg : sys.get? n with
  | none => rw [Sys.at_none m hg]
  | some l =>
    rw [Sys.at_some m hg]
    apply Sys.keys_put_of_mem
    have : (m l).1.name = n := by rw [hm l]; exact wf.name_of_get? hg
    rw [this]; exact Sys.mem_keys_of_get? hg

theorem Sys.at_wf {α} {sys : Sys} (wf : SysWF sys) (n : String) (m : LM α) : SysWF (sys.at n m).1 := by
  cases hg : sys.get? n with
  | none => rw [Sys.at_none m hg]; exact wf
  | some l => rw [Sys.at_some m hg]; exact wf.put _

theorem Sys.at_quiet {α} {sys : Sys} (wf : SysWF sys) (n : String) {m : LM α}
    (hq : ∀ l, sys.get? n = some l → (m l).1 = l) : (sys.at n m).1 = sys := by
  cases hg : sys.get? n with
  | none => rw [Sys.at_none m hg]
  | some l => rw [Sys.at_some m hg]; simp only [hq l hg]; exact Sys.put_same wf hg

theorem Sys.length_eq_keys (sys : Sys) : sys.length = sys.keys.length := by simp [Sys.keys]

theorem Sys.at_length {α} {sys : Sys} (wf : SysWF sys) (n : String) {m : LM α} (hm : m.KeepsName) :
    (sys.at n m).1.length = sys.length := by
  rw [Sys.length_eq_keys, Sys.length_eq_keys, Sys.at_keys wf n hm]

theorem Sys.at_congr {α} {sys1 sys2 : Sys} {n : String} (m : LM α) (h : sys1.get? n = sys2.get? n) :
    (sys1.at n m).2 = (sys2.at n m).2 ∧
    (sys1.at n m).1.get? n = (sys2.at n m).1.get? n := by
  cases hg : sys2.get? n with
  | none => rw [hg] at h; rw [Sys.at_none m hg, Sys.at_none m h]; simp [h, hg]
  | some l =>
    rw [hg] at h; rw [Sys.at_some m hg, Sys.at_some m h]
    simp only [Sys.get?_put, true_and]
    by_cases hn : n = (m l).1.name <;> simp [hn, h, hg]

namespace LM

theorem KeepsId.keepsName {α} {m : LM α} (h : m.KeepsId) : m.KeepsName := fun l => (h l).1

theorem KeepsId.pure {α} (a : α) : (LM.pure a).KeepsId := fun _ => ⟨rfl, rfl⟩
theorem KeepsId.attempt {α} {m : LM α} (hm : m.KeepsId) : (LM.attempt m).KeepsId := by
  intro l; unfold LM.attempt; exact hm l

end LM

open LM

theorem locGetParents_keeps (c : Ctx) (now : Int) : (locGetParents c now).KeepsId := (locGetParents_via c now).keepsId

theorem locGetFact_keeps (c : Ctx) (id : String) (now : Int) : (locGetFact c id now).KeepsId :=
  (locGetFact_via c id now).keepsId

theorem locRuleEnabled_keeps (c : Ctx) (id : String) (now : Int) : (locRuleEnabled c id now).KeepsId :=
  (locRuleEnabled_via c id now).keepsId

theorem locGetRule_keeps (c : Ctx) (id : String) (now : Int) : (locGetRule c id now).KeepsId :=
  (locGetRule_via c id now).keepsId

theorem locStateSize_keeps (c : Ctx) (now : Int) : (locStateSize c now).KeepsId := (locStateSize_via c now).keepsId
