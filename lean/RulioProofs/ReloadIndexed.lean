import RulioProofs.ReloadLinear
import RulioProofs.PrepareFact

open AM

/-! # Reload of the indexed state: re-adding canonical stored documents reproduces the unexpired facts -/

/-! ## `PrepareFact` is idempotent on its own output (what makes the indexed `Load` reproduce the live facts) -/

/-- the parts of a fact that determine its id -/
def IdPart (x m : Obj) : Prop :=
  m.filter (fun kv => idProperty kv.1) = x.filter (fun kv => idProperty kv.1) ∧ m.get? "id" = x.get? "id"

theorem IdPart.of_edit {x m : Obj} (h : Obj.Edit expiryKey x m) : IdPart x m :=
  ⟨h.filter idProperty expiryKey_not_id, h.get? (by decide)⟩

theorem setExpires_num_norule {F : Obj} (now : Int) {n : Int} (httl : F.get? "ttl" = none)
    (hexp : F.get? "expires" = some (.num n)) (hr : F.get? "rule" = none) :
    setExpires F now = .ok (F, true, n) := by
  rw [setExpires_num now httl hexp, mirrorRule, hr]
  rfl

theorem setExpires_num_rule {F : Obj} (now : Int) {n : Int} {r : Obj} (httl : F.get? "ttl" = none)
    (hexp : F.get? "expires" = some (.num n)) (hr : F.get? "rule" = some (.obj r)) :
    setExpires F now = .ok (F.set "rule" (.obj (Obj.set r "expires" (.num n))), true, n) := by
  rw [setExpires_num now httl hexp, mirrorRule, hr]
  rfl

theorem parseProp_congr {x m : Obj} (h : IdPart x m) : parseProp m = parseProp x := by
  unfold parseProp
  rw [h.1, h.2]

theorem genId_canon {x m : Obj} (h : IdPart x m) {given fresh id : String} (hg : genId x given fresh = .ok id)
    (hfresh : fresh ≠ "") (fresh' : String) : genId m id fresh' = .ok id := by
  rw [genId_eq, parseProp_congr h]
  rcases genId_ok hg with ⟨pid, prop, v, hp, rfl⟩ | ⟨hp, hid, hvar⟩
  · rw [hp]
  · have hne : id ≠ "" := by
      rw [hid]
      by_cases hgv : given = "" <;> simp [hgv, hfresh]
    have hb : (id == "") = false := by simpa using hne
    rw [hp]
    simp only [hb, Bool.false_eq_true, if_false, hvar]

/-- the core of idempotence: what `setExpires` leaves behind is a fixed point of `setExpires` and of `ExtractRule` -/
theorem canon_of_setExpires {x m : Obj} {now : Int} {he : Bool} {e : Int} (p : SetExpiresPost x now m he e) :
    indexedForm m = m ∧ (∀ now, setExpires m now = .ok (m, expOf m)) ∧ ∃ r, extractRule m false = .ok (r, m) := by
  have httl := p.noTtl
  cases he with
  | false =>
    obtain ⟨_, hmx, _, hne⟩ := p.plain rfl
    subst hmx
    have hex := extractRule_noexp hne
    refine ⟨?_, ?_, hex⟩
    · obtain ⟨r, hr⟩ := hex; exact indexedForm_of_ok hr
    · intro now; rw [setExpires_none now httl hne]; simp [expOf, hne]
  | true =>
    have hnum := p.exp rfl
    have hexpOf : expOf m = (true, e) := by simp [expOf, hnum]
    rcases p.rule rfl with ⟨_, hnr⟩ | ⟨r0, m0, _, hm⟩
    · have hex : extractRule m false = .ok (none, m) := extractRule_nonobj (by rw [hnr]; intro r h; cases h)
      refine ⟨?_, ?_, ⟨none, hex⟩⟩
      · exact indexedForm_of_ok hex
      · intro now; rw [setExpires_num_norule now httl hnum hnr, hexpOf]
    · have hgr : m.get? "rule" = some (.obj (Obj.set r0 "expires" (.num e))) := by
        rw [hm]; exact Obj.get?_set_self _ _ _
      -- the rule body has the fact's `expires` already, and the fact that body
      have hfix : m.set "rule" (.obj (Obj.set (Obj.set r0 "expires" (.num e)) "expires" (.num e))) = m := by
        rw [Obj.set_set_same r0, hm, Obj.set_set_same m0]
      have hex : extractRule m false = .ok (some (Obj.set r0 "expires" (.num e)), m) := by
        rw [extractRule_obj hgr, hnum]
        simp only []
        rw [hfix, Obj.set_set_same r0]
      refine ⟨?_, ?_, ⟨_, hex⟩⟩
      · exact indexedForm_of_ok hex
      · intro now; rw [setExpires_num_rule now httl hnum hgr, hfix, hexpOf]

/-- **prepared facts are canonical**: the in-memory (indexed) form of any prepared fact is a fixed point of
preparation under its own id -/
theorem canon_of_prepare {given fresh : String} {x : Obj} {now : Int} {id : String} {m x' : Obj}
    (hp : prepareFact given fresh x now = .ok (id, m, x')) (hfresh : fresh ≠ "") :
    indexedForm m = m ∧ CanonFact id m := by
  obtain ⟨hg, he, e, hs, _⟩ := prepareFact_parts hp
  have p := setExpires_post hs
  obtain ⟨hform, hse, hex⟩ := canon_of_setExpires p
  exact ⟨hform, fun fresh' => genId_canon (.of_edit p.edit) hg hfresh fresh', hse, hex⟩

/-! ## the indexed `Load` -/

theorem expired_iff_not_unexpired (f : Obj) (now : Int) :
    ((expOf f).1 && notAfter (expOf f).2 now) = !unexpired f now := by
  unfold expOf unexpired checkExpiration
  cases h : f.get? "expires" with
  | none => simp
  | some v =>
    cases v with
    | num n => cases hn : notAfter n now <;> simp [hn]
    | _ => simp

theorem prepare_canon {id : String} {f : Obj} (hc : CanonFact id f) (fresh : String) (now : Int) :
    (unexpired f now = false ∧ prepareFact id fresh f now = .error "expired") ∨
    (unexpired f now = true ∧ ∃ x', prepareFact id fresh f now = .ok (id, f, x')) := by
  have he := expired_iff_not_unexpired f now
  rw [prepareFact_eq, hc.genId fresh, hc.setExp now]
  simp only []
  cases hu : unexpired f now with
  | false =>
    left
    rw [hu] at he
    simp only [Bool.not_false] at he
    refine ⟨rfl, ?_⟩
    rw [he]; rfl
  | true =>
    right
    rw [hu] at he
    simp only [Bool.not_true] at he
    refine ⟨rfl, ?_⟩
    rw [he]
    exact ⟨_, rfl⟩

theorem iadd_canon {s : St} {id : String} {f : Obj} (hc : CanonFact id f) (hi : IndexableFact id f)
    (habs : amGet s.facts id = none) (now : Int) :
    (unexpired f now = false ∧ s.iadd id f now = (s, .error "expired")) ∨
    (unexpired f now = true ∧ ∃ s1 x', s.iadd id f now = (s1, .ok (id, x')) ∧
      s1.facts = s.facts ++ [(id, f)] ∧ s1.store = s.store ∧ s1.kind = s.kind) := by
  rcases prepare_canon hc s.freshId now with ⟨hu, hp⟩ | ⟨hu, x', hp⟩
  · exact .inl ⟨hu, by rw [St.iadd_unfold, hp]⟩
  · refine .inr ⟨hu, ?_⟩
    obtain ⟨r, hr⟩ := hc.extract
    have hb := s.bump_same id id
    have hprev : prevRule (s.bump id id).facts id = none := by unfold prevRule; rw [hb.1, habs]; rfl
    have hidx : (PI.swap (s.bump id id).ri id none r).2 = none := by
      rw [PI.swap_none_snd]
      cases r with
      | none => rfl
      | some rb =>
        cases hs : Obj.has rb "schedule" with
        | true => simp [PI.riOpt, hs]
        | false => rw [PI.riOpt_indexRule _ id hs]; exact hi rb hr hs _
    rw [St.iadd_unfold, hp]
    simp only [hr, iaddCore, hprev]
    rcases hsw : PI.swap (s.bump id id).ri id none r with ⟨ri', err⟩
    rw [hsw] at hidx
    cases hidx
    refine ⟨_, x', rfl, ?_, hb.2.1, hb.2.2.2⟩
    show amSet (s.bump id id).facts id f = s.facts ++ [(id, f)]
    rw [hb.1]
    exact amSet_of_none habs _

/-- the loop of the indexed `Load` over canonical, indexable documents with distinct ids not yet in memory: the
unexpired ones are appended to the facts in order; storage loses the expired ones and nothing else -/
theorem iLoad_go_spec (now : Int) (facts : List (String × Obj)) : ∀ (s : St),
    (∀ p ∈ facts, CanonFact p.1 p.2) → (∀ p ∈ facts, IndexableFact p.1 p.2) → (facts.map (·.1)).Nodup →
    (∀ p ∈ facts, amGet s.facts p.1 = none) →
    ∃ t, St.iLoad.go now s (facts.map (fun p => (p.1, J.obj p.2))) = .ok t ∧
      t.facts = s.facts ++ facts.filter (fun p => unexpired p.2 now) ∧ t.kind = s.kind ∧
      ((∀ p ∈ facts, unexpired p.2 now = true) → t.store = s.store) := by
  induction facts with
  | nil => intro s _ _ _ _; exact ⟨s, rfl, by simp, rfl, fun _ => rfl⟩
  | cons p rest ih =>
    intro s hc hi hnd hdisj
    obtain ⟨id, f⟩ := p
    simp only [List.map_cons, List.nodup_cons] at hnd
    have hc' : ∀ q ∈ rest, CanonFact q.1 q.2 := fun q hq => hc q (by simp [hq])
    have hi' : ∀ q ∈ rest, IndexableFact q.1 q.2 := fun q hq => hi q (by simp [hq])
    simp only [List.map_cons]
    rw [St.iLoad.go.eq_2]
    rcases iadd_canon (hc (id, f) (by simp)) (hi (id, f) (by simp)) (hdisj (id, f) (by simp)) now with
      ⟨hu, hadd⟩ | ⟨hu, s1, x', hadd, hf1, hs1, hk1⟩
    · rw [hadd]
      obtain ⟨t, ht, hft, hkt, _⟩ := ih { s with store := amErase s.store id } hc' hi' hnd.2
        (fun q hq => hdisj q (by simp [hq]))
      refine ⟨t, ht, ?_, hkt, fun hun => absurd (hun (id, f) (by simp)) (by simp [hu])⟩
      rw [hft]
      simp [hu]
    · rw [hadd]
      obtain ⟨t, ht, hft, hkt, hst⟩ := ih s1 hc' hi' hnd.2 (by
        intro q hq
        have : q.1 ≠ id := fun h => hnd.1 (h ▸ List.mem_map.2 ⟨q, hq, rfl⟩)
        rw [hf1, amGet_append, hdisj q (by simp [hq])]
        simp [this, amGet])
      refine ⟨t, ht, ?_, hkt.trans hk1, fun hun => (hst fun q hq => hun q (by simp [hq])).trans hs1⟩
      rw [hft, hf1]
      simp [hu]

/-- for a state whose storage is the list image of its facts, whose facts are canonical, indexable and have unique
ids, the indexed `Load` succeeds and its facts are exactly the unexpired facts of the live state, in the same order;
when nothing is expired storage is left as it is -/
theorem iLoad_spec {s : St} (he : StoreEq s) (hc : AllCanon s) (hi : AllIndexable s)
    (hnd : (s.facts.map (·.1)).Nodup) (now : Int) :
    ∃ t, St.iLoad s.store now = .ok t ∧ t.kind = .indexed ∧
      t.facts = s.facts.filter (fun p => unexpired p.2 now) ∧
      ((∀ p ∈ s.facts, unexpired p.2 now = true) → t.store = s.store) := by
  unfold St.iLoad
  have := iLoad_go_spec now s.facts { kind := .indexed, store := s.store } hc hi hnd (fun _ _ => rfl)
  rw [← he] at this
  obtain ⟨t, ht, hft, hkt, hst⟩ := this
  exact ⟨t, ht, hkt, by simpa using hft, hst⟩

/-! ## stored rules are indexable: whether a pattern can be indexed does not depend on the index -/

theorem freshId_ne (s : St) : s.freshId ≠ "" := by
  unfold St.freshId
  intro h
  have := congrArg String.length h
  simp [String.length_append] at this

theorem St.iadd_ok_indexable {s : St} {given : String} {x : Obj} {now : Int} {s1 : St} {id : String} {x' x'' m : Obj}
    (h : s.iadd given x now = (s1, .ok (id, x'))) (hp : prepareFact given s.freshId x now = .ok (id, m, x'')) :
    IndexableFact id m := by
  rw [St.iadd_unfold, hp] at h
  intro r hr hs s'
  simp only [hr, iaddCore] at h
  rcases hsw : PI.swap (s.bump given id).ri id (prevRule (s.bump given id).facts id) (some r) with ⟨ri', _ | e⟩ <;>
    rw [hsw] at h
  · obtain ⟨ri1, h1⟩ := PI.swap_ok (congrArg Prod.snd hsw)
    rw [← PI.riOpt_indexRule s' id hs, PI.riOpt_err s'.ri ri1]; exact h1
  · cases h

/-! ## the invariant of indexed histories -/

/-- what every history keeps of an indexed state and what makes its reload reproduce it: storage is the list image of
memory, every stored fact is a fixed point of `PrepareFact` and can be indexed again, ids are unique. (Not `IdxInvs` of
RulioModel/CloseFrag, which is `WF` with the rule-index invariant `StIdx`.) -/
structure IdxInv (s : St) : Prop where
  kind : s.kind = .indexed
  storeEq : StoreEq s
  canon : AllCanon s
  indexable : AllIndexable s
  nodup : (s.facts.map (·.1)).Nodup

theorem IdxInv.purge {k : Kind} {s s' : St} (h : IdxInv s) (hp : St.Purge k s s') : IdxInv s' :=
  ⟨hp.le.kind.trans h.kind, hp.storeEq h.storeEq, St.All.purge h.canon hp, St.All.purge h.indexable hp, hp.le.keys h.nodup⟩

theorem IdxInv.add {s : St} (h : IdxInv s) (given : String) (x : Obj) (now : Int) : IdxInv (s.add given x now).1 := by
  have hse := St.add_storeEq h.storeEq given x now
  cases hh : s.add given x now with
  | mk s1 r =>
    rw [hh] at hse
    have sp := add_shape_of_eq hh
    cases r with
    | error e =>
      exact ⟨sp.kind.trans h.kind, hse, St.All.congr h.canon sp.facts, St.All.congr h.indexable sp.facts,
        sp.facts ▸ h.nodup⟩
    | ok id =>
      obtain ⟨m, ha⟩ := sp
      obtain ⟨x', hp⟩ := ha.prep
      have hf := ha.facts
      have hk := ha.kind
      obtain ⟨hform, hcanon⟩ := canon_of_prepare hp (freshId_ne s)
      rw [h.kind, show memForm .indexed m = m from hform] at hf
      have hidx : IndexableFact id m := by
        have hi : s.iAdd given x now = (s1, .ok id) := by rw [← hh, St.add, h.kind]
        unfold St.iAdd at hi
        split at hi
        · cases hi
        · next id' _ heq =>
          obtain rfl : id' = id := by injection hi with _ h2; injection h2
          exact St.iadd_ok_indexable heq hp
      have hmem : memForm s.kind m = m := by rw [h.kind]; exact hform
      exact ⟨hk.trans h.kind, hse, St.All.added h.canon ha (by rw [hmem]; exact hcanon), St.All.added h.indexable ha (by rw [hmem]; exact hidx),
        hf ▸ amKeys_amSet_nodup _ _ _ h.nodup⟩

theorem IdxInv.empty : IdxInv (St.empty .indexed) :=
  ⟨rfl, rfl, fun _ hp => (by cases hp), fun _ hp => (by cases hp), List.nodup_nil⟩

theorem IdxInv.stepOp {s : St} (h : IdxInv s) (op : ROp) : IdxInv (s.stepOp op).1 :=
  St.stepOp_cases (Q := fun _ s' => IdxInv s') s h.purge (fun g x now => h.add g x now)
    ⟨h.kind, rfl, fun _ hp => (by cases hp), fun _ hp => (by cases hp), List.nodup_nil⟩ op

theorem IdxInv.runOps (ops : List ROp) {s : St} : IdxInv s → IdxInv (s.runOps ops) :=
  St.runOps_inv (P := IdxInv) (fun _ op h => h.stepOp op) ops
