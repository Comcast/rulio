import RulioModel.StateInv
import RulioProofs.AssocMap

/-! # The rule index as the indexed state uses it

`unindexRule`, `indexRule`, `unindexPrevious`, the rule part of `irem` (`St.unindexOf`) and the index block of `iadd` read
`s.ri` and the fact stored under the id and write `s.ri` only. Here they are functions on the trie (`PI.riRem`, `riAdd`,
`riRemOpt`, `riOpt`, `swap`); whether and how one of them fails is decided by the rule alone; `St.iadd_unfold` writes every
field of the result of `IndexedState.add` out. -/

namespace PI

/-- `unindexRule` on the trie -/
def riRem (ri : PI) (id : String) (rule : Obj) : Except LErr PI :=
  match getRulePattern rule with
  | .error e => .error e
  | .ok none => .ok ri
  | .ok (some pat) =>
    match (piRem ri pat id).2 with
    | some e => .error (perr e)
    | none => .ok (piRem ri pat id).1

/-- `indexRule` on the trie -/
def riAdd (ri : PI) (id : String) (rule : Obj) : PI × Option LErr :=
  match getRulePattern rule with
  | .error e => (ri, some e)
  | .ok none => (ri, some "syntax")
  | .ok (some pat) => ((piAdd ri pat id).1, (piAdd ri pat id).2.map perr)

def riRemOpt (ri : PI) (id : String) (o : Option Obj) : Except LErr PI :=
  match o with | some r => riRem ri id r | none => .ok ri

/-- nothing is entered for an absent or a scheduled rule -/
def riOpt (ri : PI) (id : String) (o : Option Obj) : PI × Option LErr :=
  match o with
  | some r => if Obj.has r "schedule" then (ri, none) else riAdd ri id r
  | none => (ri, none)

/-- the index transaction of `IndexedState.add` under one id: the rule `old` stored so far leaves the index (an error
aborts), `rule` enters, and `old` goes back in when `rule` is rejected -/
def swap (ri : PI) (id : String) (old rule : Option Obj) : PI × Option LErr :=
  match riRemOpt ri id old with
  | .error e => (ri, some e)
  | .ok ri1 =>
    match riOpt ri1 id rule with
    | (ri2, none) => (ri2, none)
    | (ri2, some e) => ((riOpt ri2 id old).1, some e)

end PI

/-- the rule body of a stored fact, as `ExtractRule` hands it to the rule index -/
def storedRule (fact : Obj) : Option Obj :=
  match extractRule fact false with | .ok (some r, _) => some r | _ => none

def prevRule (facts : List (String × Obj)) (id : String) : Option Obj := (amGet facts id).bind storedRule

/-! ## the model's functions are these, and touch the rule index only -/

theorem St.unindexRule_eq_riRem (s : St) (id : String) (rule : Obj) :
    s.unindexRule id rule = (PI.riRem s.ri id rule).map fun ri => { s with ri := ri } := by
  simp only [St.unindexRule, PI.riRem, bind, Except.bind]
  rcases getRulePattern rule with e | _ | pat
  · rfl
  · rfl
  · simp only []; cases (piRem s.ri pat id).2 <;> rfl

theorem St.indexRule_eq_riAdd (s : St) (id : String) (rule : Obj) :
    s.indexRule id rule = ({ s with ri := (PI.riAdd s.ri id rule).1 }, (PI.riAdd s.ri id rule).2) := by
  unfold St.indexRule PI.riAdd
  rcases getRulePattern rule with e | _ | pat <;> rfl

theorem St.unindexPrevious_eq_riRem (s : St) (id : String) :
    s.unindexPrevious id =
      (PI.riRemOpt s.ri id (prevRule s.facts id)).map fun ri => ({ s with ri := ri }, prevRule s.facts id) := by
  unfold St.unindexPrevious prevRule storedRule PI.riRemOpt
  cases amGet s.facts id with
  | none => rfl
  | some prev =>
    simp only [Option.bind_some]
    rcases extractRule prev false with e | ⟨_ | old, _⟩
    · rfl
    · rfl
    · simp only [St.unindexRule_eq_riRem]; cases PI.riRem s.ri id old <;> rfl

/-- the rule part of `irem`: the stored rule (if any) leaves the pattern index -/
def St.unindexOf (s : St) (id : String) (fact : Obj) : Except LErr St :=
  match (match extractRule fact false with | .ok (r, _) => r | .error _ => none : Option Obj) with
  | some r => s.unindexRule id r
  | none => .ok s

theorem St.unindexOf_eq_riRem (s : St) (id : String) (fact : Obj) :
    s.unindexOf id fact = (PI.riRemOpt s.ri id (storedRule fact)).map fun ri => { s with ri := ri } := by
  unfold St.unindexOf storedRule PI.riRemOpt
  rcases extractRule fact false with e | ⟨_ | r, _⟩
  · rfl
  · rfl
  · exact St.unindexRule_eq_riRem s id r

/-- `s1` is `s` but for the rule index: what `unindexRule` and its callers leave of a state -/
def SameButRi (s s1 : St) : Prop :=
  s1.facts = s.facts ∧ s1.store = s.store ∧ s1.ti = s.ti ∧ s1.kind = s.kind ∧ s1.fresh = s.fresh

theorem SameButRi.refl (s : St) : SameButRi s s := ⟨rfl, rfl, rfl, rfl, rfl⟩
theorem unindexOf_same {s s1 : St} {id : String} {fact : Obj} (h : s.unindexOf id fact = .ok s1) : SameButRi s s1 := by
  rw [St.unindexOf_eq_riRem] at h
  cases hr : PI.riRemOpt s.ri id (storedRule fact) <;> rw [hr] at h <;> cases h
  exact ⟨rfl, rfl, rfl, rfl, rfl⟩

/-! ## whether and how an index action fails is decided by the rule alone, not by what the trie holds -/

theorem PI.mod_err_indep (fuel : Nat) : ∀ (idx idx' : PI) (pairs : List (String × J)) (id id' : String) (add add' : Bool),
    (PI.mod fuel idx pairs id add).2 = (PI.mod fuel idx' pairs id' add').2 := by
  induction fuel with
  | zero => intros; rfl
  | succ fuel ih =>
    intro idx idx' pairs id id' add add'
    cases pairs with
    | nil => rfl
    | cons kv rest =>
      obtain ⟨k, v⟩ := kv
      simp only [PI.mod]
      cases picast v with
      | s x => simp only; exact ih _ _ _ _ _ _ _
      | v => simp only; exact ih _ _ _ _ _ _ _
      | m kvs => simp only; exact ih _ _ _ _ _ _ _
      | a xs =>
        simp only
        cases sortValues xs with
        | error e => rfl
        | ok sorted => simp only; exact ih _ _ _ _ _ _ _

theorem piRem_err_indep (ri ri' : PI) (pat : Obj) (id id' : String) : (piRem ri pat id).2 = (piRem ri' pat id').2 :=
  PI.mod_err_indep _ _ _ _ _ _ _ _

theorem PI.riRem_err (ri ri' : PI) (id : String) (r : Obj) :
    (PI.riRem ri id r).map (fun _ => ()) = (PI.riRem ri' id r).map (fun _ => ()) := by
  unfold PI.riRem
  rcases getRulePattern r with e | _ | pat
  · rfl
  · rfl
  · simp only [piRem_err_indep ri ri' pat id id]
    cases (piRem ri' pat id).2 <;> rfl

theorem PI.riOpt_err (ri ri' : PI) (id : String) (o : Option Obj) : (PI.riOpt ri id o).2 = (PI.riOpt ri' id o).2 := by
  unfold PI.riOpt
  rcases o with _ | r
  · rfl
  simp only []
  split
  · rfl
  unfold PI.riAdd
  rcases getRulePattern r with e | _ | pat
  · rfl
  · rfl
  · simp only [piAdd]
    rw [PI.mod_err_indep _ ri ri' _ id id true true]

theorem PI.swap_err (ri ri' : PI) (id : String) (old rule : Option Obj) :
    (PI.swap ri id old rule).2 = (PI.swap ri' id old rule).2 := by
  unfold PI.swap
  have h : (PI.riRemOpt ri id old).map (fun _ => ()) = (PI.riRemOpt ri' id old).map (fun _ => ()) := by
    unfold PI.riRemOpt
    cases old with
    | none => rfl
    | some o => exact PI.riRem_err ri ri' id o
  rcases h1 : PI.riRemOpt ri id old with e | r1 <;> rcases h2 : PI.riRemOpt ri' id old with e' | r2 <;>
    rw [h1, h2] at h <;> cases h
  · rfl
  · dsimp only
    have := PI.riOpt_err r1 r2 id rule
    revert this
    rcases PI.riOpt r1 id rule with ⟨a, _ | ea⟩ <;> rcases PI.riOpt r2 id rule with ⟨b, _ | eb⟩ <;> intro this <;>
      cases this <;> rfl

theorem PI.riOpt_indexRule (s : St) (id : String) {r : Obj} (hs : Obj.has r "schedule" = false) :
    (PI.riOpt s.ri id (some r)).2 = (s.indexRule id r).2 := by
  rw [St.indexRule_eq_riAdd]
  simp only [PI.riOpt, hs, Bool.false_eq_true, if_false]

theorem PI.swap_none_snd (ri : PI) (id : String) (rule : Option Obj) :
    (PI.swap ri id none rule).2 = (PI.riOpt ri id rule).2 := by
  simp only [PI.swap, PI.riRemOpt]
  rcases PI.riOpt ri id rule with ⟨ri2, _ | e⟩ <;> rfl

theorem PI.swap_ok {ri : PI} {id : String} {old rule : Option Obj} (h : (PI.swap ri id old rule).2 = none) :
    ∃ ri1, (PI.riOpt ri1 id rule).2 = none := by
  unfold PI.swap at h
  split at h
  · cases h
  · next ri1 _ =>
    refine ⟨ri1, ?_⟩
    revert h
    rcases PI.riOpt ri1 id rule with ⟨ri2, _ | e⟩ <;> intro h
    · rfl
    · cases h

theorem getRulePattern_err {rule : Obj} {e : LErr} (h : getRulePattern rule = .error e) : e = "panic" := by
  simp only [getRulePattern] at h
  split at h
  · cases h
  · split at h
    · cases h
    · cases h
    · injection h with h; exact h.symm
  · injection h with h; exact h.symm

/-- the errors of `unindexRule`: a `when` that is no map, or the trie's -/
theorem PI.riRem_error {ri : PI} {id : String} {r : Obj} {e : LErr} (h : PI.riRem ri id r = .error e) :
    e = "panic" ∨ ∃ pe, e = perr pe := by
  unfold PI.riRem at h
  split at h
  · next hp => cases h; exact .inl (getRulePattern_err hp)
  · cases h
  · split at h
    · cases h; exact .inr ⟨_, rfl⟩
    · cases h

theorem unindexOf_err_ne_fuel {s : St} {id : String} {fact : Obj} {e : LErr} (h : s.unindexOf id fact = .error e) :
    e ≠ "fuel" := by
  rw [St.unindexOf_eq_riRem] at h
  cases hr : PI.riRemOpt s.ri id (storedRule fact) <;> rw [hr] at h <;> cases h
  cases hs : storedRule fact <;> rw [hs] at hr
  · cases hr
  · rcases PI.riRem_error hr with rfl | ⟨pe, rfl⟩
    · decide
    · cases pe <;> decide

/-- whether a stored rule can leave the pattern index is decided by `unindexErr`, on the empty index -/
theorem unindexOf_ok_iff {s : St} {id : String} {fact : Obj} :
    (∃ s1, s.unindexOf id fact = .ok s1) ↔ unindexErr id fact = false := by
  simp only [St.unindexOf, unindexErr]
  rcases extractRule fact false with e | ⟨_ | r, _⟩
  · simp
  · simp
  · simp only [St.unindexRule_eq_riRem, PI.riRem]
    rcases getRulePattern r with e | _ | pat
    · simp [Except.map]
    · simp [Except.map]
    · simp only [piRem_err_indep s.ri PI.empty pat id id]
      cases (piRem PI.empty pat id).2 <;> simp [Except.map]

theorem unindexPrevious_ok {s : St} (hun : UnindexOK s) (id : String) : ∃ s2 rep, s.unindexPrevious id = .ok (s2, rep) := by
  rw [St.unindexPrevious_eq_riRem]
  unfold prevRule
  cases hg : amGet s.facts id with
  | none => exact ⟨_, _, rfl⟩
  | some prev =>
    obtain ⟨s1, h1⟩ := unindexOf_ok_iff (s := s).2 (hun (id, prev) (AM.amGet_mem hg))
    rw [St.unindexOf_eq_riRem] at h1
    cases hr : PI.riRemOpt s.ri id (storedRule prev) with
    | error e => rw [hr] at h1; cases h1
    | ok ri => exact ⟨_, _, by rw [Option.bind_some, hr]; rfl⟩

/-! ## `IndexedState.add`, every field of the result written out -/

/-- the counter moves when `PrepareFact` had to make up the id -/
def St.bump (s : St) (given id : String) : St :=
  if given == "" && id == s.freshId then { s with fresh := s.fresh + 1 } else s

theorem St.bump_fresh (s : St) (given id : String) :
    (s.bump given id).fresh = if given == "" && id == s.freshId then s.fresh + 1 else s.fresh := by
  simp only [St.bump]; split <;> rfl

theorem St.bump_same (s : St) (given id : String) :
    (s.bump given id).facts = s.facts ∧ (s.bump given id).store = s.store ∧ (s.bump given id).ti = s.ti ∧
    (s.bump given id).kind = s.kind := by
  simp only [St.bump]; split <;> exact ⟨rfl, rfl, rfl, rfl⟩

theorem St.bump_ri (s : St) (given id : String) : (s.bump given id).ri = s.ri := by
  simp only [St.bump]; split <;> rfl

/-- what `iadd` does once the fact is prepared and its rule extracted: the index transaction, and, when the new rule is
accepted, the term index and the facts -/
def iaddCore (s0 : St) (id : String) (rule : Option Obj) (fact x' : Obj) : St × Except LErr (String × Obj) :=
  match PI.swap s0.ri id (prevRule s0.facts id) rule with
  | (ri', some e) => ({ s0 with ri := ri' }, .error e)
  | (ri', none) =>
    ({ s0 with ri := ri', ti := (extractTerms fact).foldl (fun ti t => TI.add ti t id) s0.ti,
               facts := amSet s0.facts id fact }, .ok (id, x'))

theorem iaddCore_congr {a b : St} (hf : b.facts = a.facts) (hfr : b.fresh = a.fresh) (id : String) (rule : Option Obj)
    (fact x' : Obj) :
    (iaddCore b id rule fact x').2 = (iaddCore a id rule fact x').2 ∧
    (iaddCore b id rule fact x').1.facts = (iaddCore a id rule fact x').1.facts ∧
    (iaddCore b id rule fact x').1.fresh = (iaddCore a id rule fact x').1.fresh := by
  unfold iaddCore
  rw [hf]
  have := PI.swap_err b.ri a.ri id (prevRule a.facts id) rule
  revert this
  rcases PI.swap b.ri id (prevRule a.facts id) rule with ⟨r1, _ | e1⟩ <;>
    rcases PI.swap a.ri id (prevRule a.facts id) rule with ⟨r2, _ | e2⟩ <;> intro this <;> cases this <;>
    exact ⟨rfl, rfl, hfr⟩

/-- the index block of `St.iadd`, verbatim -/
private def iaddBlock (s : St) (id : String) (rule replaced : Option Obj) : St × Option LErr :=
  match rule with
  | some r =>
    if Obj.has r "schedule" then (s, none) else
    match s.indexRule id r with
    | (s1, none) => (s1, none)
    | (s1, some e) =>
      (match replaced with
       | some old => if Obj.has old "schedule" then (s1, some e) else ((s1.indexRule id old).1, some e)
       | none => (s1, some e))
  | none => (s, none)

private theorem iaddBlock_eq (s : St) (id : String) (rule replaced : Option Obj) :
    iaddBlock s id rule replaced =
      ({ s with ri := (match PI.riOpt s.ri id rule with
                       | (ri2, none) => ri2
                       | (ri2, some _) => (PI.riOpt ri2 id replaced).1) }, (PI.riOpt s.ri id rule).2) := by
  unfold iaddBlock PI.riOpt
  rcases rule with _ | r
  · rfl
  simp only []
  split
  · rfl
  simp only [St.indexRule_eq_riAdd]
  rcases PI.riAdd s.ri id r with ⟨ri2, _ | e⟩
  · rfl
  rcases replaced with _ | old
  · rfl
  simp only []
  split <;> rfl

private theorem iaddCore_eq (s0 : St) (id : String) (rule : Option Obj) (fact x' : Obj) :
    (match s0.unindexPrevious id with
      | .error e => (s0, .error e)
      | .ok (s2, replaced) =>
        match iaddBlock s2 id rule replaced with
        | (s3, err) =>
          match err with
          | some e => (s3, .error e)
          | none =>
          ({ s3 with ti := (extractTerms fact).foldl (fun ti t => TI.add ti t id) s3.ti,
                     facts := amSet s3.facts id fact }, .ok (id, x'))) = iaddCore s0 id rule fact x' := by
  unfold iaddCore PI.swap
  rw [St.unindexPrevious_eq_riRem]
  cases PI.riRemOpt s0.ri id (prevRule s0.facts id) with
  | error e => rfl
  | ok ri1 =>
    simp only [Except.map, iaddBlock_eq]
    rcases PI.riOpt ri1 id rule with ⟨ri2, _ | e⟩ <;> rfl

/-- only `swap` looks at the rule index -/
theorem St.iadd_unfold (s : St) (given : String) (x : Obj) (now : Int) :
    s.iadd given x now =
      match prepareFact given s.freshId x now with
      | .error e => (s, .error e)
      | .ok (id, fact0, x') =>
        match extractRule fact0 false with
        | .error e => (s.bump given id, .error e)
        | .ok (rule, fact) => iaddCore (s.bump given id) id rule fact x' := by
  have raw : s.iadd given x now =
      match prepareFact given s.freshId x now with
      | .error e => (s, .error e)
      | .ok (id, fact0, x') =>
        match extractRule fact0 false with
        | .error e => (s.bump given id, .error e)
        | .ok (rule, fact) =>
          match (s.bump given id).unindexPrevious id with
          | .error e => (s.bump given id, .error e)
          | .ok (s2, replaced) =>
            match iaddBlock s2 id rule replaced with
            | (s3, err) =>
              match err with
              | some e => (s3, .error e)
              | none =>
              ({ s3 with ti := (extractTerms fact).foldl (fun ti t => TI.add ti t id) s3.ti,
                         facts := amSet s3.facts id fact }, .ok (id, x')) := by
    unfold St.iadd iaddBlock St.bump
    rfl
  rw [raw]
  rcases prepareFact given s.freshId x now with e | ⟨id, fact0, x'⟩
  · rfl
  simp only []
  rcases extractRule fact0 false with e | ⟨rule, fact⟩
  · rfl
  exact iaddCore_eq (s.bump given id) id rule fact x'
