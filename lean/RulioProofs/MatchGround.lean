import RulioProofs.MatchUnfold

/-! # Groundness pass (C05): with ground data and ground incoming bindings the matcher never reports
`nonGround` (the guard under which the real recursion is bounded), every returned binding is ground, and
inside the `patOK` fragment it reports no error at all -/

/-- a value with `Q`, or an error that `E` allows -/
def GoodE {α : Type} (E : MErr → Prop) (Q : α → Prop) : Except MErr α → Prop
  | .ok v => Q v
  | .error e => E e

theorem GoodE.mono {α : Type} {E E' : MErr → Prop} {Q Q' : α → Prop} {x : Except MErr α}
    (h : GoodE E Q x) (hE : ∀ e, E e → E' e) (hQ : ∀ v, Q v → Q' v) : GoodE E' Q' x := by
  cases x with
  | ok v => exact hQ v h
  | error e => exact hE e h

theorem GoodE.bind {α β : Type} {E : MErr → Prop} {Q : α → Prop} {R : β → Prop} {x : Except MErr α}
    {f : α → Except MErr β} (h : GoodE E Q x) (hf : ∀ a, Q a → GoodE E R (f a)) : GoodE E R (x >>= f) := by
  cases x with
  | ok v => exact hf v h
  | error e => exact h

theorem GoodE.ite {α : Type} {E : MErr → Prop} {Q : α → Prop} {c : Prop} [Decidable c] {x y : Except MErr α}
    (hx : GoodE E Q x) (hy : GoodE E Q y) : GoodE E Q (if c then x else y) := by
  split <;> assumption

theorem GoodE.mapM {α β : Type} {E : MErr → Prop} {Q : β → Prop} {f : α → Except MErr β} :
    ∀ {l : List α}, (∀ a ∈ l, GoodE E Q (f a)) → GoodE E (fun rs => ∀ r ∈ rs, Q r) (l.mapM f)
  | [], _ => by simp [pure, Except.pure, GoodE]
  | a :: l, h => by
      rw [List.mapM_cons]
      refine GoodE.bind (h a List.mem_cons_self) (fun r hr => ?_)
      refine GoodE.bind (GoodE.mapM (l := l) (fun a ha => h a (List.mem_cons_of_mem _ ha))) (fun rs hrs => ?_)
      intro r' hr'
      rcases List.mem_cons.1 hr' with rfl | hr'
      · exact hr
      · exact hrs r' hr'

@[simp] theorem GoodE_ok {α : Type} (E : MErr → Prop) (Q : α → Prop) (v : α) : GoodE E Q (.ok v) = Q v := rfl
@[simp] theorem GoodE_pure {α : Type} (E : MErr → Prop) (Q : α → Prop) (v : α) :
    GoodE E Q (pure v : Except MErr α) = Q v := rfl
@[simp] theorem GoodE_error {α : Type} (E : MErr → Prop) (Q : α → Prop) (e : MErr) :
    GoodE E Q (.error e : Except MErr α) = E e := rfl

/-- every value bound in `b` is ground (`match_no_nonground` spells it out) -/
def GBs (b : Bs) : Prop := ∀ kv ∈ b, kv.2.ground = true

theorem GBs.set {b : Bs} (hb : GBs b) (s : String) {f : J} (hf : f.ground = true) : GBs (b.set s f) := by
  intro kv hkv
  unfold Bs.set at hkv
  rcases List.mem_cons.1 hkv with rfl | hkv
  · exact hf
  · exact hb kv (List.mem_filter.1 hkv).1

theorem groundL_iff {xs : List J} : groundL xs = true ↔ ∀ x ∈ xs, x.ground = true :=
  listAll_iff (by rw [groundL]) (fun _ _ => by rw [groundL])
theorem groundO_iff {kvs : List (String × J)} :
    groundO kvs = true ↔ ∀ kv ∈ kvs, isVar kv.1 = false ∧ kv.2.ground = true :=
  keyedAll_iff (by rw [groundO]) (fun _ _ _ => by rw [groundO])

theorem matchStr_good {E : MErr → Prop} (s : String) {f : J} {bs : Bs} (hf : f.ground = true) (hb : GBs bs) :
    GoodE E (fun out => ∀ σ ∈ out, GBs σ) (matchStr s f bs) := by
  cases hv : isVar s with
  | false =>
    rw [matchStr_const hv]
    exact fun σ hσ => (mem_ite_singleton.1 hσ).2 ▸ hb
  | true =>
    rw [matchStr_var hv]
    refine GoodE.ite (fun σ hσ => List.mem_singleton.1 hσ ▸ hb) ?_
    cases hg : bs.get? s with
    | none => exact fun σ hσ => List.mem_singleton.1 hσ ▸ hb.set s hf
    | some b =>
      have hbg : b.ground = true := hb _ (Bs.get?_mem hg)
      simp only [hbg, if_true]
      exact fun σ hσ => (List.mem_replicate.1 hσ).2 ▸ hb

/-- allowed errors of a call on pattern `p`: never `nonGround`, and none at all inside the fragment -/
def EJ (p : J) (e : MErr) : Prop := e ≠ .nonGround ∧ patOK p = false
def EA (xs : List J) (e : MErr) : Prop := e ≠ .nonGround ∧ patOKL xs = false
def EO (kvs : List (String × J)) (e : MErr) : Prop := e ≠ .nonGround ∧ patOKO kvs = false

/-- on a ground datum and ground incoming bindings `matchJ p` returns ground bindings, or an error that `EJ p` allows -/
def NG (p : J) : Prop :=
  ∀ (d : J) (bs : Bs), d.ground = true → GBs bs →
    GoodE (EJ p) (fun bss => ∀ σ ∈ bss, GBs σ) (matchJ p d bs)

theorem mem_flat_GBs {accs : List (List Bs)} (h : ∀ r ∈ accs, ∀ σ ∈ r, GBs σ) :
    ∀ σ ∈ accs.flatMap id, GBs σ := by
  intro σ hσ
  obtain ⟨r, hr, hσ⟩ := List.mem_flatMap.1 hσ
  exact h r hr σ hσ

theorem matchO_good (fm : List (String × J)) (hfm : groundO fm = true) : ∀ (kvs : List (String × J)),
    (∀ kv ∈ kvs, NG kv.2) → ∀ (bss : List Bs), (∀ b ∈ bss, GBs b) →
      GoodE (EO kvs) (fun out => ∀ σ ∈ out, GBs σ) (matchO kvs fm bss) := by
  intro kvs
  induction kvs with
  | nil => intro _ bss hb; rw [matchJ_eqns.o_nil]; exact hb
  | cons kv r ihr' =>
      obtain ⟨k, v⟩ := kv
      intro ih bss hb
      obtain ⟨ihv, ihr⟩ := List.forall_mem_cons.1 ih
      have hEv : ∀ e, EJ v e → EO ((k, v) :: r) e := fun e he => ⟨he.1, by simp [patOKO, he.2]⟩
      have hEr : ∀ e, EO r e → EO ((k, v) :: r) e := fun e he => ⟨he.1, by simp [patOKO, he.2]⟩
      have hrec : ∀ bss', (∀ b ∈ bss', GBs b) →
          GoodE (EO ((k, v) :: r)) (fun out => ∀ σ ∈ out, GBs σ) (matchO r fm bss') :=
        fun bss' h => (ihr' ihr bss' h).mono hEr (fun _ h => h)
      have hnil : GoodE (EO ((k, v) :: r)) (fun out : List Bs => ∀ σ ∈ out, GBs σ) (pure []) :=
        fun _ h => nomatch h
      cases hk : isVar k with
      | true =>
        rw [matchJ_eqns.o_cons_var hk]
        refine GoodE.bind (Q := fun per => ∀ r ∈ per, ∀ σ ∈ r, GBs σ) (GoodE.mapM fun fkv hfkv => ?_)
          (fun per hper => mem_flat_GBs hper)
        obtain ⟨hfk, hfv⟩ := groundO_iff.1 hfm fkv hfkv
        refine GoodE.bind (Q := fun e1 => ∀ r ∈ e1, ∀ σ ∈ r, GBs σ)
          (GoodE.mapM fun b hbm => matchStr_good k (by simp [J.ground, hfk]) (hb b hbm))
          (fun e1 he1 => GoodE.ite hnil ?_)
        exact GoodE.bind (Q := fun e2 => ∀ r ∈ e2, ∀ σ ∈ r, GBs σ)
          (GoodE.mapM fun b hbm => (ihv fkv.2 b hfv (mem_flat_GBs he1 b hbm)).mono hEv (fun _ h => h))
          (fun e2 he2 => mem_flat_GBs he2)
      | false =>
        rw [matchJ_eqns.o_cons_const hk]
        cases hl : lookupKey k fm with
        | none =>
          cases v with
          | str s => exact GoodE.ite (hrec bss hb) hnil
          | _ => exact hnil
        | some fv =>
          have hfv : fv.ground = true := (groundO_iff.1 hfm _ (lookupKey_mem hl)).2
          exact GoodE.bind (Q := fun acc => ∀ r ∈ acc, ∀ σ ∈ r, GBs σ)
            (GoodE.mapM fun b hbm => (ihv fv b hfv (hb b hbm)).mono hEv (fun _ h => h))
            (fun acc hacc => GoodE.ite hnil (hrec _ (mem_flat_GBs hacc)))

/-- every branch carries ground bindings and ground unused facts -/
def BrG (brs : List (List Bs × List J × List J)) : Prop :=
  ∀ br ∈ brs, (∀ b ∈ br.1, GBs b) ∧ (∀ y ∈ br.2.1, y.ground = true) ∧ (∀ y ∈ br.2.2, y.ground = true)

theorem matchA_good : ∀ (xs : List J), (∀ x ∈ xs, NG x) →
    ∀ (ns : Bool) (branches : List (List Bs × List J × List J)), BrG branches →
      GoodE (EA xs) BrG (matchA xs ns branches) := by
  intro xs
  induction xs with
  | nil => intro _ ns branches hb; rw [matchJ_eqns.a_nil]; exact hb
  | cons x xs ihxs =>
      intro ih ns branches hb
      obtain ⟨ihx, ihr⟩ := List.forall_mem_cons.1 ih
      have hEx : ∀ e, EJ x e → EA (x :: xs) e := fun e he => ⟨he.1, by simp [patOKL, he.2]⟩
      have hEr : ∀ e, EA xs e → EA (x :: xs) e := fun e he => ⟨he.1, by simp [patOKL, he.2]⟩
      have hrec : ∀ brs, BrG brs → GoodE (EA (x :: xs)) BrG (matchA xs ns brs) :=
        fun brs h => (ihxs ihr ns brs h).mono hEr (fun _ h => h)
      have hnil : GoodE (EA (x :: xs)) BrG (pure []) := fun _ h => nomatch h
      rw [matchJ_eqns.a_cons]
      refine GoodE.ite (hrec _ hb) (GoodE.ite ?_ (GoodE.ite hnil ?_))
      · -- scalar constant: erased from the scalar set of every branch
        cases branches with
        | nil => exact hnil
        | cons br0 tail =>
          refine GoodE.ite (hrec _ fun br hbr => ?_) hnil
          obtain ⟨br2, hbr2, rfl⟩ := List.mem_map.1 hbr
          obtain ⟨h1, h2, h3⟩ := hb br2 hbr2
          exact ⟨h1, fun y hy => h2 y (List.mem_of_mem_erase hy), h3⟩
      · -- structured element: each new branch keeps ground facts
        refine GoodE.bind (Q := fun nb => ∀ per ∈ nb, ∀ one ∈ per, BrG one)
          (GoodE.mapM fun br hbr => GoodE.mapM fun fr hfr => ?_) (fun nb hnb => GoodE.ite hnil (hrec _ ?_))
        · obtain ⟨h1, h2, h3⟩ := hb br hbr
          have hfrp := splitNth_perm (y := fr.1) (r := fr.2) hfr
          refine GoodE.bind (Q := fun acc => ∀ r ∈ acc, ∀ σ ∈ r, GBs σ)
            (GoodE.mapM fun b hbm =>
              (ihx fr.1 b (h3 _ (hfrp.mem_iff.2 List.mem_cons_self)) (h1 b hbm)).mono hEx (fun _ h => h))
            (fun acc hacc => ?_)
          show BrG (if _ then [] else [_])
          split
          · exact fun _ h => nomatch h
          · exact fun br1 hbr1 => List.mem_singleton.1 hbr1 ▸
              ⟨mem_flat_GBs hacc, h2, fun y hy => h3 y (hfrp.mem_iff.2 (List.mem_cons_of_mem _ hy))⟩
        · intro br1 hbr1
          obtain ⟨per, hper, hbr1⟩ := List.mem_flatMap.1 hbr1
          obtain ⟨one, hone, hbr1⟩ := List.mem_flatMap.1 hbr1
          exact hnb per hper one hone br1 hbr1

theorem ngJ : ∀ p, NG p := by
  intro p
  induction p using J.patInd with
  | hconst x hx hv =>
    intro d bs _ hb
    rw [matchJ_const hx hv]
    exact fun σ hσ => (mem_ite_singleton.1 hσ).2 ▸ hb
  | hvar s _ =>
    intro d bs hd hb
    rw [matchJ_eqns.str]
    exact matchStr_good s hd hb
  | hobj kvs ih =>
    intro d bs hd hb
    rw [matchJ_eqns.obj]
    cases d with
    | obj fm =>
      refine GoodE.ite (fun σ hσ => List.mem_singleton.1 hσ ▸ hb) ?_
      by_cases hpv : (decide (kvs.length > 1) && kvs.any fun kv => isVar kv.1) = true
      · -- a property variable beside other keys is reported, and is outside the fragment
        rw [if_pos hpv]
        refine ⟨by decide, ?_⟩
        simp only [Bool.and_eq_true, List.any_eq_true] at hpv
        obtain ⟨kv, hkv, hkvv⟩ := hpv.2
        have : (kvs.all fun kv => !isVar kv.1) = false :=
          List.all_eq_false.2 ⟨kv, hkv, by simp [hkvv]⟩
        simp [patOK, this]
      · rw [if_neg hpv]
        exact (matchO_good fm (by simpa [J.ground] using hd) kvs ih [bs]
          (fun b hbm => List.mem_singleton.1 hbm ▸ hb)).mono (fun e he => ⟨he.1, by simp [patOK, he.2]⟩)
          (fun _ h => h)
    | _ => exact fun _ h => nomatch h
  | harr xs ih =>
    intro d bs hd hb
    rw [matchJ_eqns.arr]
    cases hgv : getVariable xs none with
    | error e =>
      -- more than one variable: reported, and outside the fragment
      have := getVariable_error hgv
      refine ⟨this.1, ?_⟩
      rw [patOK_arr_eq]
      have : decide ((xs.filter isVarElem).length ≤ 1) = false := by
        simp only [decide_eq_false_iff_not]; omega
      simp [this]
    | ok vw =>
      obtain ⟨v, w⟩ := vw
      cases d with
      | arr fa =>
        have hfa : ∀ y ∈ fa, y.ground = true := groundL_iff.1 (by simpa [J.ground] using hd)
        refine GoodE.bind (Q := BrG) ((matchA_good xs ih _ _ ?_).mono
          (fun e he => ⟨he.1, by rw [patOK_arr_eq]; simp [he.2]⟩) (fun _ h => h)) (fun branches hbrs => ?_)
        · intro br hbr
          rw [List.mem_singleton.1 hbr]
          exact ⟨fun b hbm => List.mem_singleton.1 hbm ▸ hb,
            fun y hy => hfa y (List.mem_filter.1 (List.mem_eraseDups.1 hy)).1,
            fun y hy => hfa y (List.mem_filter.1 hy).1⟩
        · have hfst : ∀ σ ∈ branches.flatMap (·.1), GBs σ := by
            intro σ hσ
            obtain ⟨br, hbr, hσ⟩ := List.mem_flatMap.1 hσ
            exact (hbrs br hbr).1 σ hσ
          cases v with
          | none => exact hfst
          | some s =>
            refine GoodE.bind (Q := fun ext => ∀ per ∈ ext, ∀ r ∈ per, ∀ q ∈ r, ∀ σ ∈ q, GBs σ)
              (GoodE.mapM fun br hbr => GoodE.mapM fun fr hfr => GoodE.mapM fun b hbm => ?_)
              (fun ext hext => GoodE.ite hfst ?_)
            · -- the variable is laid over a leftover fact, which is ground
              obtain ⟨h1, h2, h3⟩ := hbrs br hbr
              exact matchStr_good s ((List.mem_append.1 ((splitNth_perm (r := fr.2) hfr).mem_iff.2 List.mem_cons_self)).elim (h3 _) (h2 _))
                (h1 b hbm)
            · intro σ hσ
              obtain ⟨per, hper, hσ⟩ := List.mem_flatMap.1 hσ
              obtain ⟨r, hr, hσ⟩ := List.mem_flatMap.1 hσ
              obtain ⟨q, hq, hσ⟩ := List.mem_flatMap.1 hσ
              exact hext per hper r hr q hq σ hσ
      | _ => exact fun _ h => nomatch h

theorem matchJ_total {p d : J} {bs : Bs} (hp : patOK p = true) (hd : d.ground = true) (hb : GBs bs) :
    ∃ bss, matchJ p d bs = .ok bss := by
  have := ngJ p d bs hd hb
  cases hr : matchJ p d bs with
  | ok bss => exact ⟨bss, rfl⟩
  | error e => rw [hr] at this; have := this.2; rw [hp] at this; cases this
