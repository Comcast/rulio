import RulioProofs.StateBasic

/-! # The specification `closure` is the least set containing the roots and closed under "names … in deleteWith" -/

abbrev FactList := List (String × Obj)

theorem mem_depsStep {F : FactList} {dead : List String} {k : String} :
    k ∈ depsStep F dead ↔ ∃ fact, (k, fact) ∈ F ∧ k ∉ dead ∧ ∃ d, d ∈ dead ∧ depOn fact d = true := by
  simp only [depsStep, List.mem_map, List.mem_filter, Bool.and_eq_true, Bool.not_eq_true',
    List.any_eq_true, List.contains_iff_mem, depOn]
  constructor
  · rintro ⟨e, ⟨he, hnd, d, hd1, hd2⟩, rfl⟩
    exact ⟨e.2, he, by simpa using hnd, d, hd2, hd1⟩
  · rintro ⟨fact, hm, hnd, d, hd1, hd2⟩
    exact ⟨(k, fact), ⟨hm, by simpa using hnd, d, hd2, hd1⟩, rfl⟩

theorem closure_go_extends (F : FactList) : ∀ (n : Nat) (dead : List String) k, k ∈ dead → k ∈ closure.go F n dead := by
  intro n
  induction n with
  | zero => intro dead k h; exact h
  | succ n ih =>
    intro dead k h
    simp only [closure.go]
    split
    · exact h
    · exact ih _ k (List.mem_append_left _ h)

theorem closure_go_least (F : FactList) (X : String → Prop)
    (hstep : ∀ k fact d, (k, fact) ∈ F → X d → depOn fact d = true → X k) :
    ∀ (n : Nat) (dead : List String), (∀ k, k ∈ dead → X k) → ∀ k, k ∈ closure.go F n dead → X k := by
  intro n
  induction n with
  | zero => intro dead h k hk; exact h k hk
  | succ n ih =>
    intro dead h k hk
    simp only [closure.go] at hk
    split at hk
    · exact h k hk
    · apply ih _ _ k hk
      intro j hj
      rcases List.mem_append.1 hj with hj | hj
      · exact h j hj
      · obtain ⟨fact, hm, _, d, hd, hdep⟩ := mem_depsStep.1 hj
        exact hstep j fact d hm (h d hd) hdep

/-- the measure under which `closure.go` terminates: the stored facts whose id is not yet in `dead` -/
def liveCount (F : FactList) (dead : List String) : Nat := (F.filter (fun e => !dead.contains e.1)).length

theorem liveCount_lt {F : FactList} {dead more : List String} (hmore : depsStep F dead = more) (hne : more ≠ []) :
    liveCount F (dead ++ more) < liveCount F dead := by
  obtain ⟨k, hk⟩ := List.exists_mem_of_ne_nil _ hne
  obtain ⟨fact, hm, hnd, _⟩ := mem_depsStep.1 (hmore ▸ hk)
  -- the facts alive after the round are those alive before it, less the ids found; one id was found
  have hsplit := (filterOut_filterOut more dead F).symm
  simp only [filterOut] at hsplit
  simp only [liveCount, hsplit]
  exact List.length_filter_lt_length_iff_exists.2
    ⟨(k, fact), List.mem_filter.2 ⟨hm, by simpa using hnd⟩, by simpa using hk⟩

theorem closure_go_fixed (F : FactList) : ∀ (n : Nat) (dead : List String), liveCount F dead ≤ n →
    depsStep F (closure.go F n dead) = [] := by
  intro n
  induction n with
  | zero =>
    intro dead h
    simp only [closure.go]
    have h0 : liveCount F dead = 0 := by omega
    simp only [liveCount, List.length_eq_zero_iff, List.filter_eq_nil_iff] at h0
    simp only [depsStep, List.map_eq_nil_iff, List.filter_eq_nil_iff]
    intro e he
    have hc : e.1 ∈ dead := by simpa using h0 e he
    simp only [Bool.and_eq_true, Bool.not_eq_true', not_and]
    intro hx
    have : dead.contains e.1 = true := by simpa using hc
    rw [this] at hx; cases hx
  | succ n ih =>
    intro dead h
    simp only [closure.go]
    split
    · rename_i hemp
      simpa using hemp
    · rename_i hemp
      apply ih
      have := liveCount_lt (F := F) (dead := dead) rfl (by simpa using hemp)
      omega

theorem closure_fixed (F : FactList) (roots : List String) : depsStep F (closure F roots) = [] := by
  apply closure_go_fixed
  simp only [liveCount]
  exact List.length_filter_le _ _

theorem closure_roots (F : FactList) (roots : List String) : ∀ r, r ∈ roots → r ∈ closure F roots :=
  closure_go_extends F _ roots

theorem closure_closed (F : FactList) (roots : List String) {k d : String} {fact : Obj}
    (hm : (k, fact) ∈ F) (hd : d ∈ closure F roots) (hdep : depOn fact d = true) : k ∈ closure F roots := by
  apply Classical.byContradiction
  intro hk
  have : k ∈ depsStep F (closure F roots) := mem_depsStep.2 ⟨fact, hm, hk, d, hd, hdep⟩
  rw [closure_fixed] at this
  simp at this

theorem closure_least (F : FactList) (roots : List String) (X : String → Prop) (hroots : ∀ r, r ∈ roots → X r)
    (hstep : ∀ k fact d, (k, fact) ∈ F → X d → depOn fact d = true → X k) : ∀ k, k ∈ closure F roots → X k :=
  closure_go_least F X hstep _ roots hroots

theorem closure_sub {F F' : FactList} {R R' : List String} (hF : ∀ e, e ∈ F' → e ∈ F)
    (hR : ∀ r, r ∈ R' → r ∈ closure F R) : ∀ k, k ∈ closure F' R' → k ∈ closure F R :=
  closure_least F' R' (· ∈ closure F R) hR fun _ _ _ hm hd hdep => closure_closed F R (hF _ hm) hd hdep
