import RulioModel.Crolt
import RulioProofs.Lookup

/-! The Bolt-backed cron service (C16): the buckets as finite maps, the two-bucket invariant `BInv` along every legal
history, what the work loop logs, and the life of one recurring job with jitter (`RInv`). -/

namespace Crolt
open C16Gen List

section maps
variable {κ α : Type} [DecidableEq κ]

theorem get_eq_lookup (k : κ) (m : Map κ α) : get k m = m.lookup k := by
  induction m with
  | nil => rfl
  | cons p r ih =>
    obtain ⟨k', v⟩ := p
    rw [get, lookup_cons, ih]
    by_cases h : k' = k
    · rw [if_pos h, h, beq_self_eq_true]
    · rw [if_neg h, beq_false_of_ne (Ne.symm h)]

theorem get_del (k k' : κ) (m : Map κ α) : get k' (del k m) = if k' = k then none else get k' m := by
  rw [get_eq_lookup, get_eq_lookup]; exact lookup_filter_ne m k k'

theorem get_del_ne {k k' : κ} (h : k' ≠ k) (m : Map κ α) : get k' (del k m) = get k' m := by
  rw [get_del, if_neg h]

theorem get_put_same (k : κ) (v : α) (m : Map κ α) : get k (put k v m) = some v := by
  rw [put, get, if_pos rfl]

theorem get_put_ne {k k' : κ} (h : k' ≠ k) (v : α) (m : Map κ α) : get k' (put k v m) = get k' m := by
  rw [put, get, if_neg (Ne.symm h), get_del_ne h]

theorem get_del_some {k k' : κ} {v : α} {m : Map κ α} (h : get k' (del k m) = some v) : k' ≠ k ∧ get k' m = some v := by
  rw [get_del] at h
  by_cases e : k' = k
  · rw [if_pos e] at h; cases h
  · rw [if_neg e] at h; exact ⟨e, h⟩

theorem keys_del (k : κ) {m : Map κ α} (h : (m.map (·.1)).Nodup) : ((del k m).map (·.1)).Nodup :=
  h.sublist (filter_sublist.map _)

theorem not_mem_keys_del (k : κ) (m : Map κ α) : k ∉ (del k m).map (·.1) := by
  intro h
  obtain ⟨e, he, hk⟩ := mem_map.1 h
  simpa [hk] using (mem_filter.1 he).2

theorem keys_put (k : κ) (v : α) {m : Map κ α} (h : (m.map (·.1)).Nodup) : ((put k v m).map (·.1)).Nodup :=
  nodup_cons.2 ⟨not_mem_keys_del k m, keys_del k h⟩

theorem keys_elim_del (o : Option κ) {m : Map κ α} (h : (m.map (·.1)).Nodup) :
    ((o.elim m (del · m)).map (·.1)).Nodup := by
  cases o with
  | none => exact h
  | some k => exact keys_del k h

theorem get_of_mem {k : κ} {v : α} {m : Map κ α} (hn : (m.map (·.1)).Nodup) (h : (k, v) ∈ m) : get k m = some v :=
  (get_eq_lookup k m).trans (lookup_eq_some_of_mem hn h)

end maps

/-- the transaction of `Cron.update`: both buckets get the job under its new key, the time bucket loses the old key -/
theorem update_eq (db : DB) (j : Job) (ts : Nat) :
    update db j ts = { db with jobs := put j.aid { j with tid := some ⟨ts, j.aid⟩ } db.jobs,
                               time := put ⟨ts, j.aid⟩ { j with tid := some ⟨ts, j.aid⟩ } (j.tid.elim db.time (del · db.time)) } := by
  unfold update
  cases j.tid <;> rfl

theorem get_update_jobs (db : DB) (j : Job) (ts a : Nat) :
    get a (update db j ts).jobs = if a = j.aid then some { j with tid := some ⟨ts, j.aid⟩ } else get a db.jobs := by
  rw [update_eq]
  by_cases h : a = j.aid
  · rw [if_pos h, h]; exact get_put_same _ _ _
  · rw [if_neg h]; exact get_put_ne h _ _

theorem get_update_time (db : DB) (j : Job) (ts : Nat) (t : TId) :
    get t (update db j ts).time = if t = ⟨ts, j.aid⟩ then some { j with tid := some ⟨ts, j.aid⟩ }
      else if j.tid = some t then none else get t db.time := by
  rw [update_eq]
  by_cases h : t = ⟨ts, j.aid⟩
  · rw [if_pos h, h]; exact get_put_same _ _ _
  · rw [if_neg h]
    refine (get_put_ne h _ _).trans ?_
    cases j.tid with
    | none => exact (if_neg nofun).symm
    | some old =>
      rw [Option.elim_some, get_del]
      by_cases e : t = old
      · rw [if_pos e, if_pos (e ▸ rfl)]
      · rw [if_neg e, if_neg fun e' => e (Option.some.inj e').symm]

theorem delete_eq {db : DB} {aid : Nat} {j : Job} (h : get aid db.jobs = some j) :
    delete db aid = { db with time := j.tid.elim db.time (del · db.time), jobs := del aid db.jobs } := by
  rw [delete, h]
  dsimp only
  cases j.tid <;> rfl

theorem delete_log (db : DB) (aid : Nat) : (delete db aid).log = db.log := by
  unfold delete; split <;> rfl

theorem setFlags_fields (j : Job) : (setFlags j).aid = j.aid ∧ (setFlags j).tid = j.tid := by
  unfold setFlags; split
  · exact ⟨rfl, rfl⟩
  · split <;> exact ⟨rfl, rfl⟩

theorem clearTid_fields (j : Job) : (clearTid j).aid = j.aid ∧ (clearTid j).tid = none := ⟨rfl, rfl⟩

theorem isDue_lt {k : TId} {now : Nat} (h : isDue k now = true) : k.ts < now := by
  unfold isDue dueCmp cmpKey at h
  by_cases hlt : k.ts < now
  · exact hlt
  · simp [hlt] at h

/-- a visit of the work loop to a due entry: the job is deleted if it is marked for eviction, otherwise it is run (logged) and
stored under its new key, a one-shot marked for eviction -/
theorem workOne_due {db : DB} {now : Nat} {k : TId} {v : Job} (hv : get k db.time = some v) (hdue : isDue k now = true)
    (ts : Nat) :
    workOne db now k ts = if v.evict then (delete db v.aid, true) else
      (update { db with log := ⟨v.aid, k.ts, now, v.once⟩ :: db.log }
        (setFlags (if v.once && workEvictsOnce then { v with evict := true } else v)) ts, false) := by
  rw [workOne, hv]; dsimp only; rw [hdue]; rfl

/-- One visit of the work loop changes nothing, or deletes the job of the entry (marked for eviction), or logs a run of it
and updates it (with its flags set, its `TId` still the visited key's). -/
theorem workOne_cases (db : DB) (now : Nat) (k : TId) (ts : Nat) :
    (workOne db now k ts).1 = db ∨
    ∃ v, get k db.time = some v ∧ k.ts < now ∧ ((workOne db now k ts).1 = delete db v.aid ∨
      ∃ j, j.aid = v.aid ∧ j.tid = v.tid ∧
        (workOne db now k ts).1 = update { db with log := ⟨v.aid, k.ts, now, v.once⟩ :: db.log } j ts) := by
  cases hg : get k db.time with
  | none => exact .inl (by rw [workOne, hg])
  | some v =>
    by_cases hdue : isDue k now = true
    · refine .inr ⟨v, rfl, isDue_lt hdue, ?_⟩
      rw [workOne_due hg hdue]
      by_cases he : v.evict = true
      · exact .inl (by rw [if_pos he])
      · refine .inr ⟨_, ?_, ?_, by rw [if_neg he]⟩
        · rw [(setFlags_fields _).1]; split <;> rfl
        · rw [(setFlags_fields _).2]; split <;> rfl
    · exact .inl (by rw [workOne, hg]; dsimp only; rw [if_pos (by simpa using hdue)])

theorem work_keeps {I : DB → Prop} {now : Nat} (h1 : ∀ db k ts, I db → I (workOne db now k ts).1) {db : DB} (h : I db)
    (sel : List (TId × Nat)) : I (work db now sel) := by
  induction sel generalizing db with
  | nil => exact h
  | cons e sel ih =>
    rw [work]
    split
    · exact h1 db e.1 e.2 h
    · exact ih (h1 db e.1 e.2 h)

/-- the two buckets agree key for key: `jobs[aid].TId` is a key of `time` holding the same job, and every entry of `time`
is the entry its job points to -/
structure BInv (db : DB) : Prop where
  fwd : ∀ a j, get a db.jobs = some j → j.aid = a ∧ ∃ t, j.tid = some t ∧ t.aid = a ∧ get t db.time = some j
  bwd : ∀ t j, get t db.time = some j → j.tid = some t ∧ t.aid = j.aid ∧ get j.aid db.jobs = some j

/-- `update` keeps the invariant when the job's `TId` field is the key its stored version has (empty for a new job) -/
theorem BInv_update {db : DB} (h : BInv db) (j : Job) (ts : Nat)
    (hpre : j.tid = (get j.aid db.jobs).bind (·.tid)) :
    BInv (update db j ts) := by
  constructor
  · intro a x hx
    rw [get_update_jobs] at hx
    by_cases ha : a = j.aid
    · rw [if_pos ha] at hx; cases hx
      exact ⟨ha.symm, ⟨ts, j.aid⟩, rfl, ha.symm, by rw [get_update_time, if_pos rfl]⟩
    · rw [if_neg ha] at hx
      obtain ⟨h1, t, h2, h3, h4⟩ := h.fwd a x hx
      refine ⟨h1, t, h2, h3, ?_⟩
      rw [get_update_time, if_neg fun e => ha (h3.symm.trans (congrArg TId.aid e)), if_neg, h4]
      -- the old key of `j` is the key of its stored version, whose aid is `j.aid`
      intro hjt
      obtain ⟨v, hg, hvt⟩ := Option.bind_eq_some_iff.1 (hpre.symm.trans hjt)
      obtain ⟨_, t', ht', hta, _⟩ := h.fwd _ _ hg
      have : t' = t := Option.some.inj (ht'.symm.trans hvt)
      exact ha (h3.symm.trans (this ▸ hta))
  · intro t x hx
    rw [get_update_time] at hx
    by_cases ht : t = ⟨ts, j.aid⟩
    · rw [if_pos ht] at hx; cases hx
      subst ht
      exact ⟨rfl, rfl, by rw [get_update_jobs]; exact if_pos rfl⟩
    · rw [if_neg ht] at hx
      by_cases hjt : j.tid = some t
      · rw [if_pos hjt] at hx; cases hx
      · rw [if_neg hjt] at hx
        obtain ⟨b1, b2, b3⟩ := h.bwd t x hx
        refine ⟨b1, b2, ?_⟩
        rw [get_update_jobs, if_neg, b3]
        -- the stored version of `j` has `j`'s key, which is not `t`
        intro hxa
        rw [← hxa, b3] at hpre
        exact hjt (Eq.trans hpre b1)

theorem BInv_delete {db : DB} (h : BInv db) (aid : Nat) : BInv (delete db aid) := by
  cases hg : get aid db.jobs with
  | none => rw [delete, hg]; exact h
  | some j =>
    obtain ⟨f1, t, f2, f3, f4⟩ := h.fwd aid j hg
    rw [delete_eq hg, f2]
    constructor
    · intro a x hx
      obtain ⟨hne, hx'⟩ := get_del_some hx
      obtain ⟨g1, t', g2, g3, g4⟩ := h.fwd a x hx'
      exact ⟨g1, t', g2, g3, (get_del_ne (fun e => hne (g3.symm.trans ((congrArg TId.aid e).trans f3))) _).trans g4⟩
    · intro t' x hx
      obtain ⟨hne, hx'⟩ := get_del_some hx
      obtain ⟨b1, b2, b3⟩ := h.bwd t' x hx'
      refine ⟨b1, b2, (get_del_ne ?_ _).trans b3⟩
      intro e
      rw [e, hg] at b3; cases b3
      exact hne (Option.some.inj (b1.symm.trans f2))

/-- the state invariant: the buckets agree, and the time bucket, being a Bolt bucket, has one entry per key -/
structure DBInv (db : DB) : Prop where
  agree : BInv db
  keys : (db.time.map (·.1)).Nodup

theorem DBInv_empty : DBInv {} := by
  refine ⟨?_, .nil⟩
  constructor <;> intro _ _ h <;> cases h

theorem DBInv_update {db : DB} (h : DBInv db) (j : Job) (ts : Nat)
    (hpre : j.tid = (get j.aid db.jobs).bind (·.tid)) :
    DBInv (update db j ts) := by
  refine ⟨BInv_update h.agree j ts hpre, ?_⟩
  rw [update_eq]
  exact keys_put _ _ (keys_elim_del _ h.keys)

theorem DBInv_delete {db : DB} (h : DBInv db) (aid : Nat) : DBInv (delete db aid) := by
  refine ⟨BInv_delete h.agree aid, ?_⟩
  cases hg : get aid db.jobs with
  | none => rw [delete, hg]; exact h.keys
  | some j =>
    rw [delete_eq hg]
    exact keys_elim_del _ h.keys

theorem DBInv_workOne (now : Nat) (db : DB) (k : TId) (ts : Nat) (h : DBInv db) : DBInv (workOne db now k ts).1 := by
  rcases workOne_cases db now k ts with e | ⟨v, hv, _, e | ⟨j, hja, hjt, e⟩⟩ <;> rw [e]
  · exact h
  · exact DBInv_delete h v.aid
  -- the invariant does not read the log, so it holds of the state with the run logged
  · refine DBInv_update (db := { db with log := ⟨v.aid, k.ts, now, v.once⟩ :: db.log }) ⟨⟨h.agree.fwd, h.agree.bwd⟩, h.keys⟩ j ts ?_
    -- the visited entry is the stored version of its job
    rw [hja, (h.agree.bwd k v hv).2.2]
    exact hjt

/-- what must hold for the operation to be one of the service's own transactions: the second half of an `Add` (the writing
transaction) runs while the job still does not exist. Nothing is asked of the job a caller passes to `Add`: whatever `TId` it
carries is discarded. -/
def okOp (db : DB) : Op → Prop
  | .addCommit j _ => get j.aid db.jobs = none
  | _ => True

def Legal : DB → List Op → Prop
  | _, [] => True
  | db, op :: ops => okOp db op ∧ Legal (step db op) ops

theorem DBInv_addCommit {db : DB} (h : DBInv db) (j : Job) (ts : Nat) (hg : get j.aid db.jobs = none) :
    DBInv (addCommit db j ts) := by
  refine DBInv_update h _ ts ?_
  rw [(setFlags_fields _).1, (setFlags_fields _).2, (clearTid_fields j).1, (clearTid_fields j).2, hg]
  rfl

theorem DBInv_step {db : DB} (h : DBInv db) (op : Op) (hok : okOp db op) : DBInv (step db op) := by
  cases op with
  | add j ts =>
    rw [step, add]
    cases hg : get j.aid db.jobs with
    | some v => exact h
    | none => exact DBInv_addCommit h j ts hg
  | addCommit j ts => exact DBInv_addCommit h j ts hok
  | delete aid => exact DBInv_delete h aid
  | work now sel => exact work_keeps (DBInv_workOne now) h sel
  | reopen => exact h

theorem DBInv_run {db : DB} (h : DBInv db) (ops : List Op) (hl : Legal db ops) : DBInv (run db ops) := by
  induction ops generalizing db with
  | nil => exact h
  | cons op ops ih => exact ih (DBInv_step h op hl.1) hl.2

theorem one_entry {db : DB} (h : DBInv db) (a : Nat) : (db.time.filter (fun e => e.2.aid == a)).length ≤ 1 := by
  have hp : (db.time.filter (fun e => e.2.aid == a)).Pairwise (fun e₁ e₂ => e₁.1 ≠ e₂.1) :=
    (pairwise_map.1 h.keys).sublist filter_sublist
  -- every such entry is the entry the job `a` points to
  have key : ∀ e₁ ∈ db.time.filter (fun e => e.2.aid == a), ∀ e₂ ∈ db.time.filter (fun e => e.2.aid == a), e₁.1 = e₂.1 := by
    intro e₁ h₁ e₂ h₂
    obtain ⟨m₁, a₁⟩ := mem_filter.1 h₁
    obtain ⟨m₂, a₂⟩ := mem_filter.1 h₂
    obtain ⟨b₁, _, b₃⟩ := h.agree.bwd e₁.1 e₁.2 (get_of_mem h.keys m₁)
    obtain ⟨c₁, _, c₃⟩ := h.agree.bwd e₂.1 e₂.2 (get_of_mem h.keys m₂)
    rw [beq_iff_eq.1 a₁] at b₃
    rw [beq_iff_eq.1 a₂, b₃] at c₃
    exact Option.some.inj (b₁.symm.trans ((Option.some.inj c₃) ▸ c₁))
  generalize db.time.filter (fun e => e.2.aid == a) = l at hp key
  match l, hp, key with
  | [], _, _ => exact Nat.zero_le _
  | [_], _, _ => exact Nat.le_refl _
  | e₁ :: e₂ :: _, hp, key =>
    exact absurd (key e₁ mem_cons_self e₂ (mem_cons_of_mem _ mem_cons_self)) ((pairwise_cons.1 hp).1 e₂ mem_cons_self)

theorem workOne_log (now : Nat) (db : DB) (k : TId) (ts : Nat) (h : ∀ f ∈ db.log, f.due < f.now) :
    ∀ f ∈ (workOne db now k ts).1.log, f.due < f.now := by
  rcases workOne_cases db now k ts with e | ⟨v, _, hlt, e | ⟨j, _, _, e⟩⟩ <;> rw [e]
  · exact h
  · rw [delete_log]; exact h
  · exact forall_mem_cons.2 ⟨hlt, h⟩

theorem step_log {db : DB} (h : ∀ f ∈ db.log, f.due < f.now) (op : Op) : ∀ f ∈ (step db op).log, f.due < f.now := by
  cases op with
  | add j ts =>
    rw [step, add]
    split
    · exact h
    · exact h
  | addCommit j ts => exact h
  | delete aid => rw [step, delete_log]; exact h
  | work now sel => exact work_keeps (I := fun db => ∀ f ∈ db.log, f.due < f.now) (workOne_log now) h sel
  | reopen => exact h

/-! `Crolt.nextOcc` is `CronM.nextOcc` written again (the two models do not import each other), and so are the two facts about it. -/

theorem nextOcc_gt {p now : Nat} (hp : p ≠ 0) : now < nextOcc p now := by
  rw [nextOcc, Nat.mul_comm]; exact Nat.lt_mul_div_succ now (Nat.pos_of_ne_zero hp)

theorem nextOcc_mod (p now : Nat) : nextOcc p now % p = 0 := Nat.mul_mod_left _ _

/-- the jitter is never negative (the extracted `Jitter()` subtracts nothing from its random part): the key is at or
after the occurrence it was computed from -/
theorem occ_le_setCron (p max now u : Nat) : nextOcc p now ≤ setCron p max now u := by
  rw [setCron, show jitterSub max = 0 from rfl]
  exact Nat.le_add_right _ u

/-- invariant of one recurring job's life: its key is not before its occurrence, every run so far served an earlier
occurrence, strictly after that occurrence, and the occurrences served are strictly increasing -/
structure RInv (p : Nat) (s : RState) : Prop where
  keyOk : s.occ ≤ s.key
  isOcc : s.occ % p = 0
  served : ∀ r ∈ s.runs, r.1 < s.occ ∧ r.1 < r.2 ∧ r.1 % p = 0
  incr : (s.runs.map (·.1)).Pairwise (· > ·)

theorem RInv_init (p max now u : Nat) : RInv p (rinit p max now u) :=
  ⟨occ_le_setCron p max now u, nextOcc_mod p now, nofun, .nil⟩

theorem RInv_step {p max : Nat} (hp : p ≠ 0) {s : RState} (h : RInv p s) (op : ROp) : RInv p (rstep p max s op) := by
  cases op with
  | advance d => exact ⟨h.keyOk, h.isOcc, h.served, h.incr⟩
  | poll d u =>
    rw [rstep]
    split
    · next hdue =>
      -- the run serves `s.occ`, which is before the clock reading; the next occurrence is after it
      have hlt : s.occ < s.clock := Nat.lt_of_le_of_lt h.keyOk (isDue_lt hdue)
      have hocc : s.occ < nextOcc p (s.clock + d) :=
        Nat.lt_trans hlt (Nat.lt_of_le_of_lt (Nat.le_add_right _ d) (nextOcc_gt hp))
      refine ⟨occ_le_setCron _ _ _ _, nextOcc_mod _ _, ?_, ?_⟩
      · exact forall_mem_cons.2 ⟨⟨hocc, hlt, h.isOcc⟩, fun r hr => ⟨Nat.lt_trans (h.served r hr).1 hocc, (h.served r hr).2⟩⟩
      · refine pairwise_cons.2 ⟨fun o ho => ?_, h.incr⟩
        obtain ⟨r, hr, rfl⟩ := mem_map.1 ho
        exact (h.served r hr).1
    · exact h

theorem RInv_run {p max : Nat} (hp : p ≠ 0) {s : RState} (h : RInv p s) (ops : List ROp) : RInv p (rrun p max s ops) :=
  List.foldlRecOn ops _ h fun _ hb op _ => RInv_step hp hb op

end Crolt
