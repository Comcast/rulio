import RulioProofs.MatchSpecLemmas

/-! # Equations of the matcher model (`matchStr`, `matchJ` / `matchO` / `matchA`, `getVariable`): as defined, and
in the simpler form they take inside the `patOK` fragment (what `getVariable` returns among them); that the equations
determine the matcher (`MatchEqns.congrJ`); the bookkeeping predicates of the C05 proofs: `DomLe` and `Binds` (what a
returned binding adds), `SC` (scalar condition) and its general form `Crit`, with the occurrence count `count` they are
stated in (`vcount_*`); the equations of `varsOf` -/

/-- The defining equations of a matcher `mJ` / `mO` / `mA` whose string case is `mS`.  `matchJ` / `matchO` / `matchA`
satisfy them over `matchStr` (`matchJ_eqns`), the matcher with inequality variables over `matchStrI`
(`matchJI_eqns`, `RulioProofs/MatchIneq.lean`), the structurally recursive `evalJ mS` over any `mS` (`evalJ_eqns`,
`RulioProofs/MatchRun.lean`).  Over a given string case they have one solution (`MatchEqns.congrJ`): that is
conservativity of the inequality variables and the agreement of `matchJ` with the matcher the kernel can run.
A proof about one matcher rewrites with its instance (`matchJ_eqns.obj`, …). -/
structure MatchEqns (mS : String → J → Bs → Except MErr (List Bs)) (mJ : J → J → Bs → Except MErr (List Bs))
    (mO : List (String × J) → List (String × J) → List Bs → Except MErr (List Bs))
    (mA : List J → Bool → List (List Bs × List J × List J) → Except MErr (List (List Bs × List J × List J))) :
    Prop where
  null (f : J) (bs : Bs) : mJ .null f bs = (match f with | .null => .ok [bs] | _ => .ok [])
  bool (a : Bool) (f : J) (bs : Bs) :
    mJ (.bool a) f bs = (match f with | .bool b => .ok (if a == b then [bs] else []) | _ => .ok [])
  num (a : Int) (f : J) (bs : Bs) :
    mJ (.num a) f bs = (match f with | .num b => .ok (if a == b then [bs] else []) | _ => .ok [])
  str (s : String) (f : J) (bs : Bs) : mJ (.str s) f bs = mS s f bs
  obj (kvs : List (String × J)) (f : J) (bs : Bs) :
    mJ (.obj kvs) f bs =
      (match f with
       | .obj fm =>
         if kvs.isEmpty then .ok [bs]
         else if kvs.length > 1 && kvs.any (fun kv => isVar kv.1) then .error .propVarWithOthers
         else mO kvs fm [bs]
       | _ => .ok [])
  arr (xs : List J) (f : J) (bs : Bs) :
    mJ (.arr xs) f bs =
      (match getVariable xs none with
       | .error e => .error e
       | .ok (v, _) =>
         match f with
         | .arr fa =>
           (mA xs (fa.filter (fun y => !y.isScalar)).isEmpty
              [([bs], (fa.filter J.isScalar).eraseDups, fa.filter (fun y => !y.isScalar))]) >>= fun branches =>
           match v with
           | none => pure (branches.flatMap (·.1))
           | some v =>
             (branches.mapM (fun br =>
               (splitNth (br.2.2 ++ br.2.1)).mapM (fun fr => br.1.mapM (fun b => mS v fr.1 b)))) >>= fun ext =>
             if (ext.flatMap (fun per => per.flatMap (fun r => r.flatMap id))).isEmpty && isOptVar v
             then pure (branches.flatMap (·.1))
             else pure (ext.flatMap (fun per => per.flatMap (fun r => r.flatMap id)))
         | _ => .ok [])
  o_nil (fm : List (String × J)) (bss : List Bs) : mO [] fm bss = .ok bss
  o_cons_const {k : String} (hk : isVar k = false) (v : J) (r fm : List (String × J)) (bss : List Bs) :
    mO ((k, v) :: r) fm bss =
      (match lookupKey k fm with
       | none => (match v with
                  | .str s => if isOptVar s then mO r fm bss else .ok []
                  | _ => .ok [])
       | some fv =>
         (bss.mapM (fun b => mJ v fv b)) >>= fun acc =>
           if (acc.flatMap id).isEmpty then pure [] else mO r fm (acc.flatMap id))
  o_cons_var {k : String} (hk : isVar k = true) (v : J) (r fm : List (String × J)) (bss : List Bs) :
    mO ((k, v) :: r) fm bss =
      ((fm.mapM (fun (fk, fv) =>
          (bss.mapM (fun b => mS k (.str fk) b)) >>= fun e1 =>
            if (e1.flatMap id).isEmpty then pure []
            else ((e1.flatMap id).mapM (fun b => mJ v fv b)) >>= fun e2 => pure (e2.flatMap id))) >>= fun per =>
        pure (per.flatMap id))
  a_nil (ns : Bool) (branches : List (List Bs × List J × List J)) : mA [] ns branches = .ok branches
  a_cons (x : J) (xs : List J) (ns : Bool) (branches : List (List Bs × List J × List J)) :
    mA (x :: xs) ns branches =
      (if isVarElem x = true then mA xs ns branches
       else if x.isScalar = true then
         (match branches with
          | [] => .ok []
          | (_, sc, _) :: _ =>
            if sc.contains x then mA xs ns (branches.map (fun br => (br.1, br.2.1.erase x, br.2.2)))
            else .ok [])
       else if ns = true then .ok [] else
        (branches.mapM (fun br =>
          (splitNth br.2.2).mapM (fun fr =>
            (br.1.mapM (fun b => mJ x fr.1 b)) >>= fun acc =>
              pure (if (acc.flatMap id).isEmpty then [] else [(acc.flatMap id, br.2.1, fr.2)])))) >>= fun nb =>
        if (nb.flatMap (fun per => per.flatMap id)).isEmpty then pure []
        else mA xs ns (nb.flatMap (fun per => per.flatMap id)))

theorem matchJ_eqns : MatchEqns matchStr matchJ matchO matchA where
  null f bs := by rw [matchJ.eq_def]; rfl
  bool a f bs := by rw [matchJ.eq_def]; rfl
  num a f bs := by rw [matchJ.eq_def]; rfl
  str s f bs := by rw [matchJ.eq_def]
  obj kvs f bs := by rw [matchJ.eq_def]; rfl
  arr xs f bs := by rw [matchJ.eq_def]; rfl
  o_nil fm bss := by rw [matchO.eq_def]
  o_cons_const hk v r fm bss := by rw [matchO.eq_def]; simp only [hk, Bool.false_eq_true, if_false]; rfl
  o_cons_var hk v r fm bss := by rw [matchO.eq_def]; simp only [hk, if_true]
  a_nil ns branches := by rw [matchA.eq_def]
  a_cons x xs ns branches := by rw [matchA.eq_def]; rfl

theorem matchStr_const {s : String} (hs : isVar s = false) (f : J) (bs : Bs) :
    matchStr s f bs = .ok (if J.str s == f then [bs] else []) := by
  unfold matchStr
  simp only [hs, Bool.not_false, if_true]
  cases f with
  | str t => exact (apply_ite Except.ok _ _ _).symm
  | _ => rfl
/-- on a bound variable the value is matched against the fact as a pattern, and `bs` comes back once per way it matches -/
theorem matchStr_var {s : String} (hs : isVar s = true) (f : J) (bs : Bs) :
    matchStr s f bs =
      if s == "?" then .ok [bs]
      else match bs.get? s with
        | some b => if b.ground then .ok (List.replicate (gmatch b f) bs) else .error .nonGround
        | none => .ok [bs.set s f] := by
  unfold matchStr
  simp only [hs, Bool.not_true, Bool.false_eq_true, if_false]
  rfl
theorem matchStr_var_ok {s : String} {f : J} {bs : Bs} {out : List Bs} (hv : isVar s = true) (hq : s ≠ "?")
    (h : matchStr s f bs = .ok out) :
    (bs.get? s = none ∧ out = [bs.set s f]) ∨ ∃ b, bs.get? s = some b ∧ out = List.replicate (gmatch b f) bs := by
  rw [matchStr_var hv, if_neg (by simpa using hq)] at h
  cases hg : bs.get? s with
  | none => simp only [hg] at h; exact .inl ⟨rfl, (Except.ok.inj h).symm⟩
  | some b =>
    simp only [hg] at h
    cases hb : b.ground with
    | false => rw [hb] at h; cases h
    | true => rw [hb, if_pos rfl] at h; exact .inr ⟨b, rfl, (Except.ok.inj h).symm⟩

theorem matchJ_const {x : J} (hx : x.isScalar = true) (hv : isVarElem x = false) (d : J) (bs : Bs) :
    matchJ x d bs = .ok (if x == d then [bs] else []) := by
  cases x with
  | null => rw [matchJ_eqns.null]; cases d <;> rfl
  | bool a => rw [matchJ_eqns.bool]; cases d <;> rfl
  | num a => rw [matchJ_eqns.num]; cases d <;> rfl
  | str s => rw [matchJ_eqns.str]; exact matchStr_const hv d bs
  | arr xs => cases hx
  | obj kvs => cases hx

/-- no bindings in, no bindings out: the early exits of `mapcatMatch` are only shortcuts -/
theorem matchO_of_nil (fm : List (String × J)) : ∀ (kvs : List (String × J)), matchO kvs fm [] = .ok []
  | [] => matchJ_eqns.o_nil fm []
  | (k, v) :: r => by
      cases hk : isVar k with
      | true =>
        rw [matchJ_eqns.o_cons_var hk]
        suffices ∀ g : String × J → Except MErr (List Bs), (∀ a, g a = .ok []) →
            (fm.mapM g >>= fun per => pure (per.flatMap id)) = .ok [] from this _ (fun _ => rfl)
        intro g hg
        obtain ⟨rs, h1, h2⟩ := mapM_all_nil (l := fm) (fun a _ => hg a)
        rw [h1]
        exact congrArg Except.ok h2
      | false =>
        rw [matchJ_eqns.o_cons_const hk]
        cases lookupKey k fm with
        | some fv => rfl
        | none =>
          cases v <;> first | rfl | skip
          show (if _ then _ else _) = _
          split
          · exact matchO_of_nil fm r
          · rfl
theorem matchO_cons_some {k : String} (hk : isVar k = false) {fm : List (String × J)} {fv : J}
    (hl : lookupKey k fm = some fv) (v : J) (r : List (String × J)) (bss : List Bs) :
    matchO ((k, v) :: r) fm bss =
      (bss.mapM (fun b => matchJ v fv b)) >>= fun acc => matchO r fm (acc.flatMap id) := by
  rw [matchJ_eqns.o_cons_const hk, hl]
  refine bind_congr (fun acc => ?_)
  split
  · rename_i he
    rw [List.isEmpty_iff.1 he, matchO_of_nil]; rfl
  · rfl
/-- a missing key fails the match (optional variables are outside the fragment) -/
theorem matchO_cons_none {k : String} (hk : isVar k = false) {fm : List (String × J)}
    (hl : lookupKey k fm = none) {v : J} (hv : patOK v = true) (r : List (String × J)) (bss : List Bs) :
    matchO ((k, v) :: r) fm bss = .ok [] := by
  rw [matchJ_eqns.o_cons_const hk, hl]
  cases v <;> first | rfl | skip
  rw [patOK, Bool.not_eq_true'] at hv
  simp only [hv, Bool.false_eq_true, if_false]

theorem matchA_cons_scalar {x : J} (hv : isVarElem x = false) (hx : x.isScalar = true) (xs : List J) (ns : Bool)
    (branches : List (List Bs × List J × List J)) :
    matchA (x :: xs) ns branches =
      (match branches with
       | [] => .ok []
       | (_, sc, _) :: _ =>
         if sc.contains x then matchA xs ns (branches.map (fun br => (br.1, br.2.1.erase x, br.2.2)))
         else .ok []) := by
  rw [matchJ_eqns.a_cons, if_neg (by simp [hv]), if_pos hx]
theorem matchA_of_nil (ns : Bool) : ∀ (xs : List J), matchA xs ns [] = .ok []
  | [] => matchJ_eqns.a_nil ns []
  | x :: xs => by
      rw [matchJ_eqns.a_cons]
      by_cases hv : isVarElem x = true
      · rw [if_pos hv]; exact matchA_of_nil ns xs
      · rw [if_neg hv]
        by_cases hx : x.isScalar = true
        · rw [if_pos hx]
        · rw [if_neg hx]
          cases ns
          · rw [if_neg Bool.false_ne_true, List.mapM_nil]; rfl
          · rw [if_pos rfl]
theorem matchA_cons_struct {x : J} (hx : x.isScalar = false) (xs : List J)
    (branches : List (List Bs × List J × List J)) :
    matchA (x :: xs) false branches =
      ((branches.mapM (fun br =>
          (splitNth br.2.2).mapM (fun fr =>
            (br.1.mapM (fun b => matchJ x fr.1 b)) >>= fun acc =>
              pure (if (acc.flatMap id).isEmpty then [] else [(acc.flatMap id, br.2.1, fr.2)])))) >>= fun nb =>
        matchA xs false (nb.flatMap (fun per => per.flatMap id))) := by
  have hv := isVarElem_struct hx
  rw [matchJ_eqns.a_cons, if_neg (by simp [hv]), if_neg (by simp [hx]), if_neg (by simp)]
  refine bind_congr (fun nb => ?_)
  split
  · rename_i he
    rw [List.isEmpty_iff.1 he, matchA_of_nil]; rfl
  · rfl
theorem matchA_cons_struct_ns {x : J} (hx : x.isScalar = false) (xs : List J)
    (branches : List (List Bs × List J × List J)) :
    matchA (x :: xs) true branches = .ok [] := by
  have hv := isVarElem_struct hx
  rw [matchJ_eqns.a_cons, if_neg (by simp [hv]), if_neg (by simp [hx]), if_pos rfl]

theorem matchA_filter : ∀ (xs : List J) (ns : Bool) (branches : List (List Bs × List J × List J)),
    matchA xs ns branches = matchA (xs.filter (fun x => !isVarElem x)) ns branches
  | [], ns, br => by simp
  | x :: xs, ns, br => by
      by_cases hx : isVarElem x = true
      · rw [matchJ_eqns.a_cons, if_pos hx, List.filter_cons_of_neg (by simp [hx])]
        exact matchA_filter xs ns br
      · rw [List.filter_cons_of_pos (by simpa using hx), matchJ_eqns.a_cons, matchJ_eqns.a_cons]
        simp only [matchA_filter xs]

theorem getVariable_cons_var {s : String} (hs : isVar s = true) (r : List J) (w : Option String) :
    getVariable (.str s :: r) w =
      match w with
      | none => getVariable r (some s)
      | some w => if w == s then .error .repeatedVar else .error .multiVar := by
  simp only [getVariable, hs, if_true]
  rfl
theorem getVariable_cons_const {x : J} (hx : isVarElem x = false) (r : List J) (w : Option String) :
    getVariable (x :: r) w = (getVariable r w >>= fun va => pure (va.1, x :: va.2)) := by
  cases x with
  | str s => simp only [getVariable, show isVar s = false from hx, Bool.false_eq_true, if_false]
  | _ => rfl

/-- an error means a second variable: with one already carried in `w` one variable element suffices for it,
otherwise there are two (the bound `if w.isSome then 1 else 2`) -/
theorem getVariable_vars : ∀ (xs : List J) (w : Option String),
    match getVariable xs w with
    | .ok (v, _) => (w = none → xs.filter isVarElem = (v.map J.str).toList) ∧
        (∀ s, w = some s → xs.filter isVarElem = [] ∧ v = some s)
    | .error e => e ≠ .nonGround ∧ (if w.isSome then 1 else 2) ≤ (xs.filter isVarElem).length := by
  intro xs
  induction xs with
  | nil => exact fun w => ⟨by rintro rfl; rfl, fun s h => ⟨rfl, h⟩⟩
  | cons x r ihr =>
      intro w
      by_cases hx : isVarElem x = true
      · obtain ⟨s, rfl⟩ : ∃ s, x = .str s := by cases x <;> first | exact ⟨_, rfl⟩ | cases hx
        rw [getVariable_cons_var hx, List.filter_cons_of_pos hx]
        cases w with
        | none =>
          have ih := ihr (some s)
          -- goal and `ih` are `match`es on the same call: with both in the goal one `cases` reduces the two
          revert ih
          show (match getVariable r (some s) with | .ok (v, _) => _ | .error e => _) →
            (match getVariable r (some s) with | .ok (v, _) => _ | .error e => _)
          cases getVariable r (some s) with
          | ok va =>
            intro ih
            obtain ⟨h1, h2⟩ := ih.2 s rfl
            exact ⟨fun _ => by rw [h1, h2]; rfl, fun s h => nomatch h⟩
          | error e => exact fun ih => ⟨ih.1, Nat.succ_le_succ ih.2⟩
        | some w' =>
          dsimp only
          cases (w' == s) <;> exact ⟨by decide, Nat.succ_le_succ (Nat.zero_le _)⟩
      · have hx' : isVarElem x = false := by simpa using hx
        rw [getVariable_cons_const hx', List.filter_cons_of_neg hx]
        have ih := ihr w
        revert ih
        cases getVariable r w with
        | ok va => exact id
        | error e => exact id

theorem getVariable_ok {xs : List J} {v : Option String} {acc : List J} (h : getVariable xs none = .ok (v, acc)) :
    xs.filter isVarElem = (v.map J.str).toList := by
  have := getVariable_vars xs none
  rw [h] at this
  exact this.1 rfl
theorem getVariable_error {xs : List J} {e : MErr} (h : getVariable xs none = .error e) :
    e ≠ .nonGround ∧ 2 ≤ (xs.filter isVarElem).length := by
  have := getVariable_vars xs none
  rw [h] at this
  exact this
theorem getVariable_some_isVar {xs : List J} {s : String} {acc : List J}
    (h : getVariable xs none = .ok (some s, acc)) : .str s ∈ xs ∧ isVar s = true := by
  have hm : J.str s ∈ xs.filter isVarElem := by rw [getVariable_ok h]; exact List.mem_singleton.2 rfl
  exact List.mem_filter.1 hm

/-! ## the equations determine the matcher -/

/-- `P` is a property of patterns that passes to the elements of an array and to the keys and values of a map, and on
a string with `P` the string cases `mS1` and `mS2` agree: they agree on every string of a pattern with `P`.
(`noIneqVars · = true` is such a `P` for `matchStrI` and `matchStr`; `fun _ => True` for one string case.) -/
structure StrAgree (mS1 mS2 : String → J → Bs → Except MErr (List Bs)) (P : J → Prop) : Prop where
  str (s : String) : P (.str s) → ∀ f bs, mS1 s f bs = mS2 s f bs
  arr (x : J) (xs : List J) : P (.arr (x :: xs)) → P x ∧ P (.arr xs)
  obj (k : String) (v : J) (r : List (String × J)) : P (.obj ((k, v) :: r)) → P (.str k) ∧ P v ∧ P (.obj r)

theorem StrAgree.refl (mS : String → J → Bs → Except MErr (List Bs)) : StrAgree mS mS (fun _ => True) :=
  ⟨fun _ _ _ _ => rfl, fun _ _ _ => ⟨trivial, trivial⟩, fun _ _ _ _ => ⟨trivial, trivial, trivial⟩⟩

namespace MatchEqns
variable {mS1 mS2 : String → J → Bs → Except MErr (List Bs)} {mJ1 mJ2 : J → J → Bs → Except MErr (List Bs)}
  {mO1 mO2 : List (String × J) → List (String × J) → List Bs → Except MErr (List Bs)}
  {mA1 mA2 : List J → Bool → List (List Bs × List J × List J) → Except MErr (List (List Bs × List J × List J))}
  (E1 : MatchEqns mS1 mJ1 mO1 mA1) (E2 : MatchEqns mS2 mJ2 mO2 mA2) {P : J → Prop} (H : StrAgree mS1 mS2 P)
include E1 E2 H

theorem congrO_of : ∀ (kvs : List (String × J)), (∀ kv ∈ kvs, P kv.2 → ∀ f bs, mJ1 kv.2 f bs = mJ2 kv.2 f bs) →
    P (.obj kvs) → ∀ (fm : List (String × J)) (bss : List Bs), mO1 kvs fm bss = mO2 kvs fm bss := by
  intro kvs
  induction kvs with
  | nil => intro _ _ fm bss; rw [E1.o_nil, E2.o_nil]
  | cons kv r ihr =>
    obtain ⟨k, v⟩ := kv
    intro ih h fm bss
    obtain ⟨hk, hv, hr⟩ := H.obj k v r h
    have ihv := ih (k, v) List.mem_cons_self hv
    have ihr' := ihr (fun kv hkv => ih kv (List.mem_cons_of_mem _ hkv)) hr
    by_cases hkv : isVar k = true
    · rw [E1.o_cons_var hkv, E2.o_cons_var hkv]
      simp only [H.str k hk, ihv]
    · have hkv' : isVar k = false := by simpa using hkv
      rw [E1.o_cons_const hkv', E2.o_cons_const hkv']
      simp only [ihv, ihr']

theorem congrA_of : ∀ (xs : List J), (∀ x ∈ xs, P x → ∀ f bs, mJ1 x f bs = mJ2 x f bs) →
    P (.arr xs) → ∀ (ns : Bool) (br : List (List Bs × List J × List J)), mA1 xs ns br = mA2 xs ns br := by
  intro xs
  induction xs with
  | nil => intro _ _ ns br; rw [E1.a_nil, E2.a_nil]
  | cons x xs ihxs =>
    intro ih h ns br
    rw [E1.a_cons, E2.a_cons]
    simp only [ih x List.mem_cons_self (H.arr x xs h).1,
      ihxs (fun y hy => ih y (List.mem_cons_of_mem _ hy)) (H.arr x xs h).2]

theorem congrJ : ∀ (p : J), P p → ∀ (f : J) (bs : Bs), mJ1 p f bs = mJ2 p f bs := by
  intro p
  induction p using J.ind' with
  | hnull => intro _ f bs; rw [E1.null, E2.null]
  | hbool b => intro _ f bs; rw [E1.bool, E2.bool]
  | hnum n => intro _ f bs; rw [E1.num, E2.num]
  | hstr s => intro h f bs; rw [E1.str, E2.str, H.str s h]
  | hobj kvs ih =>
    intro h f bs
    rw [E1.obj, E2.obj]
    cases f <;> simp only [congrO_of E1 E2 H kvs ih h]
  | harr xs ih =>
    intro h f bs
    rw [E1.arr, E2.arr]
    cases hg : getVariable xs none with
    | error e => rfl
    | ok va =>
      obtain ⟨v, acc⟩ := va
      cases f with
      | arr fa =>
        simp only [congrA_of E1 E2 H xs ih h]
        cases v with
        | none => rfl
        | some v =>
          -- the array variable is one of the elements
          have hv : P (.str v) := by
            have hm := (getVariable_some_isVar hg).1
            clear hg ih
            induction xs with
            | nil => cases hm
            | cons y ys ihys =>
              rcases List.mem_cons.1 hm with e | hm
              · exact e ▸ (H.arr y ys h).1
              · exact ihys (H.arr y ys h).2 hm
          simp only [H.str v hv]
      | _ => rfl

theorem congrO (kvs : List (String × J)) : P (.obj kvs) →
    ∀ (fm : List (String × J)) (bss : List Bs), mO1 kvs fm bss = mO2 kvs fm bss :=
  congrO_of E1 E2 H kvs (fun kv _ => congrJ E1 E2 H kv.2)
theorem congrA (xs : List J) : P (.arr xs) →
    ∀ (ns : Bool) (br : List (List Bs × List J × List J)), mA1 xs ns br = mA2 xs ns br :=
  congrA_of E1 E2 H xs (fun x _ => congrJ E1 E2 H x)
end MatchEqns

/-! ## the map and array cases inside the fragment -/
theorem matchJ_obj_ok {kvs : List (String × J)} (hp : patOK (.obj kvs) = true) (fm : List (String × J)) (bs : Bs) :
    matchJ (.obj kvs) (.obj fm) bs = matchO kvs fm [bs] := by
  rw [matchJ_eqns.obj]
  cases kvs with
  | nil => exact (matchJ_eqns.o_nil fm [bs]).symm
  | cons kv r =>
    have : ((kv :: r).any fun kv => isVar kv.1) = false :=
      List.any_eq_false.2 (fun kv hkv => by simp [((patOK_obj_iff _).1 hp).1 kv hkv])
    simp only [List.isEmpty_cons, this, Bool.and_false, Bool.false_eq_true, if_false]

theorem matchJ_struct_mem {p d : J} {bs : Bs} {bss : List Bs} {σ : Bs}
    (h : matchJ p d bs = .ok bss) (hσ : σ ∈ bss) :
    (∀ kvs, p = .obj kvs → ∃ fm, d = .obj fm) ∧ (∀ xs, p = .arr xs → ∃ fa, d = .arr fa) := by
  refine ⟨?_, ?_⟩
  · rintro kvs rfl
    rw [matchJ_eqns.obj] at h
    cases d <;> first | exact ⟨_, rfl⟩ | (cases h; cases hσ)
  · rintro xs rfl
    rw [matchJ_eqns.arr] at h
    cases hg : getVariable xs none with
    | error e => rw [hg] at h; cases h
    | ok vw =>
      rw [hg] at h
      cases d <;> first | exact ⟨_, rfl⟩ | (cases h; cases hσ)

/-- the array case inside the fragment: the constants are matched first (`matchA`), then the one variable,
if there is one, is laid over each leftover fact of each branch -/
theorem matchJ_arr_ok {xs fa : List J} {bs : Bs} {bss : List Bs} (hp : patOK (.arr xs) = true)
    (h : matchJ (.arr xs) (.arr fa) bs = .ok bss) :
    ∃ branches,
      matchA (xs.filter (fun x => !isVarElem x)) (fa.filter (fun y => !y.isScalar)).isEmpty
        [([bs], (fa.filter J.isScalar).eraseDups, fa.filter (fun y => !y.isScalar))] = .ok branches ∧
      ((xs.filter isVarElem = [] ∧ ∀ σ, σ ∈ bss ↔ ∃ br ∈ branches, σ ∈ br.1) ∨
       ∃ s, xs.filter isVarElem = [.str s] ∧ isVar s = true ∧
         (∀ σ ∈ bss, ∃ br ∈ branches, ∃ fr ∈ splitNth (br.2.2 ++ br.2.1), ∃ σ' ∈ br.1, ∃ q,
           matchStr s fr.1 σ' = .ok q ∧ σ ∈ q) ∧
         ∀ br ∈ branches, ∀ fr ∈ splitNth (br.2.2 ++ br.2.1), ∀ σ' ∈ br.1, ∃ q,
           matchStr s fr.1 σ' = .ok q ∧ ∀ σ ∈ q, σ ∈ bss) := by
  rw [matchJ_eqns.arr] at h
  cases hgv : getVariable xs none with
  | error e => rw [hgv] at h; cases h
  | ok vw =>
    obtain ⟨v, w⟩ := vw
    rw [hgv] at h
    obtain ⟨branches, hbr, h⟩ := Except.bind_eq_ok.1 h
    rw [matchA_filter] at hbr
    refine ⟨branches, hbr, ?_⟩
    have hgs := getVariable_ok hgv
    cases v with
    | none =>
      cases h
      exact Or.inl ⟨hgs, fun σ => List.mem_flatMap⟩
    | some s =>
      obtain ⟨ext, hext, h⟩ := Except.bind_eq_ok.1 h
      have hsx := getVariable_some_isVar hgv
      have hopt : isOptVar s = false := by
        simpa [patOK] using ((patOK_arr_iff xs).1 hp).2.2 _ hsx.1
      simp only [hopt, Bool.and_false, Bool.false_eq_true, if_false] at h
      cases h
      refine Or.inr ⟨s, hgs, hsx.2, fun σ hσ => ?_, fun br hbr' fr hfr σ' hσ' => ?_⟩
      · obtain ⟨per, hper, hσ⟩ := List.mem_flatMap.1 hσ
        obtain ⟨br, hbr', hf⟩ := mapM_ok_mem_right hext hper
        obtain ⟨r, hr, hσ⟩ := List.mem_flatMap.1 hσ
        obtain ⟨fr, hfr, hg⟩ := mapM_ok_mem_right hf hr
        exact ⟨br, hbr', fr, hfr, (mem_flat_mapM hg).1 hσ⟩
      · obtain ⟨per, hper, hf⟩ := mapM_ok_mem_left hext hbr'
        obtain ⟨r, hr, hg⟩ := mapM_ok_mem_left hf hfr
        obtain ⟨q, _, hq⟩ := mapM_ok_mem_left hg hσ'
        exact ⟨q, hq, fun σ hσ => List.mem_flatMap.2 ⟨per, hper, List.mem_flatMap.2 ⟨r, hr,
          (mem_flat_mapM hg).2 ⟨σ', hσ', q, hq, hσ⟩⟩⟩⟩

theorem consts_vars_perm (xs : List J) : (xs.filter (fun x => !isVarElem x) ++ xs.filter isVarElem).Perm xs :=
  List.perm_append_comm.trans (List.filter_append_perm isVarElem xs)

/-! `count` is the specification's own (`RulioModel/MatchSpec.lean`): how often a variable occurs in the variables of a
pattern.  It is `List.count`; `vcount_*` are the facts about it that `SC` and `Crit` need. -/
theorem vcount_eq (v : String) (l : List String) : count v l = l.count v := List.count_eq_length_filter.symm
theorem vcount_append (v : String) (l1 l2 : List String) : count v (l1 ++ l2) = count v l1 + count v l2 := by
  rw [vcount_eq, vcount_eq, vcount_eq, List.count_append]
theorem vcount_pos_of_mem {v : String} {l : List String} (h : v ∈ l) : 1 ≤ count v l :=
  vcount_eq v l ▸ List.count_pos_iff.2 h
theorem vcount_perm {v : String} {l1 l2 : List String} (h : l1.Perm l2) : count v l1 = count v l2 := by
  rw [vcount_eq, vcount_eq, h.count_eq]
theorem mem_of_vcount_pos {v : String} {l : List String} (h : 1 ≤ _root_.count v l) : v ∈ l :=
  List.count_pos_iff.1 (vcount_eq v l ▸ h)

/-! ## scalar condition and domain bound -/
/-- every variable of the list `vs` (the variables of a pattern, with repetitions) that occurs twice or is
bound in `b` is bound to a scalar in `τ` (if bound at all) -/
def SC (τ : Bs) (vs : List String) (b : Bs) : Prop :=
  ∀ y ∈ vs, (2 ≤ count y vs ∨ b.get? y ≠ none) → scalarAt τ y = true

/-- `σ` binds nothing besides what `b` binds and the variables `vs` (`minimalFor`, as a proposition) -/
def DomLe (σ b : Bs) (vs : List String) : Prop := ∀ k, σ.get? k ≠ none → b.get? k ≠ none ∨ k ∈ vs

theorem DomLe.refl (b : Bs) (vs : List String) : DomLe b b vs := fun _ h => Or.inl h
theorem DomLe.trans {σ1 σ2 b : Bs} {v1 v2 : List String} (h1 : DomLe σ1 b v1) (h2 : DomLe σ2 σ1 v2) :
    DomLe σ2 b (v1 ++ v2) := by
  intro k hk
  rcases h2 k hk with h | h
  · rcases h1 k h with h | h
    · exact Or.inl h
    · exact Or.inr (List.mem_append_left _ h)
  · exact Or.inr (List.mem_append_right _ h)
theorem DomLe.mono {σ b : Bs} {v1 v2 : List String} (h : DomLe σ b v1) (hs : ∀ k ∈ v1, k ∈ v2) : DomLe σ b v2 :=
  fun k hk => (h k hk).imp id (hs k)

theorem ext_bound {σ σ' : Bs} (he : σ.Ext σ') {y : String} (h : σ.get? y ≠ none) : σ'.get? y ≠ none := by
  cases hg : σ.get? y with
  | none => exact absurd hg h
  | some w => rw [he y w hg]; simp

/-- `σ` extends `b` by exactly the variables `vs` -/
structure Binds (σ b : Bs) (vs : List String) : Prop where
  ext : b.Ext σ
  dom : DomLe σ b vs
  bound : ∀ y ∈ vs, σ.get? y ≠ none

theorem Binds.refl (b : Bs) : Binds b b [] := ⟨Bs.Ext.refl b, DomLe.refl b [], fun _ h => nomatch h⟩
theorem Binds.trans {σ1 σ2 b : Bs} {v1 v2 : List String} (h1 : Binds σ1 b v1) (h2 : Binds σ2 σ1 v2) :
    Binds σ2 b (v1 ++ v2) :=
  ⟨h1.ext.trans h2.ext, h1.dom.trans h2.dom, fun y hy =>
    (List.mem_append.1 hy).elim (fun h => ext_bound h2.ext (h1.bound y h)) (h2.bound y)⟩
theorem Binds.perm {σ b : Bs} {v1 v2 : List String} (hp : v1.Perm v2) (h : Binds σ b v1) : Binds σ b v2 :=
  ⟨h.ext, h.dom.mono (fun _ => hp.mem_iff.1), fun y hy => h.bound y (hp.mem_iff.2 hy)⟩

/-- the *critical* variables of `vs` (those that occur twice or are bound in `b`: exactly the ones the matcher
compares with a data value through `match(binding, fact)`) are bound in `τ`, if at all, to values satisfying `P` -/
def Crit (P : J → Prop) (τ : Bs) (vs : List String) (b : Bs) : Prop :=
  ∀ y ∈ vs, (2 ≤ count y vs ∨ b.get? y ≠ none) → ∀ w, τ.get? y = some w → P w

theorem SC_iff_crit {τ b : Bs} {vs : List String} : SC τ vs b ↔ Crit (fun w => w.isScalar = true) τ vs b := by
  refine forall_congr' fun y => forall_congr' fun _ => forall_congr' fun _ => ?_
  unfold scalarAt
  cases τ.get? y <;> simp

theorem Crit.imp {P Q : J → Prop} {τ b : Bs} {vs : List String} (h : Crit P τ vs b) (hpq : ∀ w, P w → Q w) :
    Crit Q τ vs b := fun y hy hc w hw => hpq w (h y hy hc w hw)
theorem Crit.left {P : J → Prop} {τ b : Bs} {v1 v2 : List String} (h : Crit P τ (v1 ++ v2) b) : Crit P τ v1 b := by
  intro y hy hc
  apply h y (List.mem_append_left _ hy)
  rw [vcount_append]
  exact hc.imp (fun hc => by omega) id
/-- threading: after the first part bound some of its variables, the condition for the second part follows -/
theorem Crit.right_of_dom {P : J → Prop} {τ b σ1 : Bs} {v1 v2 : List String} (h : Crit P τ (v1 ++ v2) b)
    (hd : DomLe σ1 b v1) : Crit P τ v2 σ1 := by
  intro y hy hc
  apply h y (List.mem_append_right _ hy)
  rw [vcount_append]
  rcases hc with hc | hc
  · left; omega
  · rcases hd y hc with hb | hv
    · right; exact hb
    · left
      have := vcount_pos_of_mem hv
      have := vcount_pos_of_mem hy
      omega
theorem Crit.perm {P : J → Prop} {τ b : Bs} {v1 v2 : List String} (hp : v1.Perm v2) (h : Crit P τ v1 b) :
    Crit P τ v2 b := by
  intro y hy hc
  apply h y (hp.mem_iff.2 hy)
  rw [vcount_perm hp]; exact hc

theorem SC.left {τ b : Bs} {v1 v2 : List String} (h : SC τ (v1 ++ v2) b) : SC τ v1 b :=
  SC_iff_crit.2 (SC_iff_crit.1 h).left
theorem SC.right_of_dom {τ b σ1 : Bs} {v1 v2 : List String} (h : SC τ (v1 ++ v2) b) (hd : DomLe σ1 b v1) :
    SC τ v2 σ1 :=
  SC_iff_crit.2 ((SC_iff_crit.1 h).right_of_dom hd)
theorem SC.right {τ b : Bs} {v1 v2 : List String} (h : SC τ (v1 ++ v2) b) : SC τ v2 b :=
  h.right_of_dom (DomLe.refl b v1)
theorem SC.perm {τ b : Bs} {v1 v2 : List String} (hp : v1.Perm v2) (h : SC τ v1 b) : SC τ v2 b :=
  SC_iff_crit.2 ((SC_iff_crit.1 h).perm hp)
theorem SC.ext {τ b b' : Bs} {vs : List String} (h : SC τ vs b') (hb : ∀ y, b.get? y ≠ none → b'.get? y ≠ none) :
    SC τ vs b :=
  fun y hy hc => h y hy (hc.imp id (hb y))

theorem varsOf_str (s : String) : varsOf (.str s) = if isVar s && s != "?" then [s] else [] := by
  rw [varsOf.eq_def]
theorem varsOf_anon : varsOf (.str "?") = [] := by simp [varsOf_str]
theorem varsOf_var {s : String} (hv : isVar s = true) (hq : s ≠ "?") : varsOf (.str s) = [s] := by
  simp [varsOf_str, hv, hq]
theorem varsOf_arr (xs : List J) : varsOf (.arr xs) = varsOfL xs := by rw [varsOf.eq_def]
theorem varsOf_obj (kvs : List (String × J)) : varsOf (.obj kvs) = varsOfO kvs := by rw [varsOf.eq_def]
theorem varsOf_scalar_const {x : J} (hx : x.isScalar = true) (hv : isVarElem x = false) : varsOf x = [] := by
  cases x <;> simp_all [varsOf, isVarElem, J.isScalar]
theorem varsOfO_cons_const {k : String} (hk : isVar k = false) (v : J) (r : List (String × J)) :
    varsOfO ((k, v) :: r) = varsOf v ++ varsOfO r := by
  simp [varsOfO, hk]
