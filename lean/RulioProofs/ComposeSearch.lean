import RulioProofs.PatIndexSearch

/-! # Composition, index side: the rule search only returns ids that sit in the trie, each once -/

namespace PI

def Somewhere (idx : PI) (x : String) : Prop := ∃ π, x ∈ idsAt idx π

theorem somewhere_child {idx c : PI} {e : Edge} (h : idx.child e = some c) {x : String} (hx : Somewhere c x) :
    Somewhere idx x := by
  obtain ⟨π, hπ⟩ := hx
  exact ⟨e :: π, by rw [idsAt_of_child h]; exact hπ⟩

theorem somewhere_ids {idx : PI} {x : String} (h : x ∈ idx.ids) : Somewhere idx x := ⟨[], h⟩

/-! ## what the ids returned by a search are made of

Every statement here about the ids `search` returns has one shape: they are built by `union` from `[]` and the id
lists of nodes reached from the start through `child`.  `Q` is what is known of a node and passes to its children,
`A` what is claimed of an id list. -/

theorem foldl_union_ind {A : List String → Prop} (hunion : ∀ {a b : List String}, A a → A b → A (union a b)) :
    ∀ (ms : List (List String)) (init : List String), A init → (∀ m ∈ ms, A m) → A (ms.foldl union init) :=
  fun ms _ h hm => List.foldlRecOn ms _ h fun _ hb m hmem => hunion hb (hm m hmem)

section
variable {Q : PI → Prop} {A : List String → Prop}
  (hchild : ∀ {idx c : PI} {e : Edge}, idx.child e = some c → Q idx → Q c)
  (hids : ∀ {n : PI}, Q n → A n.ids) (hnil : A []) (hunion : ∀ {a b : List String}, A a → A b → A (union a b))
include hchild hids hnil hunion

theorem search_ind : ∀ (fuel : Nat) (idx : PI) (pairs : List (String × J)) (ids : List String),
    Q idx → search fuel idx pairs = .ok ids → A ids := by
  intro fuel
  induction fuel with
  | zero => intro idx pairs ids _ h; rw [search_zero] at h; cases h; exact hnil
  | succ fuel ih =>
    intro idx pairs ids hq h
    match pairs with
    | [] => rw [search_nil] at h; cases h; exact hnil
    | (k, v) :: rest =>
      rw [search_succ] at h
      split at h
      · cases h
      · cases hki : keyChild idx k with
        | none => rw [hki] at h; exact ih idx rest ids hq h
        | some ki =>
          rw [hki] at h
          obtain ⟨rest1, -, h⟩ := Except.bind_eq_ok.1 h
          obtain ⟨more, hm, h⟩ := Except.bind_eq_ok.1 h
          obtain ⟨mores, hms, h⟩ := Except.bind_eq_ok.1 h
          cases Except.ok.inj h
          obtain ⟨_, he⟩ := keyChild_child hki
          have hkq : Q ki := hchild he hq
          have hl : ∀ n, Leads ki v n → Q n := fun n hn => by obtain ⟨_, hc⟩ := hn.child; exact hchild hc hkq
          have ho : ∀ o : Option PI, (∀ n, o = some n → Q n) → A (optIds o) := by
            rintro (_ | n) ho
            · exact hnil
            · exact hids (ho n rfl)
          have hmore : A more := by
            unfold inner at hm
            split at hm
            · next hmi => exact ih _ _ _ (hchild hmi hkq) hm
            · cases hm; exact hnil
          refine foldl_union_ind hunion _ _
            (hunion (hunion (ho _ fun n hn => hl n (.inl hn)) hmore) (ho _ fun n hn => hl n (.inr hn))) fun r hr => ?_
          obtain ⟨n, hn, hfn⟩ := mapM_ok_mem_right hms hr
          exact ih n rest1 r ((mem_conts.1 hn).elim (fun e => e ▸ hq) (hl n)) hfn

end

theorem search_somewhere (fuel : Nat) (idx : PI) (pairs : List (String × J)) (ids : List String)
    (h : search fuel idx pairs = .ok ids) : ∀ x ∈ ids, Somewhere idx x :=
  search_ind (Q := fun n => ∀ y, Somewhere n y → Somewhere idx y) (A := fun l => ∀ y ∈ l, Somewhere idx y)
    (fun hc hq y hy => hq y (somewhere_child hc hy)) (fun hq y hy => hq y (somewhere_ids hy))
    (fun _ hy => nomatch hy) (fun ha hb y hy => (mem_union_iff.1 hy).elim (ha y) (hb y))
    fuel idx pairs ids (fun _ hy => hy) h

theorem piSearch_somewhere {ri : PI} {ev : Obj} {ids : List String} (h : piSearch ri ev = .ok ids) :
    ∀ x ∈ ids, Somewhere ri x := by
  obtain ⟨ids0, hs, rfl⟩ := piSearch_eq_ok.1 h
  intro x hx
  exact (mem_union_iff.1 hx).elim (search_somewhere _ ri _ ids0 hs x) somewhere_ids

theorem nodup_union {a b : List String} (ha : a.Nodup) (hb : b.Nodup) : (union a b).Nodup := by
  unfold union
  rw [List.nodup_append]
  refine ⟨ha, hb.filter _, ?_⟩
  intro x hx y hy hxy
  subst hxy
  have := (List.mem_filter.1 hy).2
  simp only [Bool.not_eq_true', List.contains_eq_mem, decide_eq_false_iff_not] at this
  exact this hx

theorem NodupIds.child {idx c : PI} {e : Edge} (h : idx.child e = some c) (hn : NodupIds idx) : NodupIds c :=
  fun π => idsAt_of_child h π ▸ hn (e :: π)

theorem search_nodup (fuel : Nat) (idx : PI) (pairs : List (String × J)) (ids : List String)
    (hn : NodupIds idx) (h : search fuel idx pairs = .ok ids) : ids.Nodup :=
  search_ind NodupIds.child (fun hn => hn []) List.nodup_nil nodup_union fuel idx pairs ids hn h

theorem piSearch_nodup {ri : PI} {ev : Obj} {ids : List String} (hn : NodupIds ri) (h : piSearch ri ev = .ok ids) :
    ids.Nodup := by
  obtain ⟨ids0, hs, rfl⟩ := piSearch_eq_ok.1 h
  exact nodup_union (search_nodup _ ri _ ids0 hn hs) (hn [])

end PI
