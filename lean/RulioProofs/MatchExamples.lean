import RulioProofs.MatchRun

/-! # Concrete instances for C05: what the matcher returns for one variable over two keys (the shape of the
negative theorems), and a non-trivial instance inside the fragment, evaluated in the kernel (the matcher and `pmv`,
defined by well-founded recursion, through `RulioProofs/MatchRun.lean`), used by the `example`s of `Props/C05.lean` -/

theorem J.beq_def (a b : J) : (a == b) = J.beq a b := rfl

/-- A map pattern that lays the same variable over two keys, from empty bindings: the first occurrence binds the
variable to the value `v1` at its key; the second is `match(v1, v2)`, the first value used as a *pattern* over the
second, and gives one result per way `v1` partially matches `v2`.  It is not an equality test. -/
theorem matchJ_same_var_twice {k1 k2 s : String} (hk1 : isVar k1 = false) (hk2 : isVar k2 = false)
    (hs : isVar s = true) (hq : s ≠ "?") {fm : List (String × J)} {v1 v2 : J}
    (h1 : lookupKey k1 fm = some v1) (h2 : lookupKey k2 fm = some v2) (hg : v1.ground = true) :
    matchJ (.obj [(k1, .str s), (k2, .str s)]) (.obj fm) [] = .ok (List.replicate (gmatch v1 v2) [(s, v1)]) := by
  have hget : Bs.get? [(s, v1)] s = some v1 := by simp [Bs.get?]
  rw [matchJ_eqns.obj]
  simp only [List.isEmpty_cons, List.any_cons, List.any_nil, hk1, hk2, Bool.or_false, Bool.and_false,
    Bool.false_eq_true, if_false]
  rw [matchO_cons_some hk1 h1, List.mapM_cons, List.mapM_nil, matchJ_eqns.str, matchStr_var hs,
    if_neg (by simpa using hq)]
  show matchO _ fm [[(s, v1)]] = _
  rw [matchO_cons_some hk2 h2, List.mapM_cons, List.mapM_nil, matchJ_eqns.str, matchStr_var hs,
    if_neg (by simpa using hq), hget]
  simp only [hg, if_true]
  show matchO [] fm (List.replicate (gmatch v1 v2) [(s, v1)] ++ []) = _
  rw [matchJ_eqns.o_nil, List.append_nil]

/-- pattern `{"a":"?x","b":["?y",1,{"c":"?x"}]}`: nested map, array with a variable, a scalar constant and
a structured element, and a variable (`?x`) that occurs twice -/
def exP : J := .obj [("a", .str "?x"), ("b", .arr [.str "?y", .num 1, .obj [("c", .str "?x")]])]
/-- the same pattern with the pairs of the outer map and the elements of the array permuted -/
def exP' : J := .obj [("b", .arr [.obj [("c", .str "?x")], .str "?y", .num 1]), ("a", .str "?x")]
/-- datum `{"a":2,"b":[1,{"c":2},"z"],"e":true}` -/
def exD : J := .obj [("a", .num 2), ("b", .arr [.num 1, .obj [("c", .num 2)], .str "z"]), ("e", .bool true)]
/-- the expected binding `{"?y":"z","?x":2}` -/
def exS : Bs := [("?y", .str "z"), ("?x", .num 2)]

theorem exP_ok : patOK exP = true := by decide +kernel
theorem exD_ok : dataOK exD = true := by decide +kernel
theorem ex_match : matchJ exP exD [] = .ok [exS] := matchJ_of_eval (by decide +kernel)
theorem ex_scalar : scalarRepeatsIn exS exP [] = true := by decide +kernel
theorem ex_pmv : pmv exS exP exD = true := (pmv_eq_eval _ _ _).trans (by decide +kernel)
theorem ex_minimal : minimalFor exS exP [] = true := by decide +kernel

theorem ex_perm : PatPerm exP exP' := by
  have h1 : PatPerm exP (.obj [("b", .arr [.str "?y", .num 1, .obj [("c", .str "?x")]]), ("a", .str "?x")]) :=
    .obj (List.Perm.swap _ _ _)
  have h2 : PatPerm (.arr [.str "?y", .num 1, .obj [("c", .str "?x")]])
      (.arr [.obj [("c", .str "?x")], .str "?y", .num 1]) := by
    apply PatPerm.arr
    exact (List.perm_append_comm (l₁ := [J.str "?y", J.num 1]) (l₂ := [J.obj [("c", J.str "?x")]]))
  exact .trans h1 (.objIn "b" [] [("a", .str "?x")] h2)

theorem exD_keys : dataKeysOK exD = true := by decide +kernel
