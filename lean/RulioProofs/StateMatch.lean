import RulioModel.StateInv
import RulioProofs.MatchSound

/-! # The matcher on the cascade pattern `{"deleteWith":[id]}`; `ExtractTerms` against the matcher and against `pmv` -/

theorem J.beqL_eq_st : ∀ (a b : List J), J.beqL a b = true → a = b := fun a b => (J.beqL_eq a b).1
theorem J.beqO_eq_st : ∀ (a b : List (String × J)), J.beqO a b = true → a = b := fun a b => (J.beqO_eq a b).1
theorem J.beqL_refl_st : ∀ (a : List J), J.beqL a a = true := fun a => (J.beqL_eq a a).2 rfl
theorem J.beqO_refl_st : ∀ (a : List (String × J)), J.beqO a a = true := fun a => (J.beqO_eq a a).2 rfl

theorem isVar_deleteWith : isVar "deleteWith" = false := by decide +kernel
theorem deleteWith_not_skipped : ("deleteWith" == "rule" || "deleteWith".endsWith "!") = false := by decide +kernel
theorem deleteWith_short : "deleteWith".utf8ByteSize < stringLengthTermLimit := by decide +kernel

theorem depOn_eq (fact : Obj) (id : String) :
    depOn fact id = match lookupKey "deleteWith" fact with
      | some (.arr xs) => xs.contains (.str id)
      | _ => false := by
  simp only [depOn, deleteWithOf, Obj.get?]
  cases h : lookupKey "deleteWith" fact with
  | none => simp
  | some v =>
    cases v with
    | arr xs =>
      simp only
      rw [Bool.eq_iff_iff]
      simp only [List.contains_iff_mem, List.mem_filterMap]
      constructor
      · rintro ⟨x, hx, hs⟩
        cases x <;> simp at hs
        subst hs; exact hx
      · intro h; exact ⟨.str id, h, rfl⟩
    | _ => simp

theorem matchJ_arr_const (id : String) (hid : isVar id = false) (fv : J) :
    matchJ (.arr [.str id]) fv [] = .ok (match fv with
      | .arr xs => if xs.contains (.str id) then [[]] else []
      | _ => []) := by
  unfold matchJ
  simp only [getVariable, hid, Bool.false_eq_true, ↓reduceIte, bind, Except.bind, pure, Except.pure]
  cases fv with
  | arr fa =>
    simp only
    unfold matchA
    simp only [hid, Bool.false_eq_true, ↓reduceIte, J.isScalar]
    have hc : ((fa.filter J.isScalar).eraseDups.contains (J.str id)) = fa.contains (J.str id) := by
      rw [Bool.eq_iff_iff]
      simp only [List.contains_iff_mem, List.mem_eraseDups, List.mem_filter, J.isScalar, and_true]
    rw [hc]
    by_cases hcon : fa.contains (J.str id) = true
    · simp only [hcon, ↓reduceIte, List.map_cons, List.map_nil]
      unfold matchA
      simp
    · simp only [hcon, Bool.false_eq_true, ↓reduceIte]
      simp
  | _ => simp

theorem matchesJ_depPat (id : String) (hid : isVar id = false) (fact : Obj) :
    matchesJ (.obj (depPat id)) (.obj fact) = .ok (if depOn fact id then [[]] else []) := by
  rw [depOn_eq]
  simp only [matchesJ, depPat]
  unfold matchJ
  simp only [List.isEmpty_cons, Bool.false_eq_true, ↓reduceIte, List.length_cons, List.length_nil,
    Nat.zero_add, Nat.lt_irrefl, decide_false, Bool.false_and]
  unfold matchO
  simp only [isVar_deleteWith, Bool.false_eq_true, ↓reduceIte]
  cases hl : lookupKey "deleteWith" fact with
  | none => simp
  | some fv =>
    simp only [List.mapM_cons, List.mapM_nil, matchJ_arr_const id hid, bind, Except.bind, pure, Except.pure]
    cases fv with
    | arr xs =>
      simp only
      by_cases hcon : xs.contains (J.str id) = true
      · simp only [hcon, ↓reduceIte]
        unfold matchO
        simp [List.flatMap]
      · simp only [hcon, Bool.false_eq_true, ↓reduceIte]
        simp [List.flatMap]
    | _ => simp [List.flatMap]

theorem mem_extractTerms {o : Obj} {t : String} : t ∈ extractTerms o ↔ t ∈ termsO o := by
  simp [extractTerms, List.mem_eraseDups]

theorem termsO_of_lookup {o : Obj} {k : String} {v : J} (h : lookupKey k o = some v) :
    (isVar k = false → k.utf8ByteSize < stringLengthTermLimit → k ∈ termsO o) ∧
    ((k == "rule" || k.endsWith "!") = false → ∀ t, t ∈ termsJ v → t ∈ termsO o) := by
  induction o with
  | nil => simp [lookupKey] at h
  | cons e r ih =>
    obtain ⟨k0, v0⟩ := e
    simp only [lookupKey] at h
    split at h
    · rename_i hk
      simp at hk; subst hk
      injection h with h; subst h
      constructor
      · intro hv hs
        simp only [termsO, List.mem_append]
        left; left
        simp [hv, hs]
      · intro hskip t ht
        simp only [termsO, List.mem_append]
        left; right
        rw [if_neg (by simp only [hskip]; simp)]
        exact ht
    · obtain ⟨h1, h2⟩ := ih h
      constructor
      · intro hv hs
        simp only [termsO, List.mem_append]
        exact Or.inr (h1 hv hs)
      · intro hskip t ht
        simp only [termsO, List.mem_append]
        exact Or.inr (h2 hskip t ht)

theorem termsO_depPat (id : String) :
    termsO (depPat id) = "deleteWith" :: (if !isVar id && id.utf8ByteSize < stringLengthTermLimit then [id] else []) := by
  simp only [depPat, termsO, termsJ, termsL, isVar_deleteWith, deleteWith_short, deleteWith_not_skipped]
  simp

theorem extractTerms_depPat_ne_nil (id : String) : extractTerms (depPat id) ≠ [] := by
  intro h
  have : "deleteWith" ∈ extractTerms (depPat id) := by
    rw [mem_extractTerms, termsO_depPat]; simp
  rw [h] at this; simp at this

/-! ## a fact over which a pattern lies (`pmv`) carries all the pattern's terms -/

theorem mem_termsL {xs : List J} {t : String} : t ∈ termsL xs ↔ ∃ x, x ∈ xs ∧ t ∈ termsJ x := by
  induction xs with
  | nil => simp [termsL]
  | cons y ys ih =>
    simp only [termsL, List.mem_append, ih, List.mem_cons]
    constructor
    · rintro (h | ⟨x, hx, ht⟩)
      · exact ⟨y, Or.inl rfl, h⟩
      · exact ⟨x, Or.inr hx, ht⟩
    · rintro ⟨x, hx | hx, ht⟩
      · subst hx; exact Or.inl ht
      · exact Or.inr ⟨x, hx, ht⟩

theorem noVarKeysL_iff {xs : List J} : noVarKeysL xs = true ↔ ∀ x ∈ xs, noVarKeys x = true :=
  listAll_iff (by rw [noVarKeysL]) (fun _ _ => by rw [noVarKeysL])
theorem noVarKeysO_iff {kvs : List (String × J)} : noVarKeysO kvs = true ↔
    ∀ kv ∈ kvs, isVar kv.1 = false ∧ noVarKeys kv.2 = true :=
  keyedAll_iff (by rw [noVarKeysO]) (fun _ _ _ => by rw [noVarKeysO])

/-- where a term of a map pattern comes from: a short constant key, or a value not under a skipped key -/
theorem mem_termsO_elim {t : String} : ∀ {kvs : List (String × J)}, t ∈ termsO kvs →
    ∃ kv ∈ kvs, (t = kv.1 ∧ isVar kv.1 = false ∧ kv.1.utf8ByteSize < stringLengthTermLimit) ∨
      ((kv.1 == "rule" || kv.1.endsWith "!") = false ∧ t ∈ termsJ kv.2)
  | (k, v) :: r, ht => by
    simp only [termsO, List.mem_append] at ht
    rcases ht with (ht | ht) | ht
    · split at ht
      · rename_i hc
        simp only [Bool.and_eq_true, Bool.not_eq_true', decide_eq_true_eq] at hc
        exact ⟨(k, v), List.mem_cons_self, .inl ⟨List.mem_singleton.1 ht, hc.1, hc.2⟩⟩
      · cases ht
    · split at ht
      · cases ht
      · rename_i hskip
        exact ⟨(k, v), List.mem_cons_self, .inr ⟨by simpa using hskip, ht⟩⟩
    · obtain ⟨kv, hkv, h⟩ := mem_termsO_elim ht
      exact ⟨kv, List.mem_cons_of_mem _ hkv, h⟩

theorem pmv_termsJ (σ : Bs) : ∀ (p d : J), noVarKeys p = true → pmv σ p d = true → ∀ t, t ∈ termsJ p → t ∈ termsJ d :=
  fun p d hk => pmv_induct (K := fun p => noVarKeys p = true) (C := fun p d => ∀ t, t ∈ termsJ p → t ∈ termsJ d)
    (fun h => noVarKeysO_iff.1 (by rw [noVarKeys] at h; exact h))
    (fun h => noVarKeysL_iff.1 (by rw [noVarKeys] at h; exact h))
    (fun _ _ _ _ h => h)
    (fun s d hs _ t ht => by simp [termsJ, hs] at ht)
    (fun xs ds ds' hf hs t ht => by
      simp only [termsJ] at ht ⊢
      obtain ⟨x, hx, htx⟩ := mem_termsL.1 ht
      obtain ⟨dx, hdx, _, hc⟩ := forall₂_exists_right hf x hx
      exact mem_termsL.2 ⟨_, hs.subset hdx, hc t htx⟩)
    (fun kvs dm _ h t ht => by
      simp only [termsJ] at ht ⊢
      obtain ⟨kv, hkv, hor⟩ := mem_termsO_elim ht
      obtain ⟨dv, hl, _, hc⟩ := h kv hkv
      obtain ⟨h1, h2⟩ := termsO_of_lookup hl
      rcases hor with ⟨rfl, hv, hsz⟩ | ⟨hskip, htv⟩
      · exact h1 hv hsz
      · exact h2 hskip t (hc t htv))
    p hk d

/-- the map level, in the form the term index uses it (with constant keys `pmO` does not look at `rest`) -/
theorem pmv_termsO (σ : Bs) (kvs dm rest : List (String × J)) (hk : noVarKeysO kvs = true)
    (hp : pmO σ kvs dm rest = true) : ∀ t, t ∈ termsO kvs → t ∈ termsO dm := by
  have hc : ∀ kv ∈ kvs, isVar kv.1 = false := fun kv h => (noVarKeysO_iff.1 hk kv h).1
  have hp' : pmv σ (.obj kvs) (.obj dm) = true :=
    (pmv_obj σ kvs (.obj dm)).trans ((pmO_const_iff σ dm kvs dm hc).2 ((pmO_const_iff σ dm kvs rest hc).1 hp))
  have := pmv_termsJ σ (.obj kvs) (.obj dm) (by rw [noVarKeys]; exact hk) hp'
  simp only [termsJ] at this
  exact this

/-! ## the matcher-soundness hypothesis is satisfiable: the cascade pattern -/

theorem matchesJ_ok_iff {p d : J} {bss : List Bs} : matchesJ p d = .ok bss ↔ matchJ p d [] = .ok bss := by
  unfold matchesJ
  cases matchJ p d [] with
  | ok r => simp
  | error e => simp

/-- with no incoming bindings and no variable twice in the pattern there is no critical variable -/
theorem SC.of_count {τ : Bs} {vs : List String} (h : ∀ y, count y vs ≤ 1) : SC τ vs [] :=
  fun y _ hc => hc.elim (fun h2 => absurd h2 (by have := h y; omega)) (fun hb => absurd rfl hb)

/-- **a non-empty matcher answer yields a specification witness** (soundness of the matcher, `runJ`, on a pattern in
which no variable occurs twice: the scalar condition is empty; whatever the datum) -/
theorem matchesJ_nonempty_pmv {p d : J} {bss : List Bs} (hp : patOK p = true) (hlin : ∀ y, count y (varsOf p) ≤ 1)
    (hm : matchesJ p d = .ok bss) (hne : bss ≠ []) : ∃ σ, σ ∈ bss ∧ pmv σ p d = true := by
  cases bss with
  | nil => exact absurd rfl hne
  | cons σ rest =>
    exact ⟨σ, List.mem_cons_self, (runJ p hp d [] (σ :: rest) σ (matchesJ_ok_iff.1 hm) List.mem_cons_self).2 σ
      (Bs.Ext.refl σ) (SC.of_count hlin)⟩

/-- the cascade's pattern has no variable at all -/
theorem matcherSound_depPat (id : String) (hid : isVar id = false) : MatcherSound (depPat id) := by
  intro f bss hm hne
  have hopt : isOptVar id = false := by
    cases h : isOptVar id with
    | false => rfl
    | true => rw [isVar_of_isOptVar h] at hid; cases hid
  have hp : patOK (.obj (depPat id)) = true := by
    simp [depPat, patOK, patOKO, patOKL, isVar_deleteWith, hid, hopt]
    rfl
  have hv : varsOf (.obj (depPat id)) = [] := by
    simp [depPat, varsOf, varsOfO, varsOfL, isVar_deleteWith, hid]
  obtain ⟨σ, _, hσ⟩ := matchesJ_nonempty_pmv hp (by rw [hv]; exact fun _ => Nat.zero_le 1) hm hne
  exact ⟨σ, hσ⟩

/-- so a fact that names `id` carries the terms of the cascade's pattern: `pmv_termsO` at that σ -/
theorem terms_depPat_subset {fact : Obj} {id : String} (hid : isVar id = false) (h : depOn fact id = true) :
    ∀ t, t ∈ extractTerms (depPat id) → t ∈ extractTerms fact := by
  obtain ⟨σ, hσ⟩ := matcherSound_depPat id hid fact [[]] (by rw [matchesJ_depPat id hid, h]; rfl) (by simp)
  exact fun t ht => mem_extractTerms.2 (pmv_termsO σ _ fact fact
    (by simp [depPat, noVarKeysO, noVarKeys, isVar_deleteWith, noVarKeysL]) ((pmv_obj ..).symm.trans hσ) t
    (mem_extractTerms.1 ht))
