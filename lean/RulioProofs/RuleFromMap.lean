import RulioModel.Loc
import RulioProofs.ExceptBind

/-! # What `RuleFromMap` makes of the `when` clause of a rule body

`ruleFromMap` is a long `do` block in `Except`: two reads (`when`, `schedule`), two checks (`expires`, `condition`)
whose continuations the `do` notation shares as local functions, and a tail of `if … then error`.  The proof goes
through it one bind at a time, so that its length is that of the block. -/

/-- the `when` clause of a rule body as `RuleFromMap` reads it (its first statement): no clause for a missing or
`null` `when`; for a map, the map under `pattern`, the empty pattern when that key is missing or `null` -/
def whenClause (r : Obj) : Except LErr (Option Obj) :=
  match r.get? "when" with
  | none => pure none
  | some .null => pure none
  | some (.obj w) =>
    match Obj.get? w "pattern" with
    | none => pure (some [])
    | some .null => pure (some [])
    | some (.obj p) => pure (some p)
    | some _ => .error "syntax"
  | some _ => .error "syntax"

/-- the rule `RuleFromMap` returns carries the `when` clause it read first: nothing after the first statement fails
to pass it on -/
theorem ruleFromMap_whenClause {r : Obj} {rm : RuleM} (h : ruleFromMap r = .ok rm) :
    whenClause r = .ok rm.when? := by
  obtain ⟨w, hw, h⟩ := Except.bind_eq_ok.1 h
  obtain ⟨s, -, h⟩ := Except.bind_eq_ok.1 h
  rw [show whenClause r = .ok w from hw]
  clear hw
  -- `tail`: everything after the `condition` check; `check`: the `condition` check followed by `tail`
  extract_lets action? actions? serial tail check at h
  have h : check () = .ok rm := by
    split at h
    · exact h
    · exact h
    · exact h
    · cases h
  have h : tail () = .ok rm := by
    simp only [check] at h
    split at h
    · exact h
    · exact h
    · split at h
      · exact h
      · cases h
  simp only [tail, Except.ite_error_eq_ok, Except.bind_eq_ok] at h
  obtain ⟨-, -, -, acts, -, -, -, h⟩ := h
  cases h
  rfl

theorem ruleFromMap_when {body : Obj} {rm : RuleM} (h : ruleFromMap body = .ok rm) {w p : Obj}
    (hw : body.get? "when" = some (.obj w)) (hp : Obj.get? w "pattern" = some (.obj p)) : rm.when? = some p := by
  have := ruleFromMap_whenClause h
  simp only [whenClause, hw, hp] at this
  exact (Except.ok.inj this).symm
