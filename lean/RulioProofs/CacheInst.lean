import RulioProofs.PropFact
import RulioProofs.Cache
import RulioProofs.CloseReload
import RulioProofs.ComposeMatch

open AM

/-! # The location cache (C17) instantiated with the concrete State model (C06)

`RulioModel/Cache.lean` is parameterised by an abstract location semantics `LocSem` and the theorems of
`Props/C17.lean` assume `ReloadOK sem` ("reloading from storage is the identity on observations").
Here the semantics is the State model of `RulioModel/State.lean` and `ReloadOK` is *proved* from the reload
theorems of C06.

Modelling choices (both kinds):

* **storage** `StStore`: the stored documents of one location (`docs`, id ↦ JSON object, in storage order) and
  the state of the id generator (`ids`).  `UUID()` is process-global in the Go code; the State model stands in
  for it with the counter `St.fresh`, which `St.reload` carries over.  Keeping it next to the documents is what
  makes "the same request generates the same id on a reloaded instance" meaningful.
* **load** `stLoad k t s`: a new empty instance over the storage (`stSeed`: what `newLocation` builds before
  `State.Load`) followed by the model's `St.reload` at the cache's clock reading (ns → s).
* **exec** = one `ROp` through `St.stepRes`, which is `St.stepOp` with the full answer (the op carries the Location's own clock reading); the new storage is
  the instance's `store` written through; the answer is the full result of the operation (`StRes`), not only
  ok / error.  An `St` carries its own copy of the storage map (`St.store`) and writes through it, so `exec` does not
  read its storage argument; for an instance that is faithful to the storage (the relation `R` below, which every
  instance of a sequential history satisfies) this is exactly the per-document write-through of the Go code.
* **created** = a fact is stored under the id `!.createdAt` and carries the property `!createdAt`
  (`locationCreated` = `GetPropString(createdAt)`); **mark** = `markLocationCreated`: nothing when created,
  else `SetProp("", "createdAt", NowString())` = `Add("", {"id":"", "!createdAt":stamp, "deleteWith":[""]})`
  at clock `tm`.  `created` is a pure read: that `Get` purges an expired fact is not modelled for the marker (the
  marker written by `mark` never carries `expires`, and `legalFact` keeps API users from writing that property).
* **cacheTTL** = the numeric `!cacheTTL` property (ms → ns).

`ReloadOK` is a structure carrying the relation `R`, so `stSem_reloadOK_linear` and `idxSem_reloadOK_partial` are
`def`s, not `theorem`s; their fields are proofs. -/

structure StStore where
  docs : List (String × Obj) := []
  ids : Nat := 0

def encDocs (d : List (String × Obj)) : List (String × J) := d.map (fun p => (p.1, J.obj p.2))
def decDocs (d : List (String × J)) : List (String × Obj) := d.map (fun p => (p.1, unObj p.2))

theorem decDocs_encDocs (d : List (String × Obj)) : decDocs (encDocs d) = d := by
  unfold decDocs encDocs
  rw [List.map_map]
  conv => rhs; rw [← List.map_id d]
  apply List.map_congr_left
  intro p _; rfl

def St.stored (l : St) : StStore := { docs := decDocs l.store, ids := l.fresh }

def stSeed (k : Kind) (s : StStore) : St := { kind := k, store := encDocs s.docs, fresh := s.ids }

def stLoad (k : Kind) (t : Int) (s : StStore) : St :=
  match (stSeed k s).reload (t / 1000000000) with
  | .ok l => l
  | .error _ => stSeed k s

inductive StRes where
  | add (r : Except LErr String)
  | rem (r : Except LErr Bool)
  | get (r : Except LErr Obj)
  | search (r : Except LErr (List (String × Obj × List Bs)))
  | findRules (r : Except LErr (List (String × Obj)))
  | clear

def St.stepRes (s : St) : ROp → St × StRes
  | .add g x now => ((s.add g x now).1, .add (s.add g x now).2)
  | .rem id now => ((s.rem id now).1, .rem (s.rem id now).2)
  | .get id now => ((s.get id now).1, .get (s.get id now).2)
  | .search p now => ((s.search p now).1, .search (s.search p now).2)
  | .findRules ev now => ((s.findRules ev now).1, .findRules (s.findRules ev now).2)
  | .clear => (s.clear, .clear)

theorem St.stepRes_fst (s : St) (op : ROp) : (s.stepRes op).1 = (s.stepOp op).1 := by
  cases op <;> rfl

def stExec (l : St) (_s : StStore) (op : ROp) : St × StStore × StRes :=
  ((l.stepRes op).1, (l.stepRes op).1.stored, (l.stepRes op).2)

def markerId : String := genPropId "" "createdAt"

def markerFact (stamp : String) : Obj := propFact "" "createdAt" (.str stamp)

/-- `locationCreated` -/
def stCreated (l : St) : Bool :=
  match amGet l.facts markerId with
  | some f => f.has "!createdAt"
  | none => false

def stCacheTTL (l : St) : Option Int :=
  match amGet l.facts (genPropId "" "cacheTTL") with
  | some f => (match f.get? "!cacheTTL" with | some (.num ms) => some (ms * 1000000) | _ => none)
  | none => none

theorem propName_createdAt : PropName "createdAt" := ⟨by decide +kernel, by decide +kernel⟩

theorem markerFact_has (stamp : String) : (markerFact stamp).has "!createdAt" = true := by
  simp [markerFact, propFact, Obj.has, lookupKey]

def stAddK (k : Kind) (l : St) (g : String) (x : Obj) (now : Int) : St × Except LErr String :=
  match k with
  | .linear => l.lAdd g x now
  | .indexed => l.iAdd g x now

/-- `markLocationCreated` through an instance of kind `k` at clock `tm` -/
def stMark (k : Kind) (tm : Int) (stamp : String) (l : St) (s : StStore) : St × StStore :=
  if stCreated l then (l, s)
  else ((stAddK k l "" (markerFact stamp) tm).1, (stAddK k l "" (markerFact stamp) tm).1.stored)

/-- **the State of kind `k` as a location semantics**: every storage, every `ROp`, full answers.
`tm` / `stamp`: the clock reading (s) and its rendering used by `markLocationCreated`. -/
def stSem (k : Kind) (tm : Int) (stamp : String) : LocSem where
  L := St
  S := StStore
  Op := ROp
  Res := StRes
  emptyS := {}
  load := stLoad k
  exec := stExec
  created := stCreated
  mark := stMark k tm stamp
  cacheTTL := stCacheTTL

/-! ## the linear kind: full `ReloadOK` -/

def mkLin (s : StStore) : St := { kind := .linear, facts := s.docs, store := encDocs s.docs, fresh := s.ids }

theorem mkLin_storeEq (s : StStore) : StoreEq (mkLin s) := rfl
theorem mkLin_linIdx (s : StStore) : LinIdx (mkLin s) := ⟨rfl, rfl, rfl⟩

theorem eq_mkLin {l : St} (he : StoreEq l) (hl : LinIdx l) : l = mkLin l.stored := by
  obtain ⟨hk, hri, hti⟩ := hl
  cases l
  simp only at hk hri hti
  subst hk hri hti
  unfold StoreEq at he
  simp only at he
  subst he
  simp only [mkLin, St.stored]
  have := decDocs_encDocs
  simp only [encDocs] at this
  simp [encDocs, this]

theorem stLoad_linear (t : Int) (s : StStore) : stLoad .linear t s = mkLin s := by
  have h : (stSeed .linear s).reload (t / 1000000000) = (mkLin s).reload (t / 1000000000) := rfl
  unfold stLoad
  rw [h, reload_linear_id (mkLin_storeEq s) (mkLin_linIdx s)]

theorem stepRes_mkLin (s : StStore) (op : ROp) :
    ((mkLin s).stepRes op).1 = mkLin ((mkLin s).stepRes op).1.stored := by
  rw [St.stepRes_fst]
  exact eq_mkLin (St.stepOp_storeEq (mkLin_storeEq s) op) (St.stepOp_linIdx (mkLin_linIdx s) op)

theorem stCreated_of_set {l : St} {F : List (String × Obj)} {stamp : String}
    (hf : l.facts = amSet F markerId (markerFact stamp)) : stCreated l = true := by
  unfold stCreated
  rw [hf, amGet_amSet_self]
  exact markerFact_has stamp

theorem stCreated_lAdd_marker (l : St) (stamp : String) (tm : Int) :
    stCreated (l.lAdd "" (markerFact stamp) tm).1 = true :=
  stCreated_of_set (propName_createdAt.lAdd_facts l "" (.str stamp) tm)

/-- **`ReloadOK` for the linear State, in full**: every storage, every operation (`Add` with given or generated id,
`Rem` with its cascade, `Get`, `Search`, `FindRules`, `Clear`, expiry-triggered purges included), full answers.
`R l s`: `l` is the linear instance whose facts are exactly the stored documents of `s` (and whose id counter is the
generator state of `s`) — by `reload_linear_id` (the lemma behind C06's `reload_linear_identity`) that is what `Load`
builds and what every operation preserves (`St.stepOp_storeEq`, `St.stepOp_linIdx`). -/
def stSem_reloadOK_linear (tm : Int) (stamp : String) : ReloadOK (stSem .linear tm stamp) where
  R := fun l s => l = mkLin s
  load_R := fun t s => stLoad_linear t s
  exec_R := by
    intro l s op h
    subst h
    exact stepRes_mkLin s op
  exec_eq := by intro l l' s op h h'; rw [h, h']
  created_eq := by intro l l' s h h'; rw [h, h']
  mark_R := by
    intro l s h
    subst h
    show (stMark .linear tm stamp (mkLin s) s).1 = mkLin (stMark .linear tm stamp (mkLin s) s).2
    unfold stMark
    split
    · rfl
    · exact stepRes_mkLin s (.add "" (markerFact stamp) tm)
  mark_eq := by intro l l' s h h'; rw [h, h']
  mark_created := by
    intro l s
    show stCreated (stMark .linear tm stamp l s).1 = true
    unfold stMark
    split
    · assumption
    · exact stCreated_lAdd_marker l stamp tm

/-! ## the indexed kind: `ReloadOK` on the fragment that the reload theorems of C06 cover -/

def noExpiryB (x : Obj) : Bool := (x.get? "ttl").isNone && (x.get? "expires").isNone

/-- **the operations of the fragment.**  `q` = "queries allowed": with `q` the history may `Search`
(patterns of the C05 matcher fragment `patOK`, linear) and every added fact must then be ground data (`dataOK`);
without `q` added facts are unrestricted in that respect (rules with variables in their `when` …) and there is no `Search`.
* `Add`: no `ttl` / `expires`, and if the fact is a rule its pattern can leave the pattern index
  (`unindexErr`: a decidable function of the fact alone);
* `Rem`: an id that does not look like a variable;  `Get`, `Clear`: any;  `FindRules`: not in the fragment. -/
def idxFrag (q : Bool) : ROp → Bool
  | .add _ x _ => noExpiryB x && !unindexErr "" x && (!q || dataOK (.obj x))
  | .rem id _ => !isVar id
  | .get _ _ => true
  | .search p _ => q && patOK (.obj p) && linearPattern p
  | .findRules _ _ => false
  | .clear => true

def NoExp (l : St) : Prop := ∀ e, e ∈ l.facts → e.2.get? "expires" = none

theorem NoExp.noneExpired {l : St} (h : NoExp l) (now : Int) : NoneExpired l now :=
  St.All.imp h fun _ he => checkExpiration_none he now

/-- the invariant of the instances of the fragment: the C06 invariants of indexed histories (`IdxInv`: storage is
the list image of memory, facts canonical, re-indexable, unique ids; `IdxInvs`: `WF` and the rule-index invariant),
no expiry, every stored rule can leave the pattern index, and (with queries) ground data only -/
structure IdxGood (q : Bool) (l : St) : Prop where
  inv : IdxInv l
  invs : IdxInvs l
  noexp : NoExp l
  unidx : UnindexOK l
  data : q = true → FactsOK l

theorem unindexErr_id (id id' : String) (f : Obj) : unindexErr id f = unindexErr id' f := by
  simp only [unindexErr, piRem_err_indep PI.empty PI.empty _ id id']

theorem indexedForm_noexp {x : Obj} (h : x.get? "expires" = none) : indexedForm x = x := by
  obtain ⟨r, hr⟩ := extractRule_noexp h
  exact indexedForm_of_ok hr

theorem prepareFact_noexp {g fr : String} {x : Obj} {now : Int} {id : String} {m x' : Obj}
    (hx : noExpiryB x = true) (hp : prepareFact g fr x now = .ok (id, m, x')) : m = x := by
  obtain ⟨_, he, e, hs, _⟩ := prepareFact_parts hp
  simp only [noExpiryB, Bool.and_eq_true, Option.isNone_iff_eq_none] at hx
  rw [setExpires_none now hx.1 hx.2] at hs
  cases hs
  rfl

theorem memForm_noexp {k : Kind} {g fr : String} {x : Obj} {now : Int} {id : String} {m x' : Obj}
    (hx : noExpiryB x = true) (hp : prepareFact g fr x now = .ok (id, m, x')) : memForm k m = x := by
  obtain rfl := prepareFact_noexp hx hp
  cases k with
  | linear => rfl
  | indexed =>
    simp only [noExpiryB, Bool.and_eq_true, Option.isNone_iff_eq_none] at hx
    exact indexedForm_noexp hx.2

theorem factsAll_stepOp {P : String → Obj → Prop} {l : St} (h : ∀ e, e ∈ l.facts → P e.1 e.2) (op : ROp)
    (hadd : ∀ g x now, op = .add g x now → noExpiryB x = true ∧ ∀ id, P id x) :
    ∀ e, e ∈ (l.stepOp op).1.facts → P e.1 e.2 :=
  St.All.stepOp (P := fun e => P e.1 e.2) h op fun g x now ho id m x' hp => by
    rw [memForm_noexp (hadd g x now ho).1 hp]; exact (hadd g x now ho).2 id

theorem IdxGood.stepOp {q : Bool} {l : St} (h : IdxGood q l) {op : ROp} (hop : idxFrag q op = true) :
    IdxGood q (l.stepOp op).1 := by
  have hadd : ∀ g x now, op = .add g x now →
      noExpiryB x = true ∧ unindexErr "" x = false ∧ (q = true → dataOK (.obj x) = true) := by
    intro g x now ho
    subst ho
    simp only [idxFrag, Bool.and_eq_true, Bool.not_eq_true', Bool.or_eq_true] at hop
    refine ⟨hop.1.1, hop.1.2, fun hq => ?_⟩
    rcases hop.2 with h1 | h1
    · rw [hq] at h1; cases h1
    · exact h1
  refine ⟨h.inv.stepOp op, h.invs.stepOp op, ?_, ?_, fun hq => ?_⟩
  · refine factsAll_stepOp (P := fun _ f => f.get? "expires" = none) h.noexp op (fun g x now ho => ?_)
    have hx := (hadd g x now ho).1
    refine ⟨hx, fun _ => ?_⟩
    simp only [noExpiryB, Bool.and_eq_true, Option.isNone_iff_eq_none] at hx
    exact hx.2
  · refine factsAll_stepOp (P := fun id f => unindexErr id f = false) h.unidx op (fun g x now ho => ?_)
    exact ⟨(hadd g x now ho).1, fun id => by rw [unindexErr_id id ""]; exact (hadd g x now ho).2.1⟩
  · refine factsAll_stepOp (P := fun _ f => dataOK (.obj f) = true) (h.data hq) op (fun g x now ho => ?_)
    exact ⟨(hadd g x now ho).1, fun _ => (hadd g x now ho).2.2 hq⟩

theorem idxGood_empty (q : Bool) : IdxGood q (St.empty .indexed) :=
  { inv := IdxInv.empty, invs := IdxInvs.empty, noexp := fun _ he => (nomatch he), unidx := fun _ he => (nomatch he),
    data := fun _ _ he => (nomatch he) }

theorem IdxGood.of_same {q : Bool} {l t : St} (h : IdxGood q l) (hf : t.facts = l.facts) (hs : t.store = l.store)
    (hi : IdxInvs t) : IdxGood q t := by
  refine ⟨⟨hi.kind, ?_, ?_, ?_, ?_⟩, hi, ?_, ?_, fun hq => ?_⟩
  · unfold StoreEq; rw [hs, hf]; exact h.inv.storeEq
  · exact St.All.congr h.inv.canon hf
  · exact St.All.congr h.inv.indexable hf
  · rw [hf]; exact h.inv.nodup
  · exact St.All.congr h.noexp hf
  · exact St.All.congr h.unidx hf
  · exact St.All.congr (h.data hq) hf

theorem IdxGood.okFor {q : Bool} {l : St} (h : IdxGood q l) {op : ROp} (hop : idxFrag q op = true) : op.okFor l := by
  cases op with
  | add g x now => trivial
  | rem id now =>
    simp only [idxFrag, Bool.not_eq_true'] at hop
    exact ⟨h.noexp.noneExpired now, hop, h.unidx⟩
  | get id now =>
    intro f hf
    exact h.noexp.noneExpired now (id, f) (amGet_mem hf)
  | search p now => exact h.noexp.noneExpired now
  | findRules ev now => exact h.noexp.noneExpired now
  | clear => trivial

theorem stored_docs {l : St} (he : StoreEq l) : l.stored.docs = l.facts := by
  unfold St.stored
  simp only
  rw [he]
  exact decDocs_encDocs l.facts

theorem enc_stored {l : St} (he : StoreEq l) : encDocs l.stored.docs = l.store := by
  rw [stored_docs he]; exact he.symm

theorem reload_congr {a b : St} (hk : a.kind = b.kind) (hs : a.store = b.store) (hf : a.fresh = b.fresh) (now : Int) :
    a.reload now = b.reload now := by
  unfold St.reload
  rw [hk, hs, hf]

def IdxStoreOK (q : Bool) (s : StStore) : Prop := ∃ l : St, IdxGood q l ∧ l.stored = s

/-- `reload_same` of C06: nothing is expired, so nothing is dropped -/
theorem stLoad_good {q : Bool} (t : Int) {s : StStore} (hs : IdxStoreOK q s) :
    IdxGood q (stLoad .indexed t s) ∧ (stLoad .indexed t s).stored = s := by
  obtain ⟨l0, hg, rfl⟩ := hs
  obtain ⟨t', hr, hf, hst, hfr, hk, hi⟩ := reload_same hg.inv (hg.noexp.noneExpired (t / 1000000000))
  have hc : (stSeed .indexed l0.stored).reload (t / 1000000000) = l0.reload (t / 1000000000) :=
    reload_congr (a := stSeed .indexed l0.stored) (b := l0) hg.inv.kind.symm (enc_stored hg.inv.storeEq) rfl _
  have hl : stLoad .indexed t l0.stored = t' := by
    unfold stLoad; rw [hc, hr]
  rw [hl]
  refine ⟨hg.of_same hf hst hi, ?_⟩
  unfold St.stored
  rw [hst, hfr]

theorem reloadSim_of_stored {q : Bool} {l l' : St} (h : IdxGood q l) (h' : IdxGood q l') (hs : l'.stored = l.stored) :
    ReloadSim l l' := by
  refine ReloadSim.of_parts h.invs h'.invs h.inv.storeEq h'.inv.storeEq ?_ ?_
  · rw [← stored_docs h.inv.storeEq, ← stored_docs h'.inv.storeEq, hs]
  · have := congrArg StStore.ids hs
    exact this

theorem ReloadSim.stored_eq {l l' : St} (h : ReloadSim l l') : l'.stored = l.stored := by
  unfold St.stored
  rw [h.mem.store, h.mem.fresh]

/-- search answers as multisets of (id, bindings): the candidate order of the term index is not an observation -/
def SearchQ : Type := Quot (fun a b : List (String × List Bs) => a.Perm b)

inductive StResQ where
  | add (r : Except LErr String)
  | rem (r : Except LErr Bool)
  | get (r : Except LErr Obj)
  | search (r : Except LErr SearchQ)
  | findRules (r : Except LErr (List (String × Obj)))
  | clear

def StRes.quot : StRes → StResQ
  | .add r => .add r
  | .rem r => .rem r
  | .get r => .get r
  | .search r => .search (r.map (fun R => Quot.mk _ (projRes R)))
  | .findRules r => .findRules r
  | .clear => .clear

/-- **equal answers**: an operation of the fragment is answered identically (search: the same multiset of matches)
by two instances in step — `in_step_observations` of C06 with its fragment hypotheses discharged statically
(`matcherSound_of_frag`, `specSearch_total`, `patOK_termOK`) -/
theorem stepRes_quot_congr {q : Bool} {l l' : St} (h : IdxGood q l) (sim : ReloadSim l l') {op : ROp}
    (hop : idxFrag q op = true) : (l.stepRes op).2.quot = (l'.stepRes op).2.quot := by
  have hok := h.okFor hop
  cases op with
  | add g x now =>
    show StResQ.add (l.add g x now).2 = StResQ.add (l'.add g x now).2
    rw [sim.add_result g x now]
  | rem id now =>
    show StResQ.rem (l.rem id now).2 = StResQ.rem (l'.rem id now).2
    rw [(sim.rem_result hok).1]
  | get id now =>
    obtain ⟨r, h1, h2⟩ := get_quiet_congr sim.mem.facts id now hok
    show StResQ.get (l.get id now).2 = StResQ.get (l'.get id now).2
    rw [h1, h2]
  | search p now =>
    simp only [idxFrag, Bool.and_eq_true] at hop
    obtain ⟨⟨hq, hp⟩, hlin⟩ := hop
    have hF : FactsOKFor l.facts p := FactsOK.for (h.data hq) p
    obtain ⟨R, hR⟩ := specSearch_total hp hF now
    obtain ⟨Rs, Rt, h1, h2, h3, h4⟩ := search_perm_congr sim.live sim.re sim.mem.facts hok (patOK_termOK hp)
      ((matcherSound_of_frag hp hlin).on _) hR
    show StResQ.search ((l.search p now).2.map _) = StResQ.search ((l'.search p now).2.map _)
    rw [h1, h2]
    simp only [Except.map]
    congr 2
    exact Quot.sound (h3.trans h4.symm)
  | findRules ev now => simp [idxFrag] at hop
  | clear => rfl

theorem stCreated_add_marker {q : Bool} {l : St} (h : IdxGood q l) (stamp : String) (tm : Int) :
    stCreated (l.add "" (markerFact stamp) tm).1 = true := by
  obtain ⟨l', h'⟩ := propName_createdAt.add_goes (fun _ => h.unidx) "" (.str stamp) tm
  have := (propName_createdAt.add_ok h').2.1
  rw [show l.add "" (markerFact stamp) tm = (l', .ok (genPropId "" "createdAt")) from h']
  exact stCreated_of_set this

theorem stCreated_congr {l l' : St} (hf : l'.facts = l.facts) : stCreated l' = stCreated l := by
  unfold stCreated; rw [hf]

abbrev IdxL (q : Bool) : Type := { l : St // IdxGood q l }
abbrev IdxS (q : Bool) : Type := { s : StStore // IdxStoreOK q s }
abbrev IdxOp (q : Bool) : Type := { op : ROp // idxFrag q op = true }

def IdxL.stored {q : Bool} (l : IdxL q) : IdxS q := ⟨l.1.stored, l.1, l.2, rfl⟩

def idxStep {q : Bool} (l : IdxL q) (op : IdxOp q) : IdxL q :=
  ⟨(l.1.stepRes op.1).1, by rw [St.stepRes_fst]; exact l.2.stepOp op.2⟩

def idxExec {q : Bool} (l : IdxL q) (_s : IdxS q) (op : IdxOp q) : IdxL q × IdxS q × StResQ :=
  (idxStep l op, (idxStep l op).stored, (l.1.stepRes op.1).2.quot)

/-- `markLocationCreated`; `mop` is the `Add` of the marker fact -/
def idxMark {q : Bool} (mop : IdxOp q) (l : IdxL q) (s : IdxS q) : IdxL q × IdxS q :=
  if stCreated l.1 then (l, s) else (idxStep l mop, (idxStep l mop).stored)

/-- **the indexed State as a location semantics, restricted to the fragment `idxFrag q`.**
Instances are the indexed states satisfying `IdxGood q`, storages are what such instances write, operations are
the `ROp`s inside `idxFrag q` (all three by subtyping: the operations of the model itself, unchanged).
`hm`: the `Add` of the marker fact is inside the fragment (decidable; it only asks that `stamp` does not look like a
variable when `q` is on). -/
def idxSem (q : Bool) (tm : Int) (stamp : String) (hm : idxFrag q (.add "" (markerFact stamp) tm) = true) : LocSem where
  L := IdxL q
  S := IdxS q
  Op := IdxOp q
  Res := StResQ
  emptyS := ⟨{}, St.empty .indexed, idxGood_empty q, rfl⟩
  load := fun t s => ⟨stLoad .indexed t s.1, (stLoad_good t s.2).1⟩
  exec := idxExec
  created := fun l => stCreated l.1
  mark := idxMark ⟨.add "" (markerFact stamp) tm, hm⟩
  cacheTTL := fun l => stCacheTTL l.1

theorem idxStep_stored_congr {q : Bool} {l l' : IdxL q} (hs : l'.1.stored = l.1.stored) (op : IdxOp q) :
    (idxStep l' op).stored = (idxStep l op).stored := by
  have sim := reloadSim_of_stored l.2 l'.2 hs
  have sim' := sim.stepOp (l.2.okFor op.2)
  apply Subtype.ext
  show (l'.1.stepRes op.1).1.stored = (l.1.stepRes op.1).1.stored
  rw [St.stepRes_fst, St.stepRes_fst]
  exact sim'.stored_eq

/-- **`ReloadOK` for the indexed State on the fragment (partial).**
`R l s`: the storage `s` is exactly what the instance `l` has written (`l.store`, `l.fresh`); `l` itself satisfies
`IdxGood` by its type.  Two such instances over one storage are in step in the sense of C06 (`ReloadSim`: same
memory, storage and id counter, both satisfy the index invariants; their term and rule indexes differ).
Used from C06: `reload_same` (load), `ReloadSim.stepOp` (= the step of `reload_in_step`), and the equal answers of
`in_step_observations` (`ReloadSim.add_result`, `ReloadSim.rem_result`, `get_quiet_congr`, `search_perm_congr`).

**What is missing for the full statement** (`ReloadOK` for *all* `ROp`s and all storages) and why:
1. *expiry.*  `ReloadOK.load_R` / `exec_eq` quantify over all load times and all operation clocks without any
   ordering.  An indexed `Load` at time `t` drops the documents expired at `t` (and erases them from storage,
   `reload_facts_indexed`), a live instance purges them lazily, only when a search candidate list or a `Get` touches
   them, and cascades visit the term-index lists in an order that differs between a live and a rebuilt index — so two
   instances over one storage can answer a `Get` differently (loaded before / after the expiry) and leave different
   storages.  C06 proves the in-step property only while nothing is expired (`reload_in_step`: `NoneExpired`); the
   static way to guarantee that for every clock is "no stored fact carries an expiry": `noExpiryB` on every `Add`.
2. *`Rem` when a stored rule cannot leave the pattern index* (`UnindexOK` of `ROp.okFor`): the cascade may abort at
   an order-dependent point; excluded statically by `unindexErr "" x = false` on every `Add`.
3. *`Search` outside the C02/C05 fragment*: the live term index keeps stale ids, so the candidate lists differ; the
   answers are proved equal only as multisets (`SearchQ`), for `patOK` linear patterns over ground stored facts.
4. *`FindRules`*: `in_step_observations` gives only "every matching rule is among the candidates of both indexes",
   not equal answers (stale rule-index entries are not excluded by `StIdx`), so it is not in the fragment.
5. storages not written by the State itself (documents on which `Load` fails) are outside `IdxS`. -/
def idxSem_reloadOK_partial (q : Bool) (tm : Int) (stamp : String)
    (hm : idxFrag q (.add "" (markerFact stamp) tm) = true) : ReloadOK (idxSem q tm stamp hm) where
  R := fun l s => l.1.stored = s.1
  load_R := fun t s => (stLoad_good t s.2).2
  exec_R := fun _ _ _ _ => rfl
  exec_eq := by
    intro l l' s op h h'
    have hs : l'.1.stored = l.1.stored := h'.trans h.symm
    show ((idxStep l op).stored, (l.1.stepRes op.1).2.quot) = ((idxStep l' op).stored, (l'.1.stepRes op.1).2.quot)
    rw [idxStep_stored_congr hs op, stepRes_quot_congr l.2 (reloadSim_of_stored l.2 l'.2 hs) op.2]
  created_eq := by
    intro l l' s h h'
    have hs : l'.1.stored = l.1.stored := h'.trans h.symm
    exact (stCreated_congr (reloadSim_of_stored l.2 l'.2 hs).mem.facts).symm
  mark_R := by
    intro l s h
    show (idxMark _ l s).1.1.stored = (idxMark _ l s).2.1
    unfold idxMark
    split
    · exact h
    · rfl
  mark_eq := by
    intro l l' s h h'
    have hs : l'.1.stored = l.1.stored := h'.trans h.symm
    have hc : stCreated l'.1 = stCreated l.1 := stCreated_congr (reloadSim_of_stored l.2 l'.2 hs).mem.facts
    show (idxMark _ l s).2 = (idxMark _ l' s).2
    unfold idxMark
    rw [hc]
    split
    · rfl
    · exact (idxStep_stored_congr hs _).symm
  mark_created := by
    intro l s
    show stCreated (idxMark _ l s).1.1 = true
    unfold idxMark
    split
    · assumption
    · exact stCreated_add_marker l.2 stamp tm

def stSem_reloadOK_partial := @idxSem_reloadOK_partial

/-! ## why the indexed kind is restricted: with expiring documents two instances loaded from one storage at different
times differ in what they later write through, which `ReloadOK.exec_eq` forbids -/

def expiringStore : StStore := { docs := [("x", [("a", .num 1), ("expires", .num 5)])] }

/-- the instance loaded at 0 s keeps `x` in memory and storage until something touches it, the instance loaded at
10 s has dropped it (and erased it from its storage): after the same `Get "y"` at time 10 they write different
storages -/
theorem indexed_expiry_witness :
    (stExec (stLoad .indexed 0 expiringStore) expiringStore (.get "y" 10)).2.1.docs.length = 1 ∧
    (stExec (stLoad .indexed 10000000000 expiringStore) expiringStore (.get "y" 10)).2.1.docs.length = 0 := by
  decide +kernel

/-! ## operations that keep the `createdAt` marker (for `ReqKeeps`: overlapping requests with existence checking on) -/

theorem markerId_eq : markerId = "!.createdAt" := by decide

theorem stCreated_add_keep {l : St} {g : String} {x : Obj} {now : Int}
    (hg : ∀ fr id, genId x g fr = .ok id → id ≠ markerId) (hc : stCreated l = true) :
    stCreated (l.add g x now).1 = true := by
  rcases add_shape l g x now with ⟨_, _, hf⟩ | ⟨id, m, _, ha⟩
  · rw [stCreated_congr hf.facts]; exact hc
  · obtain ⟨x', hp⟩ := ha.prep
    unfold stCreated at hc ⊢
    rw [ha.facts, amGet_amSet_ne _ _ (Ne.symm (hg _ _ (prepareFact_parts hp).1))]
    exact hc

theorem keepsMarker_add_st (k : Kind) (tm : Int) (stamp : String) (g : String) (x : Obj) (now : Int)
    (hg : ∀ fr id, genId x g fr = .ok id → id ≠ markerId) : KeepsMarker (stSem k tm stamp) (.add g x now) :=
  fun _ _ hc => stCreated_add_keep hg hc

theorem keepsMarker_add_idx (q : Bool) (tm : Int) (stamp : String) (hm : idxFrag q (.add "" (markerFact stamp) tm) = true)
    (g : String) (x : Obj) (now : Int) (hop : idxFrag q (.add g x now) = true)
    (hg : ∀ fr id, genId x g fr = .ok id → id ≠ markerId) :
    KeepsMarker (idxSem q tm stamp hm) ⟨.add g x now, hop⟩ :=
  fun _ _ hc => stCreated_add_keep hg hc

theorem genId_given {x : Obj} {g fr id : String} (hx : parseProp x = .ok none) (hgn : g ≠ "")
    (h : genId x g fr = .ok id) : id = g := by
  rcases genId_ok h with ⟨_, _, _, hp, _⟩ | ⟨_, hid, _⟩
  · rw [hx] at hp; cases hp
  · rw [hid, if_neg (by simpa using hgn)]

/-! ## the semantics of the System's methods: `ClearLocation` keeps the marker

`System.ClearLocation` reads the `createdAt` property, calls `Location.Clear` and sets the property again when it was
there (`keepMark` of `RulioModel/Cache.lean`); every other method is the State's own operation. -/

def ROp.isClear : ROp → Bool
  | .clear => true
  | _ => false

def sysSem (k : Kind) (tm : Int) (stamp : String) : LocSem := keepMark (stSem k tm stamp) ROp.isClear

def sysSem_reloadOK_linear (tm : Int) (stamp : String) : ReloadOK (sysSem .linear tm stamp) :=
  keepMark_reloadOK (stSem_reloadOK_linear tm stamp) ROp.isClear

def idxSysSem (q : Bool) (tm : Int) (stamp : String) (hm : idxFrag q (.add "" (markerFact stamp) tm) = true) : LocSem :=
  keepMark (idxSem q tm stamp hm) (fun op => ROp.isClear op.1)

def idxSysSem_reloadOK_partial (q : Bool) (tm : Int) (stamp : String)
    (hm : idxFrag q (.add "" (markerFact stamp) tm) = true) : ReloadOK (idxSysSem q tm stamp hm) :=
  keepMark_reloadOK (idxSem_reloadOK_partial q tm stamp hm) _

theorem sysSem_clear_keeps (tm : Int) (stamp : String) : KeepsMarker (sysSem .linear tm stamp) .clear :=
  keepMark_keeps (stSem .linear tm stamp) ROp.isClear (stSem_reloadOK_linear tm stamp).mark_created .clear rfl

theorem idxSysSem_clear_keeps (q : Bool) (tm : Int) (stamp : String) (hm : idxFrag q (.add "" (markerFact stamp) tm) = true)
    (hop : idxFrag q .clear = true) : KeepsMarker (idxSysSem q tm stamp hm) ⟨.clear, hop⟩ :=
  keepMark_keeps (idxSem q tm stamp hm) (fun op => ROp.isClear op.1) (idxSem_reloadOK_partial q tm stamp hm).mark_created
    ⟨.clear, hop⟩ rfl

/-! ## example histories (two locations; create, add, overwrite, search, rule lookup, remove, get, clear) -/

def exStamp : String := "2026-01-01T00:00:00Z"

def StRes.code : StRes → Nat
  | .add (.ok _) => 1
  | .rem (.ok false) => 2
  | .rem (.ok true) => 3
  | .get (.ok _) => 4
  | .search (.ok R) => 10 + R.length
  | .findRules (.ok R) => 20 + R.length
  | .clear => 5
  | _ => 0

def stOutCode {k : Kind} {tm : Int} {stamp : String} : Out (sysSem k tm stamp) → Nat
  | .ok r => StRes.code r
  | .notFound => 100
  | .created true => 101
  | .created false => 102
  | .peeked => 103

/-- linear kind: an expiring fact, a generated id, a rule, searches before and after the expiry, a rule lookup,
a removal, an unchecked open, a clear — on the two locations "home" and "work" -/
def exHistLin : List (Req (sysSem .linear 0 exStamp) × Int × Int) :=
  [(.create "home", 0, 1),
   (.api "home" (.add "f1" [("likes", .str "tacos"), ("ttl", .num 50)] 10), 2, 3),
   (.api "work" (.add "" [("likes", .str "chips")] 11), 4, 5),
   (.api "home" (.add "r1" [("rule", .obj [("when", .obj [("pattern", .obj [("wants", .str "?x")])]),
                                             ("action", .obj [("code", .str "1")])])] 12), 6, 7),
   (.api "home" (.add "f2" [("likes", .str "beer")] 12), 8, 9),
   (.api "home" (.search [("likes", .str "?what")] 13), 10, 11),
   (.api "work" (.search [("likes", .str "?what")] 14), 12, 13),
   (.api "home" (.findRules [("wants", .str "tacos")] 15), 14, 15),
   (.api "home" (.rem "f2" 16), 16, 17),
   (.api "home" (.search [("likes", .str "?what")] 70), 18, 19),
   (.api "work" (.get "fresh#0" 18), 20, 21),
   (.peek "work", 22, 23),
   (.api "work" .clear, 24, 25),
   (.api "work" (.get "fresh#0" 19), 26, 27)]

/-- with existence checking on: an add before the location exists, creates, adds, `ClearLocation` (keeps the marker),
an unchecked open of a location that is never created (`GetLocation "work"`) followed by checked requests to it, and
the removal of the marker by its id followed by a checked request -/
def exHistChk : List (Req (sysSem .linear 0 exStamp) × Int × Int) :=
  [(.api "home" (.add "f0" [("likes", .str "tacos")] 9), 0, 1),
   (.create "home", 2, 3),
   (.api "home" (.add "f1" [("likes", .str "tacos")] 10), 4, 5),
   (.peek "work", 6, 7),
   (.api "work" (.add "f2" [("likes", .str "chips")] 11), 8, 9),
   (.create "home", 10, 11),
   (.api "home" .clear, 12, 13),
   (.api "home" (.add "f3" [("likes", .str "beer")] 12), 14, 15),
   (.api "home" (.rem markerId 13), 16, 17),
   (.api "home" (.add "f4" [("likes", .str "salsa")] 14), 18, 19)]

theorem exMarkOK : idxFrag true (.add "" (markerFact exStamp) 0) = true := by decide +kernel

def fop (op : ROp) (h : idxFrag true op = true := by decide +kernel) : IdxOp true := ⟨op, h⟩

/-- indexed kind, inside the fragment: a fact that is overwritten (its old terms stay in the live term index as stale
ids, the reloaded index does not have them), a generated id, a dependent fact removed by a cascade, searches, a get,
a clear — on the two locations "home" and "work" -/
def exHistIdx : List (Req (idxSysSem true 0 exStamp exMarkOK) × Int × Int) :=
  [(.create "home", 0, 1),
   (.api "home" (fop (.add "f1" [("likes", .str "tacos")] 10)), 2, 3),
   (.api "work" (fop (.add "" [("likes", .str "chips")] 11)), 4, 5),
   (.api "home" (fop (.add "f1" [("wants", .str "beer")] 12)), 6, 7),
   (.api "home" (fop (.add "d1" [("likes", .str "salsa"), ("deleteWith", .arr [.str "f1"])] 12)), 8, 9),
   (.api "home" (fop (.search [("likes", .str "?what")] 13)), 10, 11),
   (.api "work" (fop (.search [("likes", .str "?what")] 14)), 12, 13),
   (.api "home" (fop (.rem "f1" 16)), 14, 15),
   (.api "home" (fop (.search [("likes", .str "?what")] 17)), 16, 17),
   (.api "work" (fop (.get "fresh#0" 18)), 18, 19),
   (.peek "work", 20, 21),
   (.api "work" (fop .clear), 22, 23)]

def SearchQ.size : SearchQ → Nat := Quot.lift List.length (fun _ _ h => h.length_eq)

def StResQ.code : StResQ → Nat
  | .add (.ok _) => 1
  | .rem (.ok false) => 2
  | .rem (.ok true) => 3
  | .get (.ok _) => 4
  | .search (.ok R) => 10 + R.size
  | .findRules (.ok R) => 20 + R.length
  | .clear => 5
  | _ => 0

def idxOutCode {q : Bool} {tm : Int} {stamp : String} {hm : idxFrag q (.add "" (markerFact stamp) tm) = true} :
    Out (idxSysSem q tm stamp hm) → Nat
  | .ok r => StResQ.code r
  | .notFound => 100
  | .created true => 101
  | .created false => 102
  | .peeked => 103
