import RulioModel.StateInv
import RulioProofs.AssocMap

/-! # The loop of a read

`Search` and `FindRules` of both kinds of state walk a list of candidate ids with one unit of fuel per id. For each id
the loop looks up a fact, checks its expiry, removes the fact when it is expired and goes on in the state the removal
left, and otherwise tests the fact and collects a hit. `St.readLoop` is that loop and the four loops of `State.lean`
are instances of it (`isearchLoop_eq`, `lsearchLoop_eq`, `iFindRules_go_eq`, `lFindRules_go_eq`). Said once for all of
them: what a read answers when nothing it looks at is expired (`St.readLoop_quiet`), that it moves the state only by its
removals (`St.readLoop_rel`), and which errors it can answer (`St.readLoop_err`). What it returns and has purged is
`St.readLoop_spec` in `CloseExpiry`. -/

/-- What one read loop differs from another in. `look s id` is the fact examined for the candidate `id` (`none`: no
candidate after all), `exp` the expiry check as the loop sees it, `rm f s id` the state a removal leaves together with the
error, if any, that stops the loop, `test` what is collected: an error stops, `none` skips. -/
structure ReadOps (β : Type) where
  look : St → String → Option Obj
  exp : Obj → Except LErr Bool
  rm : Nat → St → String → St × Option LErr
  test : St → String → Obj → Except LErr (Option β)

def St.readLoop {β} (R : ReadOps β) : Nat → St → List String → List β → St × Except LErr (List β)
  | 0, s, _, _ => (s, .error "fuel")
  | _ + 1, s, [], acc => (s, .ok acc)
  | f + 1, s, id :: rest, acc =>
    match R.look s id with
    | none => St.readLoop R f s rest acc
    | some fact =>
      match R.exp fact with
      | .error e => (s, .error e)
      | .ok true =>
        (match (R.rm f s id).2 with
         | some e => ((R.rm f s id).1, .error e)
         | none => St.readLoop R f (R.rm f s id).1 rest acc)
      | .ok false =>
        match R.test s id fact with
        | .error e => (s, .error e)
        | .ok none => St.readLoop R f s rest acc
        | .ok (some x) => St.readLoop R f s rest (acc ++ [x])

/-- the expiry check of the indexed loops: an error counts as "not expired" -/
def laxExpiry (now : Int) (fact : Obj) : Except LErr Bool :=
  .ok (match checkExpiration fact now with | .ok true => true | _ => false)

/-- a removal whose error stops the loop -/
def strictRem (r : St × Except LErr Bool) : St × Option LErr :=
  (r.1, match r.2 with | .error e => some e | .ok _ => none)

/-- the re-match of `Search`: the candidate with its bindings, if there are any -/
def reTest (p : Obj) (id : String) (fact : Obj) : Except LErr (Option (String × Obj × List Bs)) :=
  match matchesJ (.obj p) (.obj fact) with
  | .error e => .error e
  | .ok bss => .ok (if bss.isEmpty then none else some (id, fact, bss))

/-- what `doFindRules` (indexed) does with one candidate id when nothing has to be purged -/
def ruleBodyAt (s : St) (id : String) : Except LErr (String × Obj) :=
  match amGet s.facts id with
  | none => .error "lostRule"
  | some f =>
    match extractRule f true with
    | .error e => .error e
    | .ok (some body, _) => .ok (id, body)
    | .ok (none, _) => .error "ruleBodyMissing"

/-- what `doFindRules` (linear) does with one stored fact when nothing has to be purged -/
def linCand (ev : Obj) (e : String × Obj) : Except LErr (Option (String × Obj)) :=
  match e.2.get? "rule" with
  | none => .ok none
  | some rule =>
    match rule with
    | .obj r =>
      match Obj.get? r "when" with
      | some (.obj w) =>
        match matchesJ ((Obj.get? w "pattern").getD (.obj w)) (.obj ev) with
        | .error err => .error err
        | .ok bss => .ok (if bss.isEmpty then none else some (e.1, r))
      | _ => .ok none
    | _ => .error "panic"

theorem linCand_some {ev : Obj} {e : String × Obj} {id : String} {r : Obj} (h : linCand ev e = .ok (some (id, r))) :
    id = e.1 ∧ e.2.get? "rule" = some (.obj r) ∧ ∃ w, Obj.get? r "when" = some (.obj w) := by
  unfold linCand at h
  split at h
  · cases h
  · next hr =>
    split at h
    · split at h
      · next w hw =>
        split at h
        · cases h
        · split at h
          · cases h
          · cases h; exact ⟨rfl, hr, w, hw⟩
      · cases h
    · cases h

/-! ## the four loops

The linear state stops at every error; the indexed one logs the errors of the expiry check and of the removal and goes on
(`laxExpiry`, no stopping error). -/

def isearchOps (p : Obj) (now : Int) : ReadOps (String × Obj × List Bs) :=
  ⟨fun s id => amGet s.facts id, laxExpiry now, fun f s id => ((St.irem f s id now).1, none), fun _ => reTest p⟩

def lsearchOps (p : Obj) (now : Int) : ReadOps (String × Obj × List Bs) :=
  ⟨fun s id => amGet s.facts id, (checkExpiration · now), fun f s id => strictRem (St.lrem f s id now), fun _ => reTest p⟩

/-- the indexed `FindRules` looks at every candidate of the pattern index, stored or not -/
def iFindOps (now : Int) : ReadOps (String × Obj) :=
  ⟨fun s id => some ((amGet s.facts id).getD []), laxExpiry now, fun _ s id => ((St.irem s.fuel s id now).1, none),
   fun s id _ => (ruleBodyAt s id).map some⟩

/-- the linear `FindRules` looks at the stored facts that have a `rule` -/
def lFindOps (ev : Obj) (now : Int) : ReadOps (String × Obj) :=
  ⟨fun s id => (amGet s.facts id).filter fun fact => (fact.get? "rule").isSome, (checkExpiration · now),
   fun _ s id => strictRem (St.lrem s.fuel s id now), fun _ id fact => linCand ev (id, fact)⟩

theorem isearchLoop_eq (p : Obj) (now : Int) : ∀ f s ids acc,
    St.isearchLoop f s p ids now acc = St.readLoop (isearchOps p now) f s ids acc := by
  intro f
  induction f with
  | zero => exact fun _ _ _ => rfl
  | succ f ih =>
    intro s ids acc
    cases ids with
    | nil => rfl
    | cons id rest =>
      rw [St.isearchLoop.eq_3, St.readLoop]
      dsimp only [isearchOps]
      cases amGet s.facts id with
      | none => exact ih ..
      | some fact =>
        simp only [laxExpiry, reTest, ih]
        rcases checkExpiration fact now with e | _ | _
        · cases matchesJ (.obj p) (.obj fact) with
          | error e => rfl
          | ok bss => cases bss <;> rfl
        · cases matchesJ (.obj p) (.obj fact) with
          | error e => rfl
          | ok bss => cases bss <;> rfl
        · rfl

theorem lsearchLoop_eq (p : Obj) (now : Int) : ∀ f s ids acc,
    St.lsearchLoop f s p ids now acc = St.readLoop (lsearchOps p now) f s ids acc := by
  intro f
  induction f with
  | zero => exact fun _ _ _ => rfl
  | succ f ih =>
    intro s ids acc
    cases ids with
    | nil => rfl
    | cons id rest =>
      rw [St.lsearchLoop.eq_3, St.readLoop]
      dsimp only [lsearchOps]
      cases amGet s.facts id with
      | none => exact ih ..
      | some fact =>
        simp only [strictRem, reTest, ih]
        rcases checkExpiration fact now with e | _ | _
        · rfl
        · cases matchesJ (.obj p) (.obj fact) with
          | error e => rfl
          | ok bss => cases bss <;> rfl
        · rcases St.lrem f s id now with ⟨s1, e | b⟩ <;> rfl

theorem iFindRules_go_eq (now : Int) : ∀ f s ids acc,
    St.iFindRules.go now f s ids acc = St.readLoop (iFindOps now) f s ids acc := by
  intro f
  induction f with
  | zero => exact fun _ _ _ => by rw [St.iFindRules.go]; rfl
  | succ f ih =>
    intro s ids acc
    cases ids with
    | nil => rw [St.iFindRules.go]; rfl
    | cons id rest =>
      rw [St.iFindRules.go, St.readLoop]
      simp only [iFindOps, laxExpiry, ruleBodyAt, ih]
      cases amGet s.facts id with
      | none => rcases checkExpiration _ now with e | _ | _ <;> rfl
      | some fact =>
        simp only [Option.getD_some]
        rcases checkExpiration fact now with e | _ | _
        · rcases extractRule fact true with e | ⟨_ | body, _⟩ <;> rfl
        · rcases extractRule fact true with e | ⟨_ | body, _⟩ <;> rfl
        · rfl

theorem lFindRules_go_eq (ev : Obj) (now : Int) : ∀ f s ids acc,
    St.lFindRules.go ev now f s ids acc = St.readLoop (lFindOps ev now) f s ids acc := by
  intro f
  induction f with
  | zero => exact fun _ _ _ => by rw [St.lFindRules.go]; rfl
  | succ f ih =>
    intro s ids acc
    cases ids with
    | nil => rw [St.lFindRules.go]; rfl
    | cons id rest =>
      -- the loop one unit down is the same function on both sides: name it, so that the steps below see a small term
      have ih' : St.lFindRules.go ev now f = St.readLoop (lFindOps ev now) f :=
        funext fun s => funext fun ids => funext fun acc => ih s ids acc
      rw [St.lFindRules.go, St.readLoop, ih']
      generalize St.readLoop (lFindOps ev now) f = L
      simp only [lFindOps]
      cases amGet s.facts id with
      | none => rfl
      | some fact =>
        obtain hr | ⟨rule, hr⟩ : fact.get? "rule" = none ∨ ∃ r, fact.get? "rule" = some r := by
          cases fact.get? "rule" <;> simp
        · simp only [hr, Option.filter, Option.isSome_none, Bool.false_eq_true, ↓reduceIte]
        · simp only [hr, Option.filter, Option.isSome_some, ↓reduceIte, strictRem, linCand]
          rcases checkExpiration fact now with e | _ | _
          · rfl
          · cases rule with
            | obj r =>
              simp only []
              cases Obj.get? r "when" with
              | none => rfl
              | some wv =>
                cases wv with
                | obj w =>
                  simp only []
                  cases matchesJ ((Obj.get? w "pattern").getD (.obj w)) (.obj ev) with
                  | error e => rfl
                  | ok bss => cases bss <;> rfl
                | _ => rfl
            | _ => rfl
          · simp only []
            rcases St.lrem s.fuel s id now with ⟨s1, e | b⟩ <;> rfl

/-! ## a read that meets nothing expired -/

/-- collect the hits of `t` over a list, stopping at the first error -/
def pureScan {β} (t : String → Except LErr (Option β)) : List String → List β → Except LErr (List β)
  | [], acc => .ok acc
  | id :: rest, acc =>
    match t id with
    | .error e => .error e
    | .ok none => pureScan t rest acc
    | .ok (some x) => pureScan t rest (acc ++ [x])

def ReadOps.testAt {β} (R : ReadOps β) (s : St) (id : String) : Except LErr (Option β) :=
  match R.look s id with
  | none => .ok none
  | some fact => R.test s id fact

/-- A read of a state in which no fact it looks at is expired is out of fuel, or it leaves the state alone and answers
the pure scan of its test, for this and every larger budget; one unit per candidate and one more suffice. -/
theorem St.readLoop_quiet {β} {R : ReadOps β} {s : St} (hq : ∀ id fact, R.look s id = some fact → R.exp fact = .ok false) :
    ∀ (f : Nat) (ids : List String) (acc : List β),
    (St.readLoop R f s ids acc = (s, .error "fuel") ∨
      ∀ d, St.readLoop R (f + d) s ids acc = (s, pureScan (R.testAt s) ids acc)) ∧
    (ids.length < f → St.readLoop R f s ids acc = (s, pureScan (R.testAt s) ids acc)) := by
  intro f
  induction f with
  | zero => exact fun _ _ => ⟨.inl rfl, fun h => absurd h (Nat.not_lt_zero _)⟩
  | succ f ih =>
    intro ids acc
    cases ids with
    | nil => exact ⟨.inr fun d => by rw [Nat.add_right_comm]; rfl, fun _ => rfl⟩
    | cons id rest =>
      simp only [Nat.add_right_comm f 1, St.readLoop, pureScan, ReadOps.testAt, List.length_cons,
        Nat.add_lt_add_iff_right]
      cases hl : R.look s id with
      | none => exact ih rest acc
      | some fact =>
        simp only [hq id fact hl]
        rcases R.test s id fact with e | _ | x
        · exact ⟨.inr fun _ => rfl, fun _ => rfl⟩
        · exact ih rest acc
        · exact ih rest _

theorem pureScan_eq_mapM {β} (t : String → Except LErr (Option β)) : ∀ (ids : List String) (acc : List β),
    pureScan t ids acc = (ids.mapM t).map fun os => acc ++ os.filterMap id
  | [], acc => by simp [pureScan, Except.map, pure, Except.pure]
  | i :: rest, acc => by
    rw [pureScan, List.mapM_cons]
    rcases t i with e | _ | x
    · rfl
    · show pureScan t rest acc = _
      rw [pureScan_eq_mapM t rest]
      cases rest.mapM t <;> rfl
    · show pureScan t rest (acc ++ [x]) = _
      rw [pureScan_eq_mapM t rest]
      cases rest.mapM t with
      | error e => rfl
      | ok os => exact congrArg Except.ok (List.append_assoc acc [x] _)

/-- where nothing is expired, the candidates of the indexed `FindRules` (stored or not) are not -/
theorem laxExpiry_getD {s : St} {now : Int} (hne : NoneExpired s now) (id : String) (fact : Obj)
    (hl : (iFindOps now).look s id = some fact) : (iFindOps now).exp fact = .ok false := by
  cases hl
  simp only [iFindOps, laxExpiry]
  cases hg : amGet s.facts id with
  | none => rfl
  | some f => rw [Option.getD_some, hne (id, f) (AM.amGet_mem hg)]

theorem mapM_map_some {α β : Type} (g : α → Except LErr β) : ∀ l : List α,
    (l.mapM fun a => (g a).map some).map (fun os => os.filterMap id) = l.mapM g
  | [] => rfl
  | a :: l => by
    rw [List.mapM_cons, List.mapM_cons, ← mapM_map_some g l]
    cases g a with
    | error e => rfl
    | ok b => cases l.mapM fun a => (g a).map some <;> rfl

/-- **`doFindRules` (indexed) when nothing is expired**: the state is unchanged and the answer is the trie walk's
ids, each with its stored rule body (or the first error met) -/
theorem iFindRules_eq {s : St} {now : Int} (hne : NoneExpired s now) (ev : Obj) :
    s.iFindRules ev now =
      (s, match piSearch s.ri ev with
          | .error e => .error (perr e)
          | .ok ids => ids.mapM (ruleBodyAt s)) := by
  unfold St.iFindRules
  cases hs : piSearch s.ri ev with
  | error e => rfl
  | ok ids =>
    simp only []
    rw [iFindRules_go_eq, (St.readLoop_quiet (laxExpiry_getD hne) _ ids []).2 (Nat.lt_succ_self _), pureScan_eq_mapM]
    exact congrArg (Prod.mk s) (mapM_map_some (ruleBodyAt s) ids)

/-! ## the state a read leaves -/

section Rel
variable {β : Type} {R : ReadOps β} {Q : St → St → Prop}

/-- A read moves the state only by its removals: a preorder that holds across them holds across the loop. This is the
step of an induction over the fuel, for the loops that share their fuel with the removal. -/
theorem St.readLoop_rel_step (refl : ∀ s, Q s s) (trans : ∀ {a b c}, Q a b → Q b c → Q a c) {f : Nat}
    (hrm : ∀ s id, Q s (R.rm f s id).1) (ih : ∀ s ids acc, Q s (St.readLoop R f s ids acc).1) :
    ∀ s ids acc, Q s (St.readLoop R (f + 1) s ids acc).1
  | s, [], _ => refl s
  | s, id :: rest, acc => by
    rw [St.readLoop]
    split
    · exact ih ..
    · split
      · exact refl s
      · split
        · exact hrm s id
        · exact trans (hrm s id) (ih ..)
      · split
        · exact refl s
        · exact ih ..
        · exact ih ..

theorem St.readLoop_rel (refl : ∀ s, Q s s) (trans : ∀ {a b c}, Q a b → Q b c → Q a c)
    (hrm : ∀ f s id, Q s (R.rm f s id).1) : ∀ f s ids acc, Q s (St.readLoop R f s ids acc).1
  | 0 => fun s _ _ => refl s
  | f + 1 => St.readLoop_rel_step refl trans (hrm f) (St.readLoop_rel refl trans hrm f)

end Rel

/-! ## the errors of a read -/

section Err
variable {β : Type} {R : ReadOps β} {P : LErr → Prop}

/-- A read fails with the fuel error, or with an error of its expiry check, of a removal, or of its test. As for
`St.readLoop_rel_step`, this is the step of an induction over the fuel. -/
theorem St.readLoop_err_step {f : Nat} (hx : ∀ fact e, R.exp fact = .error e → P e)
    (hrm : ∀ s id e, (R.rm f s id).2 = some e → P e) (ht : ∀ s id fact e, R.test s id fact = .error e → P e)
    (ih : ∀ s ids acc e, (St.readLoop R f s ids acc).2 = .error e → P e) :
    ∀ s ids acc e, (St.readLoop R (f + 1) s ids acc).2 = .error e → P e
  | s, [], _, _ => nofun
  | s, id :: rest, acc, e => by
    rw [St.readLoop]
    split
    · exact ih _ _ _ e
    · next fact _ =>
      split
      · next h => exact fun h' => by cases h'; exact hx fact e h
      · split
        · next h => exact fun h' => by cases h'; exact hrm s id e h
        · exact ih _ _ _ e
      · split
        · next h => exact fun h' => by cases h'; exact ht s id fact e h
        · exact ih _ _ _ e
        · exact ih _ _ _ e

theorem St.readLoop_err (fuel : P "fuel") (hx : ∀ fact e, R.exp fact = .error e → P e)
    (hrm : ∀ f s id e, (R.rm f s id).2 = some e → P e) (ht : ∀ s id fact e, R.test s id fact = .error e → P e) :
    ∀ f s ids acc e, (St.readLoop R f s ids acc).2 = .error e → P e
  | 0 => fun _ _ _ _ h => by cases h; exact fuel
  | f + 1 => St.readLoop_err_step hx (hrm f) ht (St.readLoop_err fuel hx hrm ht f)

end Err
