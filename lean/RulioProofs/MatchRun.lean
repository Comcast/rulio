import RulioProofs.MatchUnfold

/-! # A matcher the kernel can run

`matchJ` and `gmatch` are mutual well-founded recursions, which the kernel does not unfold, so a concrete call cannot
be evaluated.  `evalJ mS` is the matcher over the string case `mS` by structural recursion on the pattern
(its bodies are the right sides of `MatchEqns`), `evalG` the same for `gmatch`.  `evalJ` satisfies the equations, and
the equations have one solution (`MatchEqns.congrJ`): `matchJ = evalJ evalStr`.  A test vector is then
`matchJ_of_eval (by decide +kernel)`. -/

mutual
/-- `gmatch` by structural recursion on the pattern -/
def evalG (p : J) (f : J) : Nat :=
  match p, f with
  | .null, .null => 1
  | .bool a, .bool b => if a == b then 1 else 0
  | .num a, .num b => if a == b then 1 else 0
  | .str a, .str b => if a == b then 1 else 0
  | .obj kvs, .obj f => evalGO kvs f
  | .arr xs, .arr fs => evalGA xs (fs.filter J.isScalar).eraseDups (fs.filter (fun y => !y.isScalar))
  | _, _ => 0
termination_by structural p
def evalGO (kvs : List (String × J)) (f : List (String × J)) : Nat :=
  match kvs with
  | [] => 1
  | (k, v) :: r =>
    match lookupKey k f with
    | none => 0
    | some fv => evalG v fv * evalGO r f
termination_by structural kvs
/-- the pick loop of `gmatchPick` as a sum over the ways to take one structured fact out -/
def evalGA (xs : List J) (sc st : List J) : Nat :=
  match xs with
  | [] => 1
  | x :: xs =>
    if x.isScalar then (if sc.contains x then evalGA xs (sc.erase x) st else 0)
    else ((splitNth st).map (fun fr => evalG x fr.1 * evalGA xs sc fr.2)).sum
termination_by structural xs
end

theorem evalGO_eq_of : ∀ {kvs : List (String × J)}, (∀ kv ∈ kvs, ∀ f, evalG kv.2 f = gmatch kv.2 f) →
    ∀ f, evalGO kvs f = gmatchO kvs f
  | [], _, f => by rw [evalGO.eq_def, gmatchO_nil]
  | (k, v) :: r, ih, f => by
      have ih' := List.forall_mem_cons.1 ih
      rw [evalGO.eq_def, gmatchO_cons]
      simp only [ih'.1, evalGO_eq_of ih'.2]
      rfl

theorem evalGA_eq_of : ∀ {xs : List J}, (∀ x ∈ xs, ∀ f, evalG x f = gmatch x f) →
    ∀ sc st, evalGA xs sc st = gmatchA xs sc st
  | [], _, sc, st => by rw [evalGA.eq_def, gmatchA_nil]
  | x :: xs, ih, sc, st => by
      have ih' := List.forall_mem_cons.1 ih
      rw [evalGA.eq_def, gmatchA_cons, gmatchPick_eq_sum]
      simp only [ih'.1, evalGA_eq_of ih'.2, List.nil_append]

theorem evalG_eq : ∀ (p f : J), evalG p f = gmatch p f :=
  J.ind' (fun f => by rw [evalG.eq_def, gmatch.eq_def]; cases f <;> rfl)
    (fun _ f => by rw [evalG.eq_def, gmatch.eq_def]; cases f <;> rfl)
    (fun _ f => by rw [evalG.eq_def, gmatch.eq_def]; cases f <;> rfl)
    (fun _ f => by rw [evalG.eq_def, gmatch.eq_def]; cases f <;> rfl)
    (fun xs ih f => by
      rw [evalG.eq_def, gmatch.eq_def]
      cases f with
      | arr fs => exact evalGA_eq_of ih _ _
      | _ => rfl)
    (fun kvs ih f => by
      rw [evalG.eq_def, gmatch.eq_def]
      cases f with
      | obj fm => exact evalGO_eq_of ih fm
      | _ => rfl)

/-- `matchStr` over `evalG` -/
def evalStr (s : String) (f : J) (bs : Bs) : Except MErr (List Bs) :=
  if !isVar s then
    (match f with | .str t => if s == t then .ok [bs] else .ok [] | _ => .ok [])
  else if s == "?" then .ok [bs]
  else match bs.get? s with
    | some b => if b.ground then .ok (List.replicate (evalG b f) bs) else .error .nonGround
    | none => .ok [bs.set s f]

theorem evalStr_eq : evalStr = matchStr := by
  funext s f bs
  simp only [evalStr, matchStr, evalG_eq]
  rfl

section
variable (mS : String → J → Bs → Except MErr (List Bs))
mutual
/-- the matcher over the string case `mS`, by structural recursion on the pattern -/
def evalJ (p : J) (f : J) (bs : Bs) : Except MErr (List Bs) :=
  match p with
  | .null => (match f with | .null => .ok [bs] | _ => .ok [])
  | .bool a => (match f with | .bool b => .ok (if a == b then [bs] else []) | _ => .ok [])
  | .num a => (match f with | .num b => .ok (if a == b then [bs] else []) | _ => .ok [])
  | .str s => mS s f bs
  | .obj kvs =>
    (match f with
    | .obj fm =>
      if kvs.isEmpty then .ok [bs]
      else if kvs.length > 1 && kvs.any (fun kv => isVar kv.1) then .error .propVarWithOthers
      else evalO kvs fm [bs]
    | _ => .ok [])
  | .arr xs =>
    (match getVariable xs none with
     | .error e => .error e
     | .ok (v, _) =>
       match f with
       | .arr fa =>
         (evalA xs (fa.filter (fun y => !y.isScalar)).isEmpty
            [([bs], (fa.filter J.isScalar).eraseDups, fa.filter (fun y => !y.isScalar))]) >>= fun branches =>
         match v with
         | none => pure (branches.flatMap (·.1))
         | some v =>
           (branches.mapM (fun br =>
             (splitNth (br.2.2 ++ br.2.1)).mapM (fun fr => br.1.mapM (fun b => mS v fr.1 b)))) >>= fun ext =>
           if (ext.flatMap (fun per => per.flatMap (fun r => r.flatMap id))).isEmpty && isOptVar v
           then pure (branches.flatMap (·.1))
           else pure (ext.flatMap (fun per => per.flatMap (fun r => r.flatMap id)))
       | _ => .ok [])
termination_by structural p
def evalO (kvs : List (String × J)) (fm : List (String × J)) (bss : List Bs) : Except MErr (List Bs) :=
  match kvs with
  | [] => .ok bss
  | (k, v) :: r =>
    if isVar k then
      ((fm.mapM (fun (fk, fv) =>
          (bss.mapM (fun b => mS k (.str fk) b)) >>= fun e1 =>
            if (e1.flatMap id).isEmpty then pure []
            else ((e1.flatMap id).mapM (fun b => evalJ v fv b)) >>= fun e2 => pure (e2.flatMap id))) >>= fun per =>
        pure (per.flatMap id))
    else
      (match lookupKey k fm with
       | none => (match v with
                  | .str s => if isOptVar s then evalO r fm bss else .ok []
                  | _ => .ok [])
       | some fv =>
         (bss.mapM (fun b => evalJ v fv b)) >>= fun acc =>
           if (acc.flatMap id).isEmpty then pure [] else evalO r fm (acc.flatMap id))
termination_by structural kvs
def evalA (xs : List J) (ns : Bool) (branches : List (List Bs × List J × List J)) :
    Except MErr (List (List Bs × List J × List J)) :=
  match xs with
  | [] => .ok branches
  | x :: xs =>
      (if isVarElem x = true then evalA xs ns branches
       else if x.isScalar = true then
         (match branches with
          | [] => .ok []
          | (_, sc, _) :: _ =>
            if sc.contains x then evalA xs ns (branches.map (fun br => (br.1, br.2.1.erase x, br.2.2)))
            else .ok [])
       else if ns = true then .ok [] else
        (branches.mapM (fun br =>
          (splitNth br.2.2).mapM (fun fr =>
            (br.1.mapM (fun b => evalJ x fr.1 b)) >>= fun acc =>
              pure (if (acc.flatMap id).isEmpty then [] else [(acc.flatMap id, br.2.1, fr.2)])))) >>= fun nb =>
        if (nb.flatMap (fun per => per.flatMap id)).isEmpty then pure []
        else evalA xs ns (nb.flatMap (fun per => per.flatMap id)))
termination_by structural xs
end
end

theorem evalJ_eqns (mS : String → J → Bs → Except MErr (List Bs)) :
    MatchEqns mS (evalJ mS) (evalO mS) (evalA mS) where
  null f bs := by rw [evalJ.eq_def]; rfl
  bool a f bs := by rw [evalJ.eq_def]; rfl
  num a f bs := by rw [evalJ.eq_def]; rfl
  str s f bs := by rw [evalJ.eq_def]
  obj kvs f bs := by rw [evalJ.eq_def]; rfl
  arr xs f bs := by rw [evalJ.eq_def]; rfl
  o_nil fm bss := by rw [evalO.eq_def]
  o_cons_const hk v r fm bss := by rw [evalO.eq_def]; simp only [hk, Bool.false_eq_true, if_false]; rfl
  o_cons_var hk v r fm bss := by rw [evalO.eq_def]; simp only [hk, if_true]
  a_nil ns branches := by rw [evalA.eq_def]
  a_cons x xs ns branches := by rw [evalA.eq_def]; rfl

theorem matchJ_eq_eval (p f : J) (bs : Bs) : matchJ p f bs = evalJ evalStr p f bs :=
  evalStr_eq ▸ matchJ_eqns.congrJ (evalJ_eqns matchStr) (StrAgree.refl matchStr) p trivial f bs

attribute [local instance] J.decEq

/-- a concrete call of the matcher, evaluated: `matchJ_of_eval (by decide +kernel)`.  The decision procedure is part
of the statement, so the caller needs no `DecidableEq J` in scope. -/
theorem matchJ_of_eval {p f : J} {bs : Bs} {r : Except MErr (List Bs)}
    (h : decide (evalJ evalStr p f bs = r) = true) : matchJ p f bs = r :=
  (matchJ_eq_eval p f bs).trans (of_decide_eq_true h)

mutual
/-- `pmv` by structural recursion on the pattern; the scan loops of `pmO` (a property variable over the entries of
the data map) and `pmPick` (an array element over the data elements) as `List.any` -/
def evalPmv (σ : Bs) (p d : J) : Bool :=
  match p, d with
  | .null, .null => true
  | .bool a, .bool b => a == b
  | .num a, .num b => a == b
  | .str s, d => pmStr σ s d
  | .obj kvs, .obj dm => evalPmO σ kvs dm dm
  | .arr xs, .arr ds => evalPmA σ xs ds
  | _, _ => false
termination_by structural p
def evalPmO (σ : Bs) (kvs : List (String × J)) (dm rest : List (String × J)) : Bool :=
  match kvs with
  | [] => true
  | (k, v) :: r =>
    if isVar k then rest.any (fun e => pmStr σ k (.str e.1) && evalPmv σ v e.2)
    else (match lookupKey k dm with
       | some dv => evalPmv σ v dv
       | none => false) && evalPmO σ r dm dm
termination_by structural kvs
def evalPmA (σ : Bs) (xs : List J) (ds : List J) : Bool :=
  match xs with
  | [] => true
  | x :: xs => (splitNth ds).any (fun fr => evalPmv σ x fr.1 && evalPmA σ xs fr.2)
termination_by structural xs
end

theorem evalPmO_eq_of (σ : Bs) (dm : List (String × J)) : ∀ {kvs : List (String × J)},
    (∀ kv ∈ kvs, ∀ d, evalPmv σ kv.2 d = pmv σ kv.2 d) → ∀ rest, evalPmO σ kvs dm rest = pmO σ kvs dm rest
  | [], _, rest => by rw [evalPmO.eq_def, pmO_nil]
  | (k, v) :: r, ih, rest => by
      have ih' := List.forall_mem_cons.1 ih
      rw [evalPmO.eq_def]
      cases hk : isVar k with
      | true => simp only [hk, if_true, ih'.1, pmO_cons_var σ hk]
      | false =>
        simp only [hk, Bool.false_eq_true, if_false, ih'.1, evalPmO_eq_of σ dm ih'.2, pmO_cons_const σ hk]
        rfl

theorem evalPmA_eq_of (σ : Bs) : ∀ {xs : List J}, (∀ x ∈ xs, ∀ d, evalPmv σ x d = pmv σ x d) →
    ∀ ds, evalPmA σ xs ds = pmA σ xs ds
  | [], _, ds => by rw [evalPmA.eq_def, pmA_nil]
  | x :: xs, ih, ds => by
      have ih' := List.forall_mem_cons.1 ih
      rw [evalPmA.eq_def, pmA_cons, pmPick_eq_any]
      simp only [ih'.1, evalPmA_eq_of σ ih'.2, List.nil_append]

theorem pmv_eq_eval (σ : Bs) : ∀ (p d : J), pmv σ p d = evalPmv σ p d :=
  J.ind' (fun d => by rw [evalPmv.eq_def, pmv.eq_def]; cases d <;> rfl)
    (fun _ d => by rw [evalPmv.eq_def, pmv.eq_def]; cases d <;> rfl)
    (fun _ d => by rw [evalPmv.eq_def, pmv.eq_def]; cases d <;> rfl)
    (fun _ d => by rw [evalPmv.eq_def, pmv_str])
    (fun xs ih d => by
      rw [evalPmv.eq_def, pmv_arr]
      cases d with
      | arr ds => exact (evalPmA_eq_of σ (fun x hx d => (ih x hx d).symm) ds).symm
      | _ => rfl)
    (fun kvs ih d => by
      rw [evalPmv.eq_def, pmv_obj]
      cases d with
      | obj dm => exact (evalPmO_eq_of σ dm (fun kv hkv d => (ih kv hkv d).symm) dm).symm
      | _ => rfl)
