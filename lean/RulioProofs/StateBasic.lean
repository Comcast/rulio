import RulioModel.StateInv
import RulioProofs.AssocMap

/-! # Association-list and term-index lemmas; the equations of `Get` (core Lean only) -/

/-- `m` without the entries whose key is in `D` -/
def filterOut {α} (D : List String) (m : List (String × α)) : List (String × α) :=
  m.filter (fun e => !D.contains e.1)

theorem filterOut_nil {α} (m : List (String × α)) : filterOut [] m = m := by
  simp [filterOut]

theorem filterOut_filterOut {α} (D D' : List String) (m : List (String × α)) :
    filterOut D (filterOut D' m) = filterOut (D' ++ D) m := by
  simp only [filterOut, List.filter_filter]
  apply List.filter_congr
  intro e _
  simp [Bool.and_comm]

theorem amErase_eq_filterOut {α} (m : List (String × α)) (k : String) : amErase m k = filterOut [k] m := by
  simp only [amErase, filterOut]
  apply List.filter_congr
  intro e _
  by_cases h : e.1 = k <;> simp [h]

theorem mem_filterOut {α} {D : List String} {m : List (String × α)} {e : String × α} :
    e ∈ filterOut D m ↔ e ∈ m ∧ e.1 ∉ D := by
  simp [filterOut]

theorem filterOut_sublist {α} (D : List String) (m : List (String × α)) : (filterOut D m).Sublist m :=
  List.filter_sublist

theorem amErase_of_not_mem {α} (m : List (String × α)) (k : String) (h : k ∉ m.map (·.1)) : amErase m k = m := by
  simp only [amErase]
  apply List.filter_eq_self.2
  intro e he
  simp only [bne_iff_ne, ne_eq]
  intro hk
  exact h (List.mem_map.2 ⟨e, he, hk⟩)

theorem filterOut_of_not_mem {α} {m : List (String × α)} {k : String} (h : k ∉ m.map (·.1)) : filterOut [k] m = m := by
  rw [← amErase_eq_filterOut]; exact amErase_of_not_mem m k h

theorem amGet_filterOut {α} (D : List String) (m : List (String × α)) (k : String) :
    amGet (filterOut D m) k = if k ∈ D then none else amGet m k := by
  rw [filterOut, AM.amGet_filter (fun x => !D.contains x)]
  by_cases h : k ∈ D <;> simp [h]

theorem length_amErase_of_mem {α} (m : List (String × α)) (k : String)
    (hn : (m.map (·.1)).Nodup) (h : k ∈ m.map (·.1)) : (amErase m k).length + 1 = m.length := by
  have h1 : (amErase m k).length = ((m.map (·.1)).erase k).length := by
    rw [hn.erase_eq_filter, ← List.length_map (·.1)]; exact congrArg _ (AM.amKeys_amErase m k)
  have := List.length_pos_of_mem h
  rw [h1, List.length_erase_of_mem h]
  rw [List.length_map] at this ⊢
  omega

theorem tiWidth_le_iff {ti : TI} {n : Nat} : tiWidth ti ≤ n ↔ ∀ e, e ∈ ti → e.2.length ≤ n := by
  induction ti with
  | nil => simp [tiWidth]
  | cons e0 r ih =>
    obtain ⟨t0, ids0⟩ := e0
    simp only [tiWidth, Nat.max_le, ih, List.mem_cons, forall_eq_or_imp]

theorem tiWidth_le_of_mem {ti : TI} {e : String × List String} (h : e ∈ ti) : e.2.length ≤ tiWidth ti :=
  tiWidth_le_iff.1 (Nat.le_refl _) e h

/-- `id` is listed under the term `t` (membership in `TI.ids`: `TI.has_iff`) -/
def TI.has (ti : TI) (t id : String) : Prop := ∃ ids, amGet ti t = some ids ∧ id ∈ ids

/-! ## the term index through its lookup

`TI.add` and `TI.rem` change the list under one term and no other (`TI.ids_add`, `TI.ids_rem`); `TI.search` is the
intersection of the lists under its terms, taken in the order of the first (`TI.search_eq`). `TINodup` and the bound
`tiWidth` speak of every entry: `TI.All`. -/

def TI.ids (ti : TI) (t : String) : List String := (amGet ti t).getD []

/-- `id` joins a list that stands for a set -/
def TI.ins (id : String) (l : List String) : List String := if l.contains id then l else l ++ [id]

theorem TI.mem_ins {id y : String} {l : List String} : y ∈ TI.ins id l ↔ y ∈ l ∨ y = id := by
  unfold TI.ins; split
  · next h => exact ⟨.inl, fun h' => h'.elim (fun a => a) fun e => e ▸ List.contains_iff_mem.1 h⟩
  · simp

theorem TI.nodup_ins {id : String} {l : List String} (h : l.Nodup) : (TI.ins id l).Nodup := by
  unfold TI.ins; split
  · exact h
  · next hc => exact List.nodup_append.2 ⟨h, by simp, fun a ha b hb => by
      rintro rfl; exact hc (by simpa using List.mem_singleton.1 hb ▸ ha)⟩

theorem TI.has_iff {ti : TI} {t id : String} : TI.has ti t id ↔ id ∈ TI.ids ti t := by
  unfold TI.has TI.ids; cases amGet ti t <;> simp

theorem TI.ids_mem (ti : TI) (t : String) : TI.ids ti t = [] ∨ (t, TI.ids ti t) ∈ ti := by
  unfold TI.ids
  cases h : amGet ti t with
  | none => exact .inl rfl
  | some l => exact .inr (AM.amGet_mem h)

theorem TI.add_eq (ti : TI) (t id : String) : TI.add ti t id = amSet ti t (TI.ins id (TI.ids ti t)) := by
  unfold TI.add TI.ids
  cases h : amGet ti t with
  | none => exact (AM.amSet_of_none h _).symm
  | some l => rfl

theorem TI.rem_eq (ti : TI) (t id : String) : TI.rem ti t id =
    if ((TI.ids ti t).erase id).isEmpty then amErase ti t else amSet ti t ((TI.ids ti t).erase id) := by
  unfold TI.rem TI.ids
  cases h : amGet ti t with
  | none => exact (amErase_of_not_mem ti t ((AM.amGet_eq_none_iff ti t).1 h)).symm
  | some l => rfl

theorem TI.ids_add (ti : TI) (t id t' : String) :
    TI.ids (TI.add ti t id) t' = if t' = t then TI.ins id (TI.ids ti t) else TI.ids ti t' := by
  rw [TI.add_eq, TI.ids, AM.amGet_amSet]; split <;> rfl

theorem TI.ids_rem (ti : TI) (t id t' : String) :
    TI.ids (TI.rem ti t id) t' = if t' = t then (TI.ids ti t).erase id else TI.ids ti t' := by
  rw [TI.rem_eq]
  split
  · next h =>
    rw [TI.ids, AM.amGet_amErase]
    split
    · exact (List.isEmpty_iff.1 h).symm
    · rfl
  · rw [TI.ids, AM.amGet_amSet]; split <;> rfl

def TI.All (P : List String → Prop) (ti : TI) : Prop := ∀ e, e ∈ ti → P e.2

theorem TI.All.add {P : List String → Prop} {ti : TI} (h : TI.All P ti) (t id : String)
    (hP : ∀ l, (l = [] ∨ P l) → P (TI.ins id l)) : TI.All P (TI.add ti t id) := by
  intro e he
  rw [TI.add_eq] at he
  rcases AM.mem_amSet he with rfl | he
  · exact hP _ ((TI.ids_mem ti t).imp (fun a => a) (h _))
  · exact h e he.1

theorem TI.All.rem {P : List String → Prop} {ti : TI} (h : TI.All P ti) (t id : String)
    (hP : ∀ l, P l → P (l.erase id)) : TI.All P (TI.rem ti t id) := by
  intro e he
  rw [TI.rem_eq] at he
  split at he
  · exact h e (List.mem_filter.1 he).1
  · next hne =>
    rcases AM.mem_amSet he with rfl | he
    · rcases TI.ids_mem ti t with h0 | h0
      · rw [h0] at hne; exact absurd rfl hne
      · exact hP _ (h _ h0)
    · exact h e he.1

/-- an `Add` lists `id` under the terms of its fact and changes nothing else -/
theorem TI.has_foldl_add {terms : List String} {ti : TI} {t' id y : String} :
    TI.has (terms.foldl (fun ti t => TI.add ti t id) ti) t' y ↔ TI.has ti t' y ∨ (y = id ∧ t' ∈ terms) := by
  induction terms generalizing ti with
  | nil => simp
  | cons t r ih =>
    rw [List.foldl_cons, ih, TI.has_iff, TI.has_iff, TI.ids_add]
    split
    · next h => subst h; simp only [TI.mem_ins, List.mem_cons, true_or, and_true, or_assoc, or_iff_left_of_imp And.left]
    · next h => simp only [List.mem_cons, h, false_or]

theorem TI.has_foldl_rem {terms : List String} {ti : TI} {t' id y : String} (hy : y ≠ id) :
    TI.has (terms.foldl (fun ti t => TI.rem ti t id) ti) t' y ↔ TI.has ti t' y := by
  induction terms generalizing ti with
  | nil => rfl
  | cons t r ih =>
    rw [List.foldl_cons, ih, TI.has_iff, TI.has_iff, TI.ids_rem]
    split
    · next h => subst h; exact List.mem_erase_of_ne hy
    · rfl

theorem TI.All.foldl_add {P : List String → Prop} {ti : TI} (h : TI.All P ti) (terms : List String) (id : String)
    (hP : ∀ l, (l = [] ∨ P l) → P (TI.ins id l)) : TI.All P (terms.foldl (fun ti t => TI.add ti t id) ti) :=
  List.foldlRecOn (motive := TI.All P) terms _ h fun _ hb t _ => hb.add t id hP

theorem TI.All.foldl_rem {P : List String → Prop} {ti : TI} (h : TI.All P ti) (terms : List String) (id : String)
    (hP : ∀ l, P l → P (l.erase id)) : TI.All P (terms.foldl (fun ti t => TI.rem ti t id) ti) :=
  List.foldlRecOn (motive := TI.All P) terms _ h fun _ hb t _ => hb.rem t id hP

theorem tiWidth_foldl_rem_le (terms : List String) (ti : TI) (id : String) :
    tiWidth (terms.foldl (fun ti t => TI.rem ti t id) ti) ≤ tiWidth ti :=
  tiWidth_le_iff.2 (TI.All.foldl_rem (P := fun l => l.length ≤ tiWidth ti) (fun _ => tiWidth_le_of_mem) terms id
    fun _ hl => Nat.le_trans List.erase_sublist.length_le hl)

theorem foldl_filter_sublist {α} (fs : List (α → Bool)) (l : List α) :
    (fs.foldl (fun acc f => acc.filter f) l).Sublist l := by
  induction fs generalizing l with
  | nil => exact List.Sublist.refl _
  | cons f r ih => exact (ih _).trans List.filter_sublist

theorem foldl_filter_eq {α β} (g : β → α → Bool) : ∀ (bs : List β) (l : List α),
    bs.foldl (fun acc b => acc.filter (g b)) l = l.filter fun a => bs.all (g · a)
  | [], l => (List.filter_eq_self.2 fun _ _ => rfl).symm
  | b :: r, l => by
    rw [List.foldl_cons, foldl_filter_eq g r, List.filter_filter]
    exact List.filter_congr fun a _ => by simp [Bool.and_comm]

theorem TI.search_eq (ti : TI) (t : String) (ts : List String) : TI.search ti (t :: ts) =
    .ok ((TI.ids ti t).filter fun i => ts.all fun t' => (TI.ids ti t').contains i) :=
  congrArg Except.ok (foldl_filter_eq (fun t' i => (TI.ids ti t').contains i) ts _)

theorem TI.mem_search {ti : TI} {terms ids : List String} (h : TI.search ti terms = .ok ids) (id : String) :
    id ∈ ids ↔ terms ≠ [] ∧ ∀ t ∈ terms, TI.has ti t id := by
  cases terms with
  | nil => cases h
  | cons t ts =>
    cases (TI.search_eq ti t ts).symm.trans h
    simp [TI.has_iff]

theorem TI.search_complete {ti : TI} {terms : List String} {id : String} (hne : terms ≠ [])
    (h : ∀ t, t ∈ terms → TI.has ti t id) : ∃ ids, TI.search ti terms = .ok ids ∧ id ∈ ids := by
  cases terms with
  | nil => exact absurd rfl hne
  | cons t ts => exact ⟨_, TI.search_eq ti t ts, (TI.mem_search (TI.search_eq ti t ts) id).2 ⟨hne, h⟩⟩

theorem St.get_eq (s : St) (id : String) (now : Int) :
    s.get id now =
      match amGet s.facts id with
      | none => (s, .error "notFound")
      | some fact =>
        match checkExpiration fact now with
        | .error e => (s, .error e)
        | .ok true =>
          (match s.rem id now with
           | (s1, .error e) => (s1, .error e)
           | (s1, .ok _) => (s1, .error "notFound"))
        | .ok false => (s, .ok fact) := by
  unfold St.get St.rem St.iGet St.lGet
  cases s.kind <;> rfl

/-- what is gone afterwards: `St.get_expired` (LocState), `St.get_expired_indexed` (CloseExpiry); against the
specification of the cascade: `getOK_expired` (StateC08) -/
theorem St.get_of_expired {s : St} {id : String} {f : Obj} {now : Int}
    (hg : amGet s.facts id = some f) (hx : checkExpiration f now = .ok true) :
    (s.get id now).1 = (s.rem id now).1 ∧ ∃ e, (s.get id now).2 = .error e := by
  rw [St.get_eq, hg]
  simp only [hx]
  rcases s.rem id now with ⟨s1, e | b⟩
  · exact ⟨rfl, e, rfl⟩
  · exact ⟨rfl, _, rfl⟩

theorem St.get_live {s : St} {id : String} {f : Obj} {now : Int} (hg : amGet s.facts id = some f)
    (he : checkExpiration f now = .ok false) : s.get id now = (s, .ok f) := by
  rw [St.get_eq, hg]
  simp only [he]

theorem St.get_absent {s : St} {id : String} {now : Int} (hg : amGet s.facts id = none) :
    s.get id now = (s, .error "notFound") := by
  rw [St.get_eq, hg]

theorem St.get_eq_ok {s s' : St} {id : String} {now : Int} {f : Obj} :
    s.get id now = (s', .ok f) ↔ s' = s ∧ amGet s.facts id = some f ∧ checkExpiration f now = .ok false := by
  refine ⟨fun h => ?_, fun ⟨hs, hg, hc⟩ => by rw [hs]; exact St.get_live hg hc⟩
  rw [St.get_eq] at h
  split at h
  · cases h
  next fact hg =>
  split at h
  · cases h
  · split at h <;> cases h
  · next hc => cases h; exact ⟨rfl, hg, hc⟩

/-! ## the second names

`St.fuelOK`, `St.remOK`, `St.getOK`, `St.searchOK` (RulioModel/StateInv) are the model's `St.fuel`, `St.rem`, `St.get`,
`St.search` under a second name: what is proved of one holds of the other. `St.remWith`, `St.searchWith` take the budget
as an argument; `St.searchOK s` is `St.searchWith s.fuelOK s` by `rfl`, and `St.search` is reached from there by
`St.search_eq_searchWith`. -/

theorem St.rem_eq_remOK (s : St) (id : String) (now : Int) : s.rem id now = s.remOK id now := by
  unfold St.rem St.remOK; cases s.kind <;> rfl

theorem St.remOK_eq_remWith (s : St) (id : String) (now : Int) : s.remOK id now = s.remWith s.fuelOK id now := rfl

theorem St.fuel_eq_fuelOK (s : St) : s.fuel = s.fuelOK := rfl

theorem St.get_eq_getOK (s : St) (id : String) (now : Int) : s.get id now = s.getOK id now := by
  rw [St.get_eq, St.rem_eq_remOK]
  rfl

theorem St.search_eq_searchWith (s : St) (p : Obj) (now : Int) : s.search p now = s.searchWith s.fuel p now := by
  unfold St.search St.searchWith; cases s.kind <;> rfl

theorem St.fuel_succ (s : St) : s.fuel = (6 * s.facts.length + 11 + tiWidth s.ti) + 1 := by unfold St.fuel; omega
