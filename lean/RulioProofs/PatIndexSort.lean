import RulioModel.PatIndexSpec
import RulioProofs.JsonBase
import Mathlib.Data.List.Perm.Subperm

/-! # Pattern index: sorting (`isort`, `mapToPairs`, `sortValues`) and the fragments `IdxOK` / `EvOK` unpacked

What the rest of the index argument uses of sorting: the sorted list is a permutation (`isort_perm`,
`mapToPairs_perm`, `sortValues_perm`), map pairs come out ordered by key (`mapToPairs_sorted`), and sorting a
sub-multiset gives a sublist of the sorted whole (`sorted_sublist`).  Everything stands in `namespace PI`, the lemmas about
`isort`, `mapToPairs`, `sortValues` too. -/

open List

namespace PI

section isort
variable {α : Type} (lt : α → α → Bool)

theorem insSorted_perm (x : α) : ∀ l : List α, (insSorted lt x l).Perm (x :: l)
  | [] => .refl _
  | y :: ys => by
    simp only [insSorted]; split
    · exact .refl _
    · exact ((insSorted_perm x ys).cons y).trans (.swap x y ys)

theorem isort_perm : ∀ l : List α, (isort lt l).Perm l
  | [] => .refl _
  | x :: xs => (insSorted_perm lt x _).trans ((isort_perm xs).cons x)

variable {lt}
variable (htr : ∀ a b c, lt a b = true → lt b c = true → lt a c = true)
variable (hasym : ∀ a b, lt a b = true → lt b a = false)
include htr hasym

theorem insSorted_pairwise (x : α) : ∀ l : List α, l.Pairwise (fun a b => lt b a = false) →
    (insSorted lt x l).Pairwise (fun a b => lt b a = false)
  | [], _ => List.pairwise_singleton _ _
  | y :: ys, h => by
    obtain ⟨h1, h2⟩ := List.pairwise_cons.1 h
    simp only [insSorted]; split
    · next hxy =>
      refine List.pairwise_cons.2 ⟨?_, h⟩
      intro z hz
      rcases List.mem_cons.1 hz with rfl | hz
      · exact hasym _ _ hxy
      · -- `z < x < y` would contradict `¬ z < y`
        cases hzx : lt z x with
        | false => rfl
        | true => exact absurd (htr z x y hzx hxy) (Bool.eq_false_iff.1 (h1 z hz))
    · next hxy =>
      refine List.pairwise_cons.2 ⟨?_, insSorted_pairwise x ys h2⟩
      intro z hz
      rcases List.mem_cons.1 ((insSorted_perm lt x ys).mem_iff.1 hz) with rfl | hz
      · exact Bool.eq_false_iff.mpr hxy
      · exact h1 z hz

theorem isort_pairwise : ∀ l : List α, (isort lt l).Pairwise (fun a b => lt b a = false)
  | [] => .nil
  | x :: xs => insSorted_pairwise htr hasym x _ (isort_pairwise xs)

end isort

/-- a sorted sub-multiset of a sorted list is a sublist (antisymmetry needed on the members only) -/
theorem sublist_of_subperm_of_pairwise {α : Type} {R : α → α → Prop} {l1 l2 : List α} (h : l1 <+~ l2)
    (h1 : l1.Pairwise R) (h2 : l2.Pairwise R) (has : ∀ a ∈ l2, ∀ b ∈ l2, R a b → R b a → a = b) : l1 <+ l2 := by
  obtain ⟨l, hl, hsub⟩ := h
  rw [← hl.eq_of_pairwise (fun a b ha hb => has a (hsub.subset ha) b (hsub.subset (hl.mem_iff.2 hb)))
    (h2.sublist hsub) h1]
  exact hsub

theorem mapToPairs_perm (l : List (String × J)) : (mapToPairs l).Perm l := isort_perm _ l

theorem mapToPairs_sorted (l : List (String × J)) :
    (mapToPairs l).Pairwise (fun a b => ¬ b.1 < a.1) := by
  refine (isort_pairwise (lt := fun (a b : String × J) => decide (a.1 < b.1)) ?_ ?_ l).imp
    (fun h => of_decide_eq_false h)
  · exact fun a b c h1 h2 => decide_eq_true (String.lt_trans (of_decide_eq_true h1) (of_decide_eq_true h2))
  · exact fun a b h => decide_eq_false (String.lt_asymm (of_decide_eq_true h))

/-! ## the orders of `sortValues` -/

section ltVia
variable {β : Type} {f : J → Option β} {r : β → β → Bool}

/-- `r` on what `f` takes out of `a` and `b`, false unless it takes something out of both: the shape of the three orders
of `sortValues` -/
def ltVia (f : J → Option β) (r : β → β → Bool) (a b : J) : Bool :=
  match f a, f b with
  | some x, some y => r x y
  | _, _ => false

theorem ltVia_some {a b : J} {x y : β} (ha : f a = some x) (hb : f b = some y) : ltVia f r a b = r x y := by
  unfold ltVia; rw [ha, hb]

theorem ltVia_true {a b : J} (h : ltVia f r a b = true) : ∃ x y, f a = some x ∧ f b = some y ∧ r x y = true := by
  unfold ltVia at h
  split at h
  · exact ⟨_, _, ‹_›, ‹_›, h⟩
  · cases h

theorem ltVia_trans (htr : ∀ x y z, r x y = true → r y z = true → r x z = true) (a b c : J)
    (h1 : ltVia f r a b = true) (h2 : ltVia f r b c = true) : ltVia f r a c = true := by
  obtain ⟨x, y, ha, hb, hxy⟩ := ltVia_true h1
  obtain ⟨y', z, hb', hc, hyz⟩ := ltVia_true h2
  rw [hb] at hb'; cases hb'
  rw [ltVia_some ha hc]; exact htr x y z hxy hyz

theorem ltVia_asymm (has : ∀ x y, r x y = true → r y x = false) (a b : J) (h : ltVia f r a b = true) :
    ltVia f r b a = false := by
  obtain ⟨x, y, ha, hb, hxy⟩ := ltVia_true h
  rw [ltVia_some hb ha]; exact has x y hxy

theorem ltVia_total (htot : ∀ x y, r x y = false → r y x = false → x = y) {a b : J} {x y : β}
    (ha : f a = some x) (hb : f b = some y) (h1 : ltVia f r a b = false) (h2 : ltVia f r b a = false) : x = y := by
  rw [ltVia_some ha hb] at h1; rw [ltVia_some hb ha] at h2
  exact htot x y h1 h2

end ltVia

def strOf : J → Option String | .str x => some x | _ => none
def numOf : J → Option Int | .num x => some x | _ => none
def boolOf : J → Option Bool | .bool x => some x | _ => none

/-- the order `SortValues` uses for type code `k` -/
def ltOf (k : Nat) : J → J → Bool :=
  match k with
  | 1 => ltVia strOf (fun x y => x < y)
  | 2 => ltVia numOf (fun x y => x < y)
  | _ => ltVia boolOf (fun x y => !x && y)

theorem ltOf_trans (k : Nat) (a b c : J) : ltOf k a b = true → ltOf k b c = true → ltOf k a c = true := by
  unfold ltOf
  split
  · refine ltVia_trans (fun x y z h1 h2 => ?_) a b c
    exact decide_eq_true (String.lt_trans (of_decide_eq_true h1) (of_decide_eq_true h2))
  · refine ltVia_trans (fun x y z h1 h2 => ?_) a b c
    exact decide_eq_true (Int.lt_trans (of_decide_eq_true h1) (of_decide_eq_true h2))
  · exact ltVia_trans (by decide) a b c

theorem ltOf_asymm (k : Nat) (a b : J) : ltOf k a b = true → ltOf k b a = false := by
  unfold ltOf
  split
  · refine ltVia_asymm (fun x y h => ?_) a b
    exact decide_eq_false (String.lt_asymm (of_decide_eq_true h))
  · refine ltVia_asymm (fun x y h => ?_) a b
    exact decide_eq_false (Int.lt_asymm (of_decide_eq_true h))
  · exact ltVia_asymm (by decide) a b

theorem ltOf_total {k : Nat} (hk : k ≠ 0) {a b : J} (ha : typeCode a = k) (hb : typeCode b = k)
    (h1 : ltOf k a b = false) (h2 : ltOf k b a = false) : a = b := by
  subst ha
  unfold ltOf at h1 h2
  cases a with
  | str x =>
    cases b with
    | str y =>
      refine congrArg J.str (ltVia_total (f := strOf) (fun x y h1 h2 => ?_) rfl rfl h1 h2)
      exact String.le_antisymm (String.not_lt.1 (of_decide_eq_false h2)) (String.not_lt.1 (of_decide_eq_false h1))
    | _ => cases hb
  | num x =>
    cases b with
    | num y =>
      refine congrArg J.num (ltVia_total (f := numOf) (fun x y h1 h2 => ?_) rfl rfl h1 h2)
      exact Int.le_antisymm (Int.not_lt.1 (of_decide_eq_false h2)) (Int.not_lt.1 (of_decide_eq_false h1))
    | _ => cases hb
  | bool x =>
    cases b with
    | bool y => exact congrArg J.bool (ltVia_total (f := boolOf) (by decide) rfl rfl h1 h2)
    | _ => cases hb
  | _ => exact absurd rfl hk

theorem sortValues_short {xs : List J} (h : xs.length ≤ 1) : sortValues xs = .ok xs := by
  unfold sortValues; simp [h]

theorem sortValues_long {xs : List J} (h : ¬ xs.length ≤ 1) :
    sortValues xs =
      if typeCode xs.head! == 0 || xs.any (fun x => typeCode x != typeCode xs.head!) then .error .notSortable
      else .ok (isort (ltOf (typeCode xs.head!)) xs) := by
  unfold sortValues
  simp only [h, if_false]
  split
  · rfl
  · generalize typeCode xs.head! = k
    -- the three comparison functions written out in `sortValues` are `ltOf 1`, `ltOf 2` and `ltOf _`
    have e1 : (fun a b : J => match a, b with | .str x, .str y => decide (x < y) | _, _ => false) = ltOf 1 := by
      funext a b
      cases a with
      | str x => cases b <;> rfl
      | _ => rfl
    have e2 : (fun a b : J => match a, b with | .num x, .num y => decide (x < y) | _, _ => false) = ltOf 2 := by
      funext a b
      cases a with
      | num x => cases b <;> rfl
      | _ => rfl
    have e3 : (fun a b : J => match a, b with | .bool x, .bool y => !x && y | _, _ => false) = ltOf 0 := by
      funext a b
      cases a with
      | bool x => cases b <;> rfl
      | _ => rfl
    match k with
    | 0 => exact congrArg (fun lt => Except.ok (isort lt xs)) e3
    | 1 => exact congrArg (fun lt => Except.ok (isort lt xs)) e1
    | 2 => exact congrArg (fun lt => Except.ok (isort lt xs)) e2
    | n + 3 => exact congrArg (fun lt => Except.ok (isort lt xs)) e3

theorem sortValues_ok {xs s : List J} (h : sortValues xs = .ok s) :
    (xs.length ≤ 1 ∧ s = xs) ∨
    (typeCode xs.head! ≠ 0 ∧ (∀ x ∈ xs, typeCode x = typeCode xs.head!) ∧ s = isort (ltOf (typeCode xs.head!)) xs) := by
  by_cases hl : xs.length ≤ 1
  · rw [sortValues_short hl] at h; cases h; exact .inl ⟨hl, rfl⟩
  · rw [sortValues_long hl] at h
    split at h
    · cases h
    · next hc =>
      cases h
      simp only [Bool.or_eq_true, beq_iff_eq, List.any_eq_true, bne_iff_ne, not_or, not_exists, not_and,
        not_not] at hc
      exact .inr ⟨hc.1, hc.2, rfl⟩

theorem sortValues_perm {xs s : List J} (h : sortValues xs = .ok s) : s.Perm xs := by
  rcases sortValues_ok h with ⟨_, rfl⟩ | ⟨_, _, rfl⟩
  · exact .refl _
  · exact isort_perm _ _

theorem pairwise_of_length_le_one {α : Type} {R : α → α → Prop} : ∀ {l : List α}, l.length ≤ 1 → l.Pairwise R
  | [], _ => .nil
  | [x], _ => List.pairwise_singleton _ _
  | _ :: _ :: _, h => absurd h (by simp)

theorem sortValues_sorted {l l' : List J} {tc : Nat} (h : sortValues l = .ok l') (htc : ∀ x ∈ l, typeCode x = tc) :
    l'.Pairwise (fun a b => ltOf tc b a = false) := by
  rcases sortValues_ok h with ⟨hl, rfl⟩ | ⟨_, _, rfl⟩
  · exact pairwise_of_length_le_one hl
  · match l, htc with
    | [], _ => exact .nil
    | x :: r, htc =>
      rw [show typeCode (x :: r).head! = tc from htc x List.mem_cons_self]
      exact isort_pairwise (ltOf_trans tc) (ltOf_asymm tc) _

theorem sorted_sublist {xs ys xs' ys' : List J} (hsp : xs <+~ ys)
    (hx : sortValues xs = .ok xs') (hy : sortValues ys = .ok ys') : xs' <+ ys' := by
  have hpx := sortValues_perm hx
  have hpy := sortValues_perm hy
  have hsp' : xs' <+~ ys' := (hpx.subperm.trans hsp).trans hpy.symm.subperm
  -- the members of `ys` have one type code `tc`, sortable unless `ys` is short
  obtain ⟨tc, htc, hok⟩ : ∃ tc, (∀ y ∈ ys, typeCode y = tc) ∧ (tc ≠ 0 ∨ ys.length ≤ 1) := by
    rcases sortValues_ok hy with ⟨hl, _⟩ | ⟨h0, hall, _⟩
    · match ys, hl with
      | [], hl => exact ⟨0, by simp, .inr hl⟩
      | [y], hl => exact ⟨typeCode y, by simp, .inr hl⟩
    · exact ⟨_, hall, .inl h0⟩
  apply sublist_of_subperm_of_pairwise hsp' (sortValues_sorted hx fun x hx => htc x (hsp.subset hx))
    (sortValues_sorted hy htc)
  intro a ha b hb h1 h2
  rcases hok with hok | hok
  · exact ltOf_total hok (htc a (hpy.mem_iff.1 ha)) (htc b (hpy.mem_iff.1 hb)) h2 h1
  · have hlen : ys'.length ≤ 1 := by rw [hpy.length_eq]; exact hok
    match ys', hlen, ha, hb with
    | [y], _, ha, hb => rw [List.mem_singleton.1 ha, List.mem_singleton.1 hb]

/-! ## the fragments, unpacked -/

theorem idxOKO_mem {l : List (String × J)} : idxOKO l = true →
    ∀ kv ∈ l, isVar kv.1 = false ∧ idxOKv kv.2 = true :=
  (keyedAll_iff (by rw [idxOKO]) (fun _ _ _ => by rw [idxOKO])).1

theorem evOKO_iff {l : List (String × J)} :
    evOKO l = true ↔ ∀ kv ∈ l, isVar kv.1 = false ∧ evOKv kv.2 = true :=
  keyedAll_iff (by rw [evOKO]) (fun _ _ _ => by rw [evOKO])

theorem evOKO_append {a b : List (String × J)} (ha : evOKO a = true) (hb : evOKO b = true) :
    evOKO (a ++ b) = true := by
  rw [evOKO_iff] at *
  intro kv hkv
  rcases List.mem_append.1 hkv with h | h
  · exact ha kv h
  · exact hb kv h

theorem evOKO_mapToPairs {l : List (String × J)} (h : evOKO l = true) : evOKO (mapToPairs l) = true := by
  rw [evOKO_iff] at *
  exact fun kv hkv => h kv ((mapToPairs_perm l).mem_iff.1 hkv)

theorem nodupKeys_nodup {l : List (String × J)} : nodupKeys l = true → (l.map (·.1)).Nodup :=
  keysNodup_of (fun _ _ _ => by rw [nodupKeys])

theorem sortableConsts_unpack {l : List J} (h : sortableConsts l = true) :
    (∀ x ∈ l, x.isScalar = true ∧ isVarJ x = false) ∧
    (l.length ≤ 1 ∨ (typeCode l.head! ≠ 0 ∧ ∀ x ∈ l, typeCode x = typeCode l.head!)) := by
  simp only [sortableConsts, Bool.and_eq_true, List.all_eq_true, Bool.not_eq_true', Bool.or_eq_true,
    decide_eq_true_eq, bne_iff_ne, ne_eq, beq_iff_eq] at h
  exact ⟨fun x hx => h.1 x hx, h.2⟩

theorem sortableConsts_singleton {x : J} (hs : x.isScalar = true) (hv : isVarJ x = false) :
    sortableConsts [x] = true := by
  simp [sortableConsts, hs, hv]

theorem sortValues_ok_of_sortable {l : List J} (h : sortableConsts l = true) : ∃ l', sortValues l = .ok l' := by
  by_cases hl : l.length ≤ 1
  · exact ⟨l, sortValues_short hl⟩
  · rcases (sortableConsts_unpack h).2 with h2 | ⟨h2, h3⟩
    · exact absurd h2 hl
    · refine ⟨isort (ltOf (typeCode l.head!)) l, ?_⟩
      rw [sortValues_long hl, if_neg]
      simp only [Bool.or_eq_true, beq_iff_eq, List.any_eq_true, bne_iff_ne, not_or, not_exists, not_and, not_not]
      exact ⟨h2, h3⟩

theorem evOKA_cases {ys : List J} (h : evOKA ys = true) : ys.length ≤ 1 ∨ sortableConsts ys = true := by
  match ys, h with
  | [], _ => exact .inl (Nat.zero_le _)
  | [y], _ => exact .inl (Nat.le_refl _)
  | y1 :: y2 :: r, h => rw [evOKA] at h; exact .inr h

theorem evOKA_sortValues {ys : List J} (h : evOKA ys = true) : ∃ ys', sortValues ys = .ok ys' := by
  rcases evOKA_cases h with hl | hs
  · exact ⟨ys, sortValues_short hl⟩
  · exact sortValues_ok_of_sortable hs

theorem evOKv_of_scalar {y : J} (hs : y.isScalar = true) (hv : isVarJ y = false) : evOKv y = true := by
  cases y with
  | str s => simpa [evOKv, isVarJ] using hv
  | arr l => cases hs
  | obj l => cases hs
  | _ => rfl

theorem evOKA_mem {ys : List J} (h : evOKA ys = true) : ∀ y ∈ ys, evOKv y = true := by
  match ys, h with
  | [], _ => simp
  | [y], h =>
    simp only [evOKA, Bool.and_eq_true] at h
    intro y' hy'; rw [List.mem_singleton.1 hy']; exact h.2
  | y1 :: y2 :: r, h =>
    rw [evOKA] at h
    intro y hy
    obtain ⟨hs, hv⟩ := (sortableConsts_unpack h).1 y hy
    exact evOKv_of_scalar hs hv

theorem evOKO_elems {k : String} (hk : isVar k = false) {xs s : List J} (hxs : evOKA xs = true)
    (hs : sortValues xs = .ok s) : evOKO (s.map (fun x => (k, x))) = true := by
  rw [evOKO_iff]
  intro kv hkv
  obtain ⟨x, hx, rfl⟩ := List.mem_map.1 hkv
  exact ⟨hk, evOKA_mem hxs x ((sortValues_perm hs).mem_iff.1 hx)⟩

end PI
