import RulioProofs.StateAll

open AM

/-! # Reload of the linear state: `lLoad` unwraps the stored documents (`lLoad_go_eq`); every history keeps storage
the list image of memory (`StoreEq`) and the linear state free of indexes (`LinIdx`), so the reload of a linear state
is that state (`reload_linear_id`) -/

/-- the map a stored document wraps; `lLoad` answers `"unmarshal"` for a document that is none -/
def unObj : J → Obj
  | .obj o => o
  | _ => []

theorem StoreOK.all_obj {s : St} (ok : StoreOK s) : ∀ p ∈ s.store, ∃ o, p.2 = .obj o := by
  intro ⟨k, d⟩ hp
  have hm := ok.mirror k
  rw [amGet_of_mem_nodup ok.storeNodup hp] at hm
  cases hf : amGet s.facts k with
  | none => rw [hf] at hm; cases hm
  | some o => rw [hf] at hm; exact ⟨o, Option.some.inj hm⟩

theorem lLoad_go_eq (docs : List (String × J)) (hall : ∀ p ∈ docs, ∃ o, p.2 = .obj o) :
    ∀ acc, St.lLoad.go docs acc = .ok (acc ++ docs.map (fun p => (p.1, unObj p.2))) := by
  induction docs with
  | nil => intro acc; simp [St.lLoad.go]
  | cons p rest ih =>
    intro acc
    obtain ⟨k, d⟩ := p
    obtain ⟨o, ho⟩ := hall (k, d) (by simp)
    simp only at ho; subst ho
    rw [St.lLoad.go]
    rw [ih (fun q hq => hall q (by simp [hq]))]
    simp [unObj]

theorem amGet_map_val {α β} (m : List (String × α)) (f : α → β) (k : String) :
    amGet (m.map (fun p => (p.1, f p.2))) k = (amGet m k).map f := by
  rw [AM.amGet_eq_lookup, AM.amGet_eq_lookup]; exact List.lookup_map_snd f m k

theorem amErase_map_obj (m : List (String × Obj)) (k : String) :
    amErase (m.map (fun p => (p.1, J.obj p.2))) k = (amErase m k).map (fun p => (p.1, J.obj p.2)) := by
  unfold amErase
  rw [List.filter_map]
  rfl

theorem amSet_map_obj (m : List (String × Obj)) (k : String) (v : Obj) :
    amSet (m.map (fun p => (p.1, J.obj p.2))) k (.obj v) = (amSet m k v).map (fun p => (p.1, J.obj p.2)) := by
  unfold amSet
  have hany : ((m.map (fun p => (p.1, J.obj p.2))).any (fun p => p.1 == k)) = m.any (fun p => p.1 == k) := by
    rw [List.any_map]; rfl
  rw [hany]
  cases m.any (fun p => p.1 == k)
  · simp
  · simp only [if_true, List.map_map]
    apply List.map_congr_left
    intro p _
    by_cases h : p.1 = k <;> simp [h]

theorem St.Purge.storeEq {k : Kind} {s s' : St} (h : St.Purge k s s') (hs : StoreEq s) : StoreEq s' :=
  h.inv (fun {a b} ha hd => by
    obtain ⟨id, ri, ti, rfl, _⟩ := hd.shape
    unfold StoreEq at ha ⊢
    simp only [ha, amErase_map_obj]) hs

theorem St.Purge.linIdx {s s' : St} (h : St.Purge .linear s s') (hs : LinIdx s) : LinIdx s' :=
  h.inv (fun {a b} ha hd => by
    obtain ⟨id, ri, ti, rfl, hl⟩ := hd.shape
    obtain ⟨rfl, rfl⟩ := hl rfl
    exact ha) hs

theorem St.add_storeEq {s : St} (h : StoreEq s) (given : String) (x : Obj) (now : Int) :
    StoreEq (s.add given x now).1 := by
  unfold StoreEq at h ⊢
  rcases add_shape s given x now with ⟨_, _, hf⟩ | ⟨id, m, _, ha⟩
  · rw [hf.facts, hf.store]; exact h
  · simp only [ha.facts, ha.store, h, amSet_map_obj]

theorem St.lAdd_linIdx {s : St} (h : LinIdx s) (given : String) (x : Obj) (now : Int) :
    LinIdx (s.lAdd given x now).1 := by
  unfold St.lAdd
  cases prepareFact given s.freshId x now with
  | error e => exact h
  | ok p =>
    obtain ⟨id, m, x'⟩ := p
    simp only []
    split <;> exact h

theorem St.stepOp_storeEq {s : St} (h : StoreEq s) (op : ROp) : StoreEq (s.stepOp op).1 :=
  St.stepOp_cases (Q := fun _ s' => StoreEq s') s (fun hp => hp.storeEq h)
    (fun g x now => St.add_storeEq h g x now) rfl op

theorem St.stepOp_linIdx {s : St} (h : LinIdx s) (op : ROp) : LinIdx (s.stepOp op).1 :=
  St.stepOp_cases (Q := fun _ s' => LinIdx s') s (fun hp => (h.1 ▸ hp).linIdx h)
    (fun g x now => by unfold St.add; rw [h.1]; exact St.lAdd_linIdx h g x now) ⟨h.1, rfl, rfl⟩ op

theorem St.runOps_storeEq (ops : List ROp) {s : St} : StoreEq s → StoreEq (s.runOps ops) :=
  St.runOps_inv (P := StoreEq) (fun _ op h => St.stepOp_storeEq h op) ops

theorem reload_linear_id {s : St} (he : StoreEq s) (hl : LinIdx s) (now : Int) : s.reload now = .ok s := by
  obtain ⟨hk, hri, hti⟩ := hl
  have hall : ∀ p ∈ s.store, ∃ o, p.2 = .obj o := by
    intro p hp
    rw [he] at hp
    obtain ⟨q, _, rfl⟩ := List.mem_map.1 hp
    exact ⟨q.2, rfl⟩
  have hgo := lLoad_go_eq s.store hall []
  have hfacts : s.store.map (fun p => (p.1, unObj p.2)) = s.facts := by
    rw [he, List.map_map]
    conv => rhs; rw [← List.map_id s.facts]
    apply List.map_congr_left
    intro p _; rfl
  unfold St.reload
  rw [hk]
  simp only [St.lLoad, hgo, List.nil_append, hfacts, Except.map]
  congr 1
  cases s
  simp only at hk hri hti
  subst hk hri hti
  rfl
