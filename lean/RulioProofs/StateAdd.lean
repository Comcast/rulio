import RulioProofs.StateRi
import RulioProofs.AssocMap
import RulioModel.SysInv

/-! # What `Add` does, both kinds

A failed `Add` leaves `AddFailed`, a successful one `Added`: the id holds the in-memory form of the prepared fact, in
memory and in storage.  `add_shape` is the walk through `St.iAdd` / `St.lAdd` on which `WF`, the storage lemmas and the `get`
theorems rest (`Added` is silent on the rule index: `iadd_swap` in PatIndexState reads that off `St.iadd_unfold`);
`iadd_shape` is the same for the in-memory half `St.iadd` that `Load` runs. -/

/-- an `add` that failed: only the rule index and the fresh counter may have moved -/
structure AddFailed (s s1 : St) : Prop where
  facts : s1.facts = s.facts
  store : s1.store = s.store
  ti : s1.ti = s.ti
  kind : s1.kind = s.kind
  fresh : s.fresh ≤ s1.fresh

/-- what is left of `s` in a state that differs from `s.bump …` in the rule index only -/
theorem AddFailed.of_ri (s : St) (given id : String) (ri : PI) : AddFailed s { s.bump given id with ri := ri } := by
  have hb := s.bump_same given id
  refine ⟨hb.1, hb.2.1, hb.2.2.1, hb.2.2.2, ?_⟩
  show s.fresh ≤ (s.bump given id).fresh
  rw [St.bump_fresh]; split <;> omega

/-- the in-memory `add` of the indexed state went through: `m` is the prepared fact, `x'` what `PrepareFact` hands back -/
structure IAdded (s s1 : St) (given : String) (x : Obj) (now : Int) (id : String) (m x' : Obj) : Prop where
  prep : prepareFact given s.freshId x now = .ok (id, m, x')
  facts : s1.facts = amSet s.facts id (indexedForm m)
  ti : s1.ti = (extractTerms (indexedForm m)).foldl (fun ti t => TI.add ti t id) s.ti
  store : s1.store = s.store
  kind : s1.kind = s.kind
  fresh : s1.fresh = if given == "" && id == s.freshId then s.fresh + 1 else s.fresh

/-- the indexed state keeps in memory what `ExtractRule` hands back as the fact -/
theorem indexedForm_of_ok {m f : Obj} {r : Option Obj} (h : extractRule m false = .ok (r, f)) : indexedForm m = f := by
  simp only [indexedForm, h]

theorem iadd_shape (s : St) (given : String) (x : Obj) (now : Int) :
    (∃ e, (s.iadd given x now).2 = .error e ∧ AddFailed s (s.iadd given x now).1) ∨
    (∃ id m x', (s.iadd given x now).2 = .ok (id, x') ∧ IAdded s (s.iadd given x now).1 given x now id m x') := by
  rw [St.iadd_unfold]
  cases hp : prepareFact given s.freshId x now with
  | error e => exact .inl ⟨e, rfl, rfl, rfl, rfl, rfl, Nat.le_refl _⟩
  | ok r =>
    obtain ⟨id, m, x'⟩ := r
    have hb := s.bump_same given id
    simp only []
    cases he : extractRule m false with
    | error e => exact .inl ⟨e, rfl, AddFailed.of_ri s given id _⟩
    | ok r2 =>
      obtain ⟨rule, fact⟩ := r2
      have hf : indexedForm m = fact := indexedForm_of_ok he
      simp only [iaddCore]
      rcases PI.swap (s.bump given id).ri id (prevRule (s.bump given id).facts id) rule with ⟨ri', _ | e⟩
      · exact .inr ⟨id, m, x', rfl, hp, by simp only [hf, hb.1], by simp only [hf, hb.2.2.1], hb.2.1, hb.2.2.2,
          St.bump_fresh s given id⟩
      · exact .inl ⟨e, rfl, AddFailed.of_ri s given id ri'⟩

/-- **a successful `Add`** of the prepared fact `m` under `id`: memory and storage hold its in-memory form -/
structure Added (s s1 : St) (given : String) (x : Obj) (now : Int) (id : String) (m : Obj) : Prop where
  prep : ∃ x', prepareFact given s.freshId x now = .ok (id, m, x')
  facts : s1.facts = amSet s.facts id (memForm s.kind m)
  ti : s.kind = .indexed → s1.ti = (extractTerms (memForm s.kind m)).foldl (fun ti t => TI.add ti t id) s.ti
  store : s1.store = amSet s.store id (.obj (memForm s.kind m))
  kind : s1.kind = s.kind
  fresh : s1.fresh = if given == "" && id == s.freshId then s.fresh + 1 else s.fresh

/-- `IndexedState.Add` is the in-memory `add` followed by the write of the stored fact -/
theorem IAdded.added {s s1 : St} {given : String} {x : Obj} {now : Int} {id : String} {m x' : Obj}
    (h : IAdded s s1 given x now id m x') (hk : s.kind = .indexed) :
    Added s { s1 with store := amSet s1.store id (.obj ((amGet s1.facts id).getD [])) } given x now id m := by
  have hm : memForm s.kind m = indexedForm m := by rw [hk]; rfl
  refine ⟨⟨x', h.prep⟩, hm ▸ h.facts, fun _ => hm ▸ h.ti, ?_, h.kind, h.fresh⟩
  simp only [h.facts, h.store, AM.amGet_amSet_self, Option.getD_some, hm]

theorem add_shape (s : St) (given : String) (x : Obj) (now : Int) :
    (∃ e, (s.add given x now).2 = .error e ∧ AddFailed s (s.add given x now).1) ∨
    (∃ id m, (s.add given x now).2 = .ok id ∧ Added s (s.add given x now).1 given x now id m) := by
  unfold St.add
  cases hk : s.kind with
  | indexed =>
    simp only [St.iAdd]
    rcases hia : s.iadd given x now with ⟨s1, r⟩
    rcases iadd_shape s given x now with ⟨e, he, hf⟩ | ⟨id, m, x', hok, ha⟩ <;> rw [hia] at * <;> cases ‹_ = _›
    · exact .inl ⟨e, rfl, hf⟩
    · exact .inr ⟨id, m, rfl, ha.added hk⟩
  | linear =>
    simp only [St.lAdd]
    cases hp : prepareFact given s.freshId x now with
    | error e => exact .inl ⟨e, rfl, rfl, rfl, rfl, rfl, Nat.le_refl _⟩
    | ok r =>
      obtain ⟨id, m, x'⟩ := r
      have hb := s.bump_same given id
      have hm : memForm s.kind m = m := by rw [hk]; rfl
      refine .inr ⟨id, m, rfl, ⟨x', hp⟩, ?_, fun h => (nomatch hk.symm.trans h), ?_, hb.2.2.2, St.bump_fresh s given id⟩
      · rw [hm]; exact congrArg (amSet · id m) hb.1
      · rw [hm]; exact congrArg (amSet · id (.obj m)) hb.2.1

theorem add_shape_of_eq {s s1 : St} {given : String} {x : Obj} {now : Int} {r : Except LErr String}
    (h : s.add given x now = (s1, r)) :
    match r with
    | .error _ => AddFailed s s1
    | .ok id => ∃ m, Added s s1 given x now id m := by
  have sh := add_shape s given x now
  rw [h] at sh
  rcases sh with ⟨e, rfl, hf⟩ | ⟨id, m, rfl, ha⟩
  · exact hf
  · exact ⟨m, ha⟩

theorem memForm_cases (k : Kind) (m : Obj) :
    memForm k m = m ∨ ∃ rule, extractRule m false = .ok (rule, memForm k m) := by
  cases k with
  | linear => exact .inl rfl
  | indexed =>
    simp only [memForm, indexedForm]
    cases h : extractRule m false with
    | error e => exact .inl rfl
    | ok p => exact .inr ⟨p.1, rfl⟩
