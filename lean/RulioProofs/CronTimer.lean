import RulioProofs.CronProps

/-! The in-memory cron (C16): the timer stays armed for (at the latest) the head of the timeline, in every history,
and exactly for the head along histories without removals (`ArmedR`); liveness under the timer contract. -/

namespace CronM
open C16Gen List

/-- an operation after which the timer cannot be left pointing at a job that is no longer the head:
not a `Rem`, and not an `Add` that is rejected for capacity (which removes the old entry without re-arming) -/
def okTimer (s : Cron) : Op → Prop
  | .rem _ => False
  | .add id _ _ => atLimit { s with serial := s.serial + 1 } true (remJob id s.tl) = false
  | _ => True

def Calm : Cron → List Op → Prop
  | _, [] => True
  | s, op :: ops => okTimer s op ∧ Calm (step s op) ops

/-- Whenever the loop is neither suspended nor paused and something is pending, the timer is armed, for a time `t` that
stands in relation `R` to the head's due time. `R` is `=` along calm histories and `≤` in general: an earlier target only
costs one delivery that finds the head not ready and re-arms for it exactly. -/
def ArmedR (R : Nat → Nat → Prop) (s : Cron) : Prop :=
  s.suspended = false → s.paused = false → ∀ j rest, s.tl = j :: rest → ∃ t, s.armed = some t ∧ R t j.next

theorem schedule_flags (s : Cron) (j : Job) (b : Bool) :
    (schedule s j b).1.suspended = s.suspended ∧ (schedule s j b).1.paused = s.paused := by
  rw [schedule_eq]; split <;> exact ⟨rfl, rfl⟩

section
variable {R : Nat → Nat → Prop}

theorem ArmedR_init (limit : Nat) : ArmedR R (init limit) :=
  fun _ _ _ _ htl => nomatch htl

theorem ArmedR_of_rearm (hrefl : ∀ t, R t t) {s : Cron} (h : s.armed = rearm s.tl) : ArmedR R s := by
  intro _ _ j rest htl
  exact ⟨j.next, by rw [h, htl]; rfl, hrefl _⟩

/-- a shrunken timeline keeps `ArmedR` for an `R` like `≤`, as long as timer and flags are untouched: on a sorted
timeline, removing entries can only move the head to a later time -/
theorem ArmedR_shrink (hmono : ∀ a b c, R a b → b ≤ c → R a c) {s s' : Cron}
    (hw : s.tl.Pairwise (fun a b => a.next ≤ b.next)) (h : ArmedR R s)
    (hsub : s'.tl.Sublist s.tl) (ha : s'.armed = s.armed) (hsus : s'.suspended = s.suspended)
    (hpa : s'.paused = s.paused) : ArmedR R s' := by
  intro hs hp j' rest' htl'
  cases htl : s.tl with
  | nil => rw [htl, htl'] at hsub; cases hsub
  | cons j rest =>
    obtain ⟨t, e, hle⟩ := h (hsus ▸ hs) (hpa ▸ hp) j rest htl
    rw [htl, htl'] at hsub
    refine ⟨t, ha.trans e, hmono _ _ _ hle ?_⟩
    rcases mem_cons.1 (hsub.subset mem_cons_self) with rfl | hm
    · exact Nat.le_refl _
    · exact (pairwise_cons.1 (htl ▸ hw)).1 j' hm

/-- A step keeps `ArmedR`: whatever touches the head re-arms the timer — except `Rem` and an `Add` rejected for capacity,
which leave the timer where it was, at or before the new head's time. -/
theorem ArmedR_step (hrefl : ∀ t, R t t) {s : Cron} (hw : WF s) (h : ArmedR R s) (op : Op)
    (hok : okTimer s op ∨ ∀ a b c, R a b → b ≤ c → R a c) : ArmedR R (step s op) := by
  have hst := step_rel hw op
  generalize step s op = s' at hst
  cases hst with
  | control _ _ hc =>
    rcases hc with ⟨rfl, rfl, rfl⟩ | rfl | rfl | rfl
    · exact h
    · exact fun hs => nomatch hs
    · exact fun _ hp => nomatch hp
    · exact ArmedR_of_rearm hrefl rfl
  | rem id =>
    exact hok.elim False.elim fun hmono => ArmedR_shrink hmono hw.sorted h (remJob_sublist _ _) rfl rfl rfl
  | addFull id due p hl =>
    exact hok.elim (fun hok => absurd (hok.symm.trans hl) Bool.false_ne_true)
      fun hmono => ArmedR_shrink hmono hw.sorted h (remJob_sublist _ _) rfl rfl rfl
  | tickIdle a ha => exact fun _ hp j rest htl => ⟨j.next, (ha hp j rest htl).2, hrefl _⟩
  | doneGone => exact h
  | addIns | tickPop | doneBack => exact ArmedR_of_rearm hrefl rfl

theorem ArmedR_run (hrefl : ∀ t, R t t) {s : Cron} (hw : WF s) (h : ArmedR R s) (ops : List Op)
    (hok : Calm s ops ∨ ∀ a b c, R a b → b ≤ c → R a c) : ArmedR R (run s ops) := by
  induction ops generalizing s with
  | nil => exact h
  | cons op ops ih =>
    exact ih (WF_step hw op) (ArmedR_step hrefl hw h op (hok.imp_left And.left)) (hok.imp_left And.right)

end

/-- A pending job at position `pre.length` of the timeline whose due time has come is fired by the next `pre.length + 1` ticks:
each pops the head, which is due because the timeline is sorted. Under the timer contract these ticks are deliveries, every one of
which is due: the timer is armed at or before the head's time, and every pop re-arms for the next head. -/
theorem ticks_fire {s : Cron} (hw : WF s) (hp : s.paused = false) (pre : List Job) (j : Job) (post : List Job)
    (htl : s.tl = pre ++ j :: post) (hdue : j.next ≤ s.clock) :
    let s' := run s (replicate (pre.length + 1) .tick)
    fireOf j s.clock ∈ s'.log ∧ s'.tl = post ∧
      (s.suspended = false → ArmedR (· ≤ ·) s → deliverN (pre.length + 1) s = some s') := by
  have hd {s : Cron} {x : Job} {rest : List Job} (hp : s.paused = false) (htl : s.tl = x :: rest) (hx : x.next ≤ s.clock)
      (hs : s.suspended = false) (ha : ArmedR (· ≤ ·) s) : deliver s = some (tick s) := by
    obtain ⟨t, et, hle⟩ := ha hs hp x rest htl
    rw [deliver, deliverable, hp, et]
    exact if_pos (decide_eq_true (Nat.le_trans hle hx))
  induction pre generalizing s with
  | nil =>
    refine ⟨?_, ?_, fun hs ha => ?_⟩
    · show _ ∈ (tick s).log
      rw [tick_pop hp htl hdue]; exact mem_cons_self
    · show (tick s).tl = post
      rw [tick_pop hp htl hdue]; rfl
    · rw [length_nil, deliverN, hd hp htl hdue hs ha]; rfl
  | cons x pre ih =>
    have hx : x.next ≤ s.clock := Nat.le_trans ((pairwise_cons.1 (htl ▸ hw.sorted)).1 j (mem_append_right _ mem_cons_self)) hdue
    have e := tick_pop hp htl hx
    have hc : (tick s).clock = s.clock := by rw [e]; rfl
    obtain ⟨h1, h2, h3⟩ := ih (s := tick s) (WF_step hw .tick) (by rw [e]; exact hp) (by rw [e]; rfl) (by rw [hc]; exact hdue)
    refine ⟨hc ▸ h1, h2, fun hs ha => ?_⟩
    rw [length_cons, deliverN, hd hp htl hx hs ha]
    exact h3 (by rw [e]; exact hs) (ArmedR_step Nat.le_refl hw ha .tick (.inl trivial))

end CronM
