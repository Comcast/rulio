import RulioModel.Json

/-! # Substitution of bindings into the `code` of an HTTP action (actions.go: `SubstituteBindings`,
`substituteInterface`, `substituteString`)

An action whose endpoint is an `http:`/`https:` URL POSTs `{"bindings": bs, "opts": a.Opts, "code": C}`.
With `"subvars": true` (the default of a rule's action) `C` is the action's code string parsed as JSON with
every string in it (map keys included) sent through `substituteString`:

* the string is exactly a key of the bindings → the bound value (any JSON type);
* otherwise, the string is a *naked* variable (`^\?[_a-zA-Z][_0-9a-zA-Z]*$`) → the location control's
  `DefaultVariableValue` when `UseDefaultVariableValue` is set (it is in `DefaultControl()`, with the value
  `"undefined"`), else the error `naked variable '?x' unbound`;
* otherwise, for every binding (in Go map order) the regexp `\?name\b` is replaced textually by the JSON text of
  the value.

The model is exact on the **fragment** `substFrag`: every string of the template is a naked variable or contains no
`?` at all, and no map key contains a `?`. There the third step changes nothing (every binding key starts with `?`,
so its regexp needs a literal `?` in the subject) and the answer does not depend on the order of the bindings.
Strings that mix text and variables (`"id-?w"`), non-naked strings with a `?` and keys with a `?` are outside:
`substD` answers them with an error that names them (the exact-match step is still modelled for every string).
Assumption on the bindings (`VarKeys`): every key contains a `?` (keys are variables: they come from pattern
matching and from `"?" + property` of a code condition's value). Numbers are integers (`J.num`), so
`CoerceFakeFloats` is the identity. -/

def isNameStart (c : Char) : Bool := c == '_' || c.isAlpha
def isNameChar (c : Char) : Bool := c == '_' || c.isAlphanum

/-- `IsNakedVariable`: `^\?[_a-zA-Z][_0-9a-zA-Z]*$` -/
def isNaked (s : String) : Bool :=
  match s.toList with
  | '?' :: c :: rest => isNameStart c && rest.all isNameChar
  | _ => false

/-- the string contains a `?` somewhere -/
def hasQ (s : String) : Bool := s.toList.contains '?'

/-! ### strings that mix text and variables (`"id-?w"`)

For every binding the regexp `\?name\b` is replaced by the text of the value. Modelled where the outcome does not depend on
the order in which Go visits the bindings: every binding name is `?` + an identifier, and a value inserted into a string is
a scalar whose text contains no `?` (it could be taken for a variable by a later replacement), no `$` (`ReplaceAllString`
expands it) and no `\`. Then `\?name\b` matches exactly the tokens `?` + maximal run of word characters that equal the
name: `?user` does not match inside `?userId`. A token directly followed by another `?` is not modelled either (replacing the second
first glues its text to the first). Everything else answers "not modelled". -/

def isWordChar (c : Char) : Bool := c == '_' || c.isAlphanum

/-- the text `substituteString` inserts for a scalar value (a string as it is, anything else as JSON text) -/
def scalarText : J → Option String
  | .str s => if s.toList.any (fun c => c == '?' || c == '$' || c == '\\') then none else some s
  | .num n => some (toString n)
  | .bool b => some (if b then "true" else "false")
  | .null => some "null"
  | _ => none

def takeWord : List Char → List Char × List Char
  | [] => ([], [])
  | c :: r => if isWordChar c then ((takeWord r).1.cons c, (takeWord r).2) else ([], c :: r)

def substMixedAux (bs : Bs) : Nat → List Char → Except String (List Char)
  | 0, _ => .error "not modelled: fuel"
  | _, [] => .ok []
  | fuel + 1, c :: r =>
    if c == '?' then
      let w := (takeWord r).1
      let rest := (takeWord r).2
      -- a variable right after this one (`?a?b`): whether `?a\b` still matches depends on whether `?b` was replaced first
      if (match rest with | '?' :: _ => true | _ => false) then .error "not modelled: a variable right after another" else
      match bs.get? (String.ofList ('?' :: w)) with
      | some v =>
        (match scalarText v with
         | some t => (match substMixedAux bs fuel rest with | .ok o => .ok (t.toList ++ o) | .error e => .error e)
         | none => .error "not modelled: a structured or special value inside a string")
      | none => (match substMixedAux bs fuel rest with | .ok o => .ok ('?' :: w ++ o) | .error e => .error e)
    else (match substMixedAux bs fuel r with | .ok o => .ok (c :: o) | .error e => .error e)

def substMixed (bs : Bs) (s : String) : Except String J :=
  if bs.all (fun kv => (match kv.1.toList with | '?' :: c :: rest => isNameStart c && rest.all isNameChar | _ => false)) then
    (match substMixedAux bs (s.length + 1) s.toList with
     | .ok o => .ok (.str (String.ofList o))
     | .error e => .error e)
  else .error "not modelled: a binding whose name is not ? + identifier"

/-- `substituteString` (see the header); `d` = `some DefaultVariableValue` when `UseDefaultVariableValue` is set -/
def substStr (d : Option J) (bs : Bs) (s : String) : Except String J :=
  match bs.get? s with
  | some v => .ok v
  | none =>
    if isNaked s then
      (match d with
       | some v => .ok v
       | none => .error ("naked variable '" ++ s ++ "' unbound"))
    else if hasQ s then .error ("not modelled: mixed string '" ++ s ++ "'")
    else .ok (.str s)

mutual
/-- `substituteInterface` with the control's default variable value `d` -/
def substD (d : Option J) (bs : Bs) : J → Except String J
  | .null => .ok .null
  | .bool b => .ok (.bool b)
  | .num n => .ok (.num n)
  | .str s => substStr d bs s
  | .arr xs => match substDL d bs xs with
    | .ok ys => .ok (.arr ys)
    | .error e => .error e
  | .obj kvs => match substDO d bs kvs with
    | .ok r => .ok (.obj r)
    | .error e => .error e
def substDL (d : Option J) (bs : Bs) : List J → Except String (List J)
  | [] => .ok []
  | x :: xs => match substD d bs x with
    | .error e => .error e
    | .ok y => match substDL d bs xs with
      | .error e => .error e
      | .ok ys => .ok (y :: ys)
def substDO (d : Option J) (bs : Bs) : List (String × J) → Except String (List (String × J))
  | [] => .ok []
  | (k, v) :: kvs =>
    if hasQ k then .error ("not modelled: variable in map key '" ++ k ++ "'") else
    match substD d bs v with
    | .error e => .error e
    | .ok y => match substDO d bs kvs with
      | .error e => .error e
      | .ok r => .ok ((k, y) :: r)
end

/-- `substituteInterface` under a control without `UseDefaultVariableValue`: an unbound naked variable is an error -/
def substJ (bs : Bs) (t : J) : Except String J := substD none bs t

/-! ### the extension used by the driver: mixed strings answered by `substMixed` (everything else as `substD`) -/

def substStrX (d : Option J) (bs : Bs) (s : String) : Except String J :=
  match bs.get? s with
  | some v => .ok v
  | none =>
    if isNaked s then
      (match d with
       | some v => .ok v
       | none => .error ("naked variable '" ++ s ++ "' unbound"))
    else if hasQ s then substMixed bs s
    else .ok (.str s)

mutual
def substDX (d : Option J) (bs : Bs) : J → Except String J
  | .null => .ok .null
  | .bool b => .ok (.bool b)
  | .num n => .ok (.num n)
  | .str s => substStrX d bs s
  | .arr xs => match substDXL d bs xs with
    | .ok ys => .ok (.arr ys)
    | .error e => .error e
  | .obj kvs => match substDXO d bs kvs with
    | .ok r => .ok (.obj r)
    | .error e => .error e
def substDXL (d : Option J) (bs : Bs) : List J → Except String (List J)
  | [] => .ok []
  | x :: xs => match substDX d bs x with
    | .error e => .error e
    | .ok y => match substDXL d bs xs with
      | .error e => .error e
      | .ok ys => .ok (y :: ys)
def substDXO (d : Option J) (bs : Bs) : List (String × J) → Except String (List (String × J))
  | [] => .ok []
  | (k, v) :: kvs =>
    if hasQ k then .error ("not modelled: variable in map key '" ++ k ++ "'") else
    match substDX d bs v with
    | .error e => .error e
    | .ok y => match substDXO d bs kvs with
      | .error e => .error e
      | .ok r => .ok ((k, y) :: r)
end

mutual
/-- the fragment on which `substD` is the real code's answer -/
def substFrag : J → Bool
  | .str s => isNaked s || !hasQ s
  | .arr xs => substFragL xs
  | .obj kvs => substFragO kvs
  | _ => true
def substFragL : List J → Bool
  | [] => true
  | x :: xs => substFrag x && substFragL xs
def substFragO : List (String × J) → Bool
  | [] => true
  | (k, v) :: kvs => !hasQ k && substFrag v && substFragO kvs
end

mutual
/-- no string and no key of the document contains a `?` (nothing left that substitution could touch) -/
def qfree : J → Bool
  | .str s => !hasQ s
  | .arr xs => qfreeL xs
  | .obj kvs => qfreeO kvs
  | _ => true
def qfreeL : List J → Bool
  | [] => true
  | x :: xs => qfree x && qfreeL xs
def qfreeO : List (String × J) → Bool
  | [] => true
  | (k, v) :: kvs => !hasQ k && qfree v && qfreeO kvs
end

mutual
/-- the strings in value position (array elements, map values, the document itself), left to right -/
def strLeaves : J → List String
  | .str s => [s]
  | .arr xs => strLeavesL xs
  | .obj kvs => strLeavesO kvs
  | _ => []
def strLeavesL : List J → List String
  | [] => []
  | x :: xs => strLeaves x ++ strLeavesL xs
def strLeavesO : List (String × J) → List String
  | [] => []
  | (_, v) :: kvs => strLeaves v ++ strLeavesO kvs
end

/-- every key of the bindings is a variable (contains a `?`) -/
def VarKeys (bs : Bs) : Prop := ∀ kv ∈ bs, hasQ kv.1 = true
/-- every bound value is free of `?` -/
def QfreeVals (bs : Bs) : Prop := ∀ kv ∈ bs, qfree kv.2 = true

/-! ## lemmas (used by `Props/C04.lean`)

The equations of the six recursive functions are stated once, with the two-way `match`es read as `Except.map` and
`do`; `map_eq_ok` and `bind_eq_ok` turn a successful result back into its parts. -/

namespace SubstLemmas

theorem map_eq_ok {α β} {f : α → β} {x : Except String α} {r : β} (h : x.map f = .ok r) :
    ∃ a, x = .ok a ∧ f a = r := by
  cases x with
  | error e => cases h
  | ok a => cases h; exact ⟨a, rfl, rfl⟩

theorem bind_eq_ok {α β γ} {x : Except String α} {z : Except String β} {f : α → β → γ} {r : γ}
    (h : (do let a ← x; let b ← z; pure (f a b)) = .ok r) : ∃ a b, x = .ok a ∧ z = .ok b ∧ f a b = r := by
  cases x with
  | error e => cases h
  | ok a =>
    cases z with
    | error e => cases h
    | ok b => cases h; exact ⟨a, b, rfl, rfl, rfl⟩

theorem J_induct {P : J → Prop} {PL : List J → Prop} {PO : List (String × J) → Prop}
    (null : P .null) (bool : ∀ b, P (.bool b)) (num : ∀ n, P (.num n)) (str : ∀ s, P (.str s))
    (arr : ∀ xs, PL xs → P (.arr xs)) (obj : ∀ kvs, PO kvs → P (.obj kvs))
    (nilL : PL []) (consL : ∀ x xs, P x → PL xs → PL (x :: xs))
    (nilO : PO []) (consO : ∀ k v kvs, P v → PO kvs → PO ((k, v) :: kvs)) :
    (∀ t, P t) ∧ (∀ xs, PL xs) ∧ (∀ kvs, PO kvs) :=
  ⟨J.rec (motive_4 := fun kv => P kv.2) null bool num str arr obj nilL consL nilO
      (fun kv kvs => consO kv.1 kv.2 kvs) (fun _ _ h => h),
   J.rec_1 (motive_1 := P) (motive_4 := fun kv => P kv.2) null bool num str arr obj nilL consL nilO
      (fun kv kvs => consO kv.1 kv.2 kvs) (fun _ _ h => h),
   J.rec_2 (motive_1 := P) (motive_4 := fun kv => P kv.2) null bool num str arr obj nilL consL nilO
      (fun kv kvs => consO kv.1 kv.2 kvs) (fun _ _ h => h)⟩

theorem substD_arr (d : Option J) (bs : Bs) (xs : List J) : substD d bs (.arr xs) = (substDL d bs xs).map J.arr := by
  rw [substD]; cases substDL d bs xs <;> rfl

theorem substD_obj (d : Option J) (bs : Bs) (kvs : List (String × J)) :
    substD d bs (.obj kvs) = (substDO d bs kvs).map J.obj := by
  rw [substD]; cases substDO d bs kvs <;> rfl

theorem substDL_cons (d : Option J) (bs : Bs) (x : J) (xs : List J) :
    substDL d bs (x :: xs) = (do let y ← substD d bs x; let ys ← substDL d bs xs; pure (y :: ys)) := by
  rw [substDL]
  cases substD d bs x with
  | error e => rfl
  | ok y => cases substDL d bs xs <;> rfl

theorem substDO_cons (d : Option J) (bs : Bs) (k : String) (v : J) (kvs : List (String × J)) (hq : hasQ k = false) :
    substDO d bs ((k, v) :: kvs) = (do let y ← substD d bs v; let r ← substDO d bs kvs; pure ((k, y) :: r)) := by
  rw [substDO, if_neg (ne_true_of_eq_false hq)]
  cases substD d bs v with
  | error e => rfl
  | ok y => cases substDO d bs kvs <;> rfl

theorem substDO_cons_q (d : Option J) (bs : Bs) (k : String) (v : J) (kvs : List (String × J)) (hq : hasQ k = true) :
    substDO d bs ((k, v) :: kvs) = .error ("not modelled: variable in map key '" ++ k ++ "'") := by
  rw [substDO, if_pos hq]

theorem substDX_arr (d : Option J) (bs : Bs) (xs : List J) : substDX d bs (.arr xs) = (substDXL d bs xs).map J.arr := by
  rw [substDX]; cases substDXL d bs xs <;> rfl

theorem substDX_obj (d : Option J) (bs : Bs) (kvs : List (String × J)) :
    substDX d bs (.obj kvs) = (substDXO d bs kvs).map J.obj := by
  rw [substDX]; cases substDXO d bs kvs <;> rfl

theorem substDXL_cons (d : Option J) (bs : Bs) (x : J) (xs : List J) :
    substDXL d bs (x :: xs) = (do let y ← substDX d bs x; let ys ← substDXL d bs xs; pure (y :: ys)) := by
  rw [substDXL]
  cases substDX d bs x with
  | error e => rfl
  | ok y => cases substDXL d bs xs <;> rfl

theorem substDXO_cons (d : Option J) (bs : Bs) (k : String) (v : J) (kvs : List (String × J)) (hq : hasQ k = false) :
    substDXO d bs ((k, v) :: kvs) = (do let y ← substDX d bs v; let r ← substDXO d bs kvs; pure ((k, y) :: r)) := by
  rw [substDXO, if_neg (ne_true_of_eq_false hq)]
  cases substDX d bs v with
  | error e => rfl
  | ok y => cases substDXO d bs kvs <;> rfl

theorem substStrX_of_ok {d : Option J} {bs : Bs} {s : String} {r : J} (h : substStr d bs s = .ok r) :
    substStrX d bs s = .ok r := by
  unfold substStr at h
  unfold substStrX
  cases hg : bs.get? s with
  | some v => rw [hg] at h; exact h
  | none =>
    rw [hg] at h
    cases hn : isNaked s with
    | true => rw [hn] at h; exact h
    | false =>
      rw [hn] at h
      cases hq : hasQ s with
      | true => rw [hq] at h; cases h
      | false => rw [hq] at h; exact h

end SubstLemmas

open SubstLemmas in
theorem substDX_of_ok_all {d : Option J} {bs : Bs} :
    (∀ (t r : J), substD d bs t = .ok r → substDX d bs t = .ok r) ∧
    (∀ (xs ys : List J), substDL d bs xs = .ok ys → substDXL d bs xs = .ok ys) ∧
    (∀ (kvs r : List (String × J)), substDO d bs kvs = .ok r → substDXO d bs kvs = .ok r) :=
  J_induct (fun _ h => h) (fun _ _ h => h) (fun _ _ h => h) (fun _ _ h => substStrX_of_ok h)
    (fun xs ih r h => by
      rw [substD_arr] at h
      obtain ⟨ys, hy, rfl⟩ := map_eq_ok h
      rw [substDX_arr, ih ys hy]; rfl)
    (fun kvs ih r h => by
      rw [substD_obj] at h
      obtain ⟨ys, hy, rfl⟩ := map_eq_ok h
      rw [substDX_obj, ih ys hy]; rfl)
    (fun _ h => h)
    (fun x xs ihx ihxs ys h => by
      rw [substDL_cons] at h
      obtain ⟨y, zs, hy, hz, rfl⟩ := bind_eq_ok h
      rw [substDXL_cons, ihx y hy, ihxs zs hz]; rfl)
    (fun _ h => h)
    (fun k v kvs ihv ihk r h => by
      cases hq : hasQ k with
      | true => rw [substDO_cons_q d bs k v kvs hq] at h; cases h
      | false =>
        rw [substDO_cons d bs k v kvs hq] at h
        obtain ⟨y, r', hy, hr, rfl⟩ := bind_eq_ok h
        rw [substDXO_cons d bs k v kvs hq, ihv y hy, ihk r' hr]; rfl)

/-- the extension is conservative: wherever `substD` answers, `substDX` answers the same -/
theorem substDX_of_ok {d : Option J} {bs : Bs} : ∀ (t r : J), substD d bs t = .ok r → substDX d bs t = .ok r :=
  substDX_of_ok_all.1
theorem substDXL_of_ok {d : Option J} {bs : Bs} : ∀ (xs ys : List J), substDL d bs xs = .ok ys → substDXL d bs xs = .ok ys :=
  substDX_of_ok_all.2.1
theorem substDXO_of_ok {d : Option J} {bs : Bs} :
    ∀ (kvs r : List (String × J)), substDO d bs kvs = .ok r → substDXO d bs kvs = .ok r :=
  substDX_of_ok_all.2.2

namespace SubstLemmas

theorem naked_hasQ (s : String) (h : isNaked s = true) : hasQ s = true := by
  unfold isNaked at h
  unfold hasQ
  split at h
  · next c rest heq => rw [heq]; simp
  · cases h

theorem get?_none_of_noQ {bs : Bs} (hk : VarKeys bs) {s : String} (hs : hasQ s = false) : bs.get? s = none := by
  induction bs with
  | nil => rfl
  | cons kv rest ih =>
    obtain ⟨k, v⟩ := kv
    have hk1 : hasQ k = true := hk (k, v) (List.mem_cons_self ..)
    have hne : (s == k) = false := by
      apply Bool.eq_false_iff.mpr
      intro h; have : s = k := by simpa using h
      subst this; rw [hs] at hk1; cases hk1
    simp only [Bs.get?, hne]
    exact ih (fun kv h => hk kv (List.mem_cons_of_mem _ h))

theorem get?_mem {bs : Bs} {s : String} {v : J} (h : bs.get? s = some v) : (s, v) ∈ bs := by
  induction bs with
  | nil => cases h
  | cons kv rest ih =>
    obtain ⟨k, w⟩ := kv
    simp only [Bs.get?] at h
    split at h
    · next heq =>
      have : s = k := by simpa using heq
      cases h; subst this; exact List.mem_cons_self ..
    · exact List.mem_cons_of_mem _ (ih h)

theorem substStr_noQ (d : Option J) {bs : Bs} (hk : VarKeys bs) {s : String} (hs : hasQ s = false) :
    substStr d bs s = .ok (.str s) := by
  have hn : isNaked s = false := by
    cases h : isNaked s with
    | false => rfl
    | true => rw [naked_hasQ s h] at hs; cases hs
  simp [substStr, get?_none_of_noQ hk hs, hn, hs]

theorem ground_all (d : Option J) {bs : Bs} (hk : VarKeys bs) :
    (∀ t : J, qfree t = true → substD d bs t = .ok t) ∧
    (∀ xs : List J, qfreeL xs = true → substDL d bs xs = .ok xs) ∧
    (∀ kvs : List (String × J), qfreeO kvs = true → substDO d bs kvs = .ok kvs) :=
  J_induct (fun _ => rfl) (fun _ _ => rfl) (fun _ _ => rfl)
    (fun s h => substStr_noQ d hk (Eq.mp (Bool.not_eq_true' _) h))
    (fun xs ih h => by rw [substD_arr, ih h]; rfl)
    (fun kvs ih h => by rw [substD_obj, ih h]; rfl)
    (fun _ => rfl)
    (fun x xs ihx ihxs h => by
      obtain ⟨h1, h2⟩ := Bool.and_eq_true_iff.mp h
      rw [substDL_cons, ihx h1, ihxs h2]; rfl)
    (fun _ => rfl)
    (fun k v kvs ihv ihk h => by
      obtain ⟨h1, h3⟩ := Bool.and_eq_true_iff.mp h
      obtain ⟨h1, h2⟩ := Bool.and_eq_true_iff.mp h1
      rw [substDO_cons d bs k v kvs (Eq.mp (Bool.not_eq_true' _) h1), ihv h2, ihk h3]; rfl)

theorem ground_J (d : Option J) {bs : Bs} (hk : VarKeys bs) : ∀ t : J, qfree t = true → substD d bs t = .ok t :=
  (ground_all d hk).1
theorem ground_L (d : Option J) {bs : Bs} (hk : VarKeys bs) : ∀ xs : List J, qfreeL xs = true → substDL d bs xs = .ok xs :=
  (ground_all d hk).2.1
theorem ground_O (d : Option J) {bs : Bs} (hk : VarKeys bs) :
    ∀ kvs : List (String × J), qfreeO kvs = true → substDO d bs kvs = .ok kvs :=
  (ground_all d hk).2.2

theorem substStr_qfree {d : Option J} {bs : Bs} (hv : QfreeVals bs) (hd : ∀ v, d = some v → qfree v = true)
    {s : String} {r : J} (h : substStr d bs s = .ok r) : qfree r = true := by
  unfold substStr at h
  cases hg : bs.get? s with
  | some v => rw [hg] at h; cases h; exact hv _ (get?_mem hg)
  | none =>
    rw [hg] at h
    cases hn : isNaked s with
    | true =>
      rw [hn] at h
      cases d with
      | none => cases h
      | some v => cases h; exact hd _ rfl
    | false =>
      rw [hn] at h
      cases hq : hasQ s with
      | true => rw [hq] at h; cases h
      | false => rw [hq] at h; cases h; exact Eq.mpr (Bool.not_eq_true' _) hq

theorem result_all {d : Option J} {bs : Bs} (hv : QfreeVals bs) (hd : ∀ v, d = some v → qfree v = true) :
    (∀ (t r : J), substD d bs t = .ok r → qfree r = true) ∧
    (∀ (xs ys : List J), substDL d bs xs = .ok ys → qfreeL ys = true) ∧
    (∀ (kvs r : List (String × J)), substDO d bs kvs = .ok r → qfreeO r = true) :=
  J_induct (fun r h => by cases h; rfl) (fun _ r h => by cases h; rfl) (fun _ r h => by cases h; rfl)
    (fun s r h => substStr_qfree hv hd h)
    (fun xs ih r h => by
      rw [substD_arr] at h
      obtain ⟨ys, hy, rfl⟩ := map_eq_ok h
      exact ih ys hy)
    (fun kvs ih r h => by
      rw [substD_obj] at h
      obtain ⟨ys, hy, rfl⟩ := map_eq_ok h
      exact ih ys hy)
    (fun ys h => by cases h; rfl)
    (fun x xs ihx ihxs ys h => by
      rw [substDL_cons] at h
      obtain ⟨y, zs, hy, hz, rfl⟩ := bind_eq_ok h
      exact Bool.and_eq_true_iff.mpr ⟨ihx y hy, ihxs zs hz⟩)
    (fun r h => by cases h; rfl)
    (fun k v kvs ihv ihk r h => by
      cases hq : hasQ k with
      | true => rw [substDO_cons_q d bs k v kvs hq] at h; cases h
      | false =>
        rw [substDO_cons d bs k v kvs hq] at h
        obtain ⟨y, r', hy, hr, rfl⟩ := bind_eq_ok h
        exact Bool.and_eq_true_iff.mpr
          ⟨Bool.and_eq_true_iff.mpr ⟨Eq.mpr (Bool.not_eq_true' _) hq, ihv y hy⟩, ihk r' hr⟩)

theorem result_J {d : Option J} {bs : Bs} (hv : QfreeVals bs) (hd : ∀ v, d = some v → qfree v = true) :
    ∀ (t r : J), substD d bs t = .ok r → qfree r = true :=
  (result_all hv hd).1
theorem result_L {d : Option J} {bs : Bs} (hv : QfreeVals bs) (hd : ∀ v, d = some v → qfree v = true) :
    ∀ (xs ys : List J), substDL d bs xs = .ok ys → qfreeL ys = true :=
  (result_all hv hd).2.1
theorem result_O {d : Option J} {bs : Bs} (hv : QfreeVals bs) (hd : ∀ v, d = some v → qfree v = true) :
    ∀ (kvs r : List (String × J)), substDO d bs kvs = .ok r → qfreeO r = true :=
  (result_all hv hd).2.2

theorem agree_all (d : Option J) (bs bs' : Bs) :
    (∀ t : J, (∀ x ∈ strLeaves t, bs.get? x = bs'.get? x) → substD d bs t = substD d bs' t) ∧
    (∀ xs : List J, (∀ x ∈ strLeavesL xs, bs.get? x = bs'.get? x) → substDL d bs xs = substDL d bs' xs) ∧
    (∀ kvs : List (String × J), (∀ x ∈ strLeavesO kvs, bs.get? x = bs'.get? x) → substDO d bs kvs = substDO d bs' kvs) :=
  J_induct (fun _ => rfl) (fun _ _ => rfl) (fun _ _ => rfl)
    (fun s h => by
      show substStr d bs s = substStr d bs' s
      unfold substStr; rw [h s List.mem_cons_self])
    (fun xs ih h => by rw [substD_arr, substD_arr, ih h])
    (fun kvs ih h => by rw [substD_obj, substD_obj, ih h])
    (fun _ => rfl)
    (fun x xs ihx ihxs h => by
      rw [substDL_cons, substDL_cons, ihx fun s hs => h s (List.mem_append_left _ hs),
        ihxs fun s hs => h s (List.mem_append_right _ hs)])
    (fun _ => rfl)
    (fun k v kvs ihv ihk h => by
      cases hq : hasQ k with
      | true => rw [substDO_cons_q d bs k v kvs hq, substDO_cons_q d bs' k v kvs hq]
      | false =>
        rw [substDO_cons d bs k v kvs hq, substDO_cons d bs' k v kvs hq,
          ihv fun s hs => h s (List.mem_append_left _ hs), ihk fun s hs => h s (List.mem_append_right _ hs)])

theorem agree_J (d : Option J) (bs bs' : Bs) : ∀ t : J, (∀ x ∈ strLeaves t, bs.get? x = bs'.get? x) → substD d bs t = substD d bs' t :=
  (agree_all d bs bs').1
theorem agree_L (d : Option J) (bs bs' : Bs) : ∀ xs : List J, (∀ x ∈ strLeavesL xs, bs.get? x = bs'.get? x) → substDL d bs xs = substDL d bs' xs :=
  (agree_all d bs bs').2.1
theorem agree_O (d : Option J) (bs bs' : Bs) :
    ∀ kvs : List (String × J), (∀ x ∈ strLeavesO kvs, bs.get? x = bs'.get? x) → substDO d bs kvs = substDO d bs' kvs :=
  (agree_all d bs bs').2.2

/-- every naked variable among the strings `ls` is bound or has a default value to fall back on; on the fragment
that is enough for the substitution to succeed (`ok_all`) -/
def Resolvable (d : Option J) (bs : Bs) (ls : List String) : Prop :=
  ∀ x ∈ ls, isNaked x = true → bs.get? x = none → d.isSome = true

theorem substStr_ok {d : Option J} {bs : Bs} {s : String} (hf : (isNaked s || !hasQ s) = true)
    (hr : isNaked s = true → bs.get? s = none → d.isSome = true) : ∃ r, substStr d bs s = .ok r := by
  unfold substStr
  cases hg : bs.get? s with
  | some v => exact ⟨v, rfl⟩
  | none =>
    cases hn : isNaked s with
    | true =>
      cases d with
      | none => cases hr hn hg
      | some v => exact ⟨v, rfl⟩
    | false =>
      rw [hn, Bool.false_or, Bool.not_eq_true'] at hf
      exact ⟨.str s, by rw [hf]; rfl⟩

theorem ok_all {d : Option J} {bs : Bs} :
    (∀ t : J, substFrag t = true → Resolvable d bs (strLeaves t) → ∃ r, substD d bs t = .ok r) ∧
    (∀ xs : List J, substFragL xs = true → Resolvable d bs (strLeavesL xs) → ∃ r, substDL d bs xs = .ok r) ∧
    (∀ kvs : List (String × J), substFragO kvs = true → Resolvable d bs (strLeavesO kvs) → ∃ r, substDO d bs kvs = .ok r) :=
  J_induct (fun _ _ => ⟨_, rfl⟩) (fun _ _ _ => ⟨_, rfl⟩) (fun _ _ _ => ⟨_, rfl⟩)
    (fun s hf hr => substStr_ok hf (hr s List.mem_cons_self))
    (fun xs ih hf hr => by
      obtain ⟨ys, hy⟩ := ih hf hr
      exact ⟨.arr ys, by rw [substD_arr, hy]; rfl⟩)
    (fun kvs ih hf hr => by
      obtain ⟨ys, hy⟩ := ih hf hr
      exact ⟨.obj ys, by rw [substD_obj, hy]; rfl⟩)
    (fun _ _ => ⟨_, rfl⟩)
    (fun x xs ihx ihxs hf hr => by
      obtain ⟨h1, h2⟩ := Bool.and_eq_true_iff.mp hf
      obtain ⟨y, hy⟩ := ihx h1 fun s hs => hr s (List.mem_append_left _ hs)
      obtain ⟨ys, hys⟩ := ihxs h2 fun s hs => hr s (List.mem_append_right _ hs)
      exact ⟨y :: ys, by rw [substDL_cons, hy, hys]; rfl⟩)
    (fun _ _ => ⟨_, rfl⟩)
    (fun k v kvs ihv ihk hf hr => by
      obtain ⟨h1, h3⟩ := Bool.and_eq_true_iff.mp hf
      obtain ⟨h1, h2⟩ := Bool.and_eq_true_iff.mp h1
      obtain ⟨y, hy⟩ := ihv h2 fun s hs => hr s (List.mem_append_left _ hs)
      obtain ⟨ys, hys⟩ := ihk h3 fun s hs => hr s (List.mem_append_right _ hs)
      exact ⟨(k, y) :: ys, by rw [substDO_cons d bs k v kvs (Eq.mp (Bool.not_eq_true' _) h1), hy, hys]; rfl⟩)

theorem ok_J {d : Option J} {bs : Bs} : ∀ t : J, substFrag t = true → Resolvable d bs (strLeaves t) → ∃ r, substD d bs t = .ok r :=
  ok_all.1
theorem ok_L {d : Option J} {bs : Bs} : ∀ xs : List J, substFragL xs = true → Resolvable d bs (strLeavesL xs) → ∃ r, substDL d bs xs = .ok r :=
  ok_all.2.1
theorem ok_O {d : Option J} {bs : Bs} :
    ∀ kvs : List (String × J), substFragO kvs = true → Resolvable d bs (strLeavesO kvs) → ∃ r, substDO d bs kvs = .ok r :=
  ok_all.2.2

theorem substStr_unbound {bs : Bs} {s : String} (hn : isNaked s = true) (hg : bs.get? s = none) :
    substStr none bs s = .error ("naked variable '" ++ s ++ "' unbound") := by
  simp [substStr, hg, hn]

theorem err_all {bs : Bs} {x : String} (hn : isNaked x = true) (hg : bs.get? x = none) :
    (∀ t : J, x ∈ strLeaves t → ∃ e, substD none bs t = .error e) ∧
    (∀ xs : List J, x ∈ strLeavesL xs → ∃ e, substDL none bs xs = .error e) ∧
    (∀ kvs : List (String × J), x ∈ strLeavesO kvs → ∃ e, substDO none bs kvs = .error e) :=
  J_induct (fun h => nomatch h) (fun _ h => nomatch h) (fun _ h => nomatch h)
    (fun s h => by
      cases List.mem_singleton.mp h
      exact ⟨_, substStr_unbound hn hg⟩)
    (fun xs ih h => by
      obtain ⟨e, he⟩ := ih h
      exact ⟨e, by rw [substD_arr, he]; rfl⟩)
    (fun kvs ih h => by
      obtain ⟨e, he⟩ := ih h
      exact ⟨e, by rw [substD_obj, he]; rfl⟩)
    (fun h => nomatch h)
    (fun y ys ihy ihys h => by
      rw [substDL_cons]
      cases hy : substD none bs y with
      | error e => exact ⟨e, rfl⟩
      | ok y' =>
        rcases List.mem_append.mp h with h | h
        · obtain ⟨e, he⟩ := ihy h
          rw [hy] at he; cases he
        · obtain ⟨e, he⟩ := ihys h
          exact ⟨e, by rw [he]; rfl⟩)
    (fun h => nomatch h)
    (fun k v kvs ihv ihk h => by
      cases hq : hasQ k with
      | true => exact ⟨_, substDO_cons_q none bs k v kvs hq⟩
      | false =>
        rw [substDO_cons none bs k v kvs hq]
        cases hy : substD none bs v with
        | error e => exact ⟨e, rfl⟩
        | ok y' =>
          rcases List.mem_append.mp h with h | h
          · obtain ⟨e, he⟩ := ihv h
            rw [hy] at he; cases he
          · obtain ⟨e, he⟩ := ihk h
            exact ⟨e, by rw [he]; rfl⟩)

theorem err_J {bs : Bs} {x : String} (hn : isNaked x = true) (hg : bs.get? x = none) :
    ∀ t : J, x ∈ strLeaves t → ∃ e, substD none bs t = .error e :=
  (err_all hn hg).1
theorem err_L {bs : Bs} {x : String} (hn : isNaked x = true) (hg : bs.get? x = none) :
    ∀ xs : List J, x ∈ strLeavesL xs → ∃ e, substDL none bs xs = .error e :=
  (err_all hn hg).2.1
theorem err_O {bs : Bs} {x : String} (hn : isNaked x = true) (hg : bs.get? x = none) :
    ∀ kvs : List (String × J), x ∈ strLeavesO kvs → ∃ e, substDO none bs kvs = .error e :=
  (err_all hn hg).2.2

theorem substDL_eq_mapM (d : Option J) (bs : Bs) : ∀ xs : List J, substDL d bs xs = xs.mapM (substD d bs) := by
  intro xs
  induction xs with
  | nil => rfl
  | cons x xs ih => rw [List.mapM_cons, substDL_cons, ih]

theorem substDO_eq_mapM (d : Option J) (bs : Bs) :
    ∀ kvs : List (String × J), (∀ kv ∈ kvs, hasQ kv.1 = false) →
      substDO d bs kvs = kvs.mapM (fun kv => (substD d bs kv.2).map (fun v => (kv.1, v))) := by
  intro kvs h
  induction kvs with
  | nil => rfl
  | cons kv kvs ih =>
    rw [List.mapM_cons, substDO_cons d bs kv.1 kv.2 kvs (h kv List.mem_cons_self),
      ih fun kv' hkv => h kv' (List.mem_cons_of_mem _ hkv)]
    cases substD d bs kv.2 <;> rfl

end SubstLemmas
