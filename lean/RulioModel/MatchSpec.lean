import RulioModel.Match

/-! # The specification of the matcher (C05)

A declarative solution relation `Sol` (maps and scalars only, no arrays; nothing but `Sol.mono` is proved of it), the
executable specification `pmv σ p d` ("the bindings `σ` lay the pattern `p` over the datum `d`") with the brute-force
enumeration `specMatch` that the driver prints for the differential run, and the predicates that delimit the
fragment of the theorems: `patOK`, `dataOK`, `scalarRepeats`. -/

def Agree (b d : J) : Prop := 0 < gmatch b d

mutual
inductive Sol (σ : Bs) : J → J → Prop where
  | null : Sol σ .null .null
  | bool (a) : Sol σ (.bool a) (.bool a)
  | num (a) : Sol σ (.num a) (.num a)
  | const (s) : isVar s = false → Sol σ (.str s) (.str s)
  | anon (d) : Sol σ (.str "?") d
  | var (s b d) : isVar s = true → σ.get? s = some b → Agree b d → Sol σ (.str s) d
  | obj (kvs dm) : SolO σ kvs dm → Sol σ (.obj kvs) (.obj dm)
inductive SolO (σ : Bs) : List (String × J) → List (String × J) → Prop where
  | nil (dm) : SolO σ [] dm
  | cons (k v r dm dv) : isVar k = false → lookupKey k dm = some dv → Sol σ v dv → SolO σ r dm →
      SolO σ ((k, v) :: r) dm
end

def Bs.Ext (bs σ : Bs) : Prop := ∀ k v, bs.get? k = some v → σ.get? k = some v

theorem Bs.Ext.refl (bs : Bs) : bs.Ext bs := fun _ _ h => h
theorem Bs.Ext.trans {a b c : Bs} (h1 : a.Ext b) (h2 : b.Ext c) : a.Ext c := fun k v h => h2 k v (h1 k v h)

mutual
theorem Sol.mono {σ σ' : Bs} (he : σ.Ext σ') : ∀ {p d : J}, Sol σ p d → Sol σ' p d
  | _, _, .null => .null
  | _, _, .bool a => .bool a
  | _, _, .num a => .num a
  | _, _, .const s hs => .const s hs
  | _, _, .anon d => .anon d
  | _, _, .var s b d hv hg ha => .var s b d hv (he _ _ hg) ha
  | _, _, .obj kvs dm h => .obj kvs dm (SolO.mono he h)
theorem SolO.mono {σ σ' : Bs} (he : σ.Ext σ') : ∀ {kvs dm}, SolO σ kvs dm → SolO σ' kvs dm
  | _, _, .nil dm => .nil dm
  | _, _, .cons k v r dm dv hk hl hs hr => .cons k v r dm dv hk hl (Sol.mono he hs) (SolO.mono he hr)
end
#print axioms Sol.mono

/-! ## Executable specification (brute force) and the fragment predicates -/

mutual
/-- substitute bound variables (Bindings.Bind of query.go) -/
def subst (σ : Bs) : J → J
  | .str s => if isVar s then (match σ.get? s with | some b => b | none => .str s) else .str s
  | .arr xs => .arr (substL σ xs)
  | .obj kvs => .obj (substO σ kvs)
  | j => j
def substL (σ : Bs) : List J → List J
  | [] => []
  | x :: xs => subst σ x :: substL σ xs
def substO (σ : Bs) : List (String × J) → List (String × J)
  | [] => []
  | (k, v) :: r => (k, subst σ v) :: substO σ r
end

mutual
/-- all variables of a pattern (values and keys), with repetitions, anonymous `?` excluded -/
def varsOf : J → List String
  | .str s => if isVar s && s != "?" then [s] else []
  | .arr xs => varsOfL xs
  | .obj kvs => varsOfO kvs
  | _ => []
def varsOfL : List J → List String
  | [] => []
  | x :: xs => varsOf x ++ varsOfL xs
def varsOfO : List (String × J) → List String
  | [] => []
  | (k, v) :: r => (if isVar k && k != "?" then [k] else []) ++ varsOf v ++ varsOfO r
end

mutual
/-- every sub-value of a datum, and every key (as a string value) -/
def subvalues : J → List J
  | .arr xs => .arr xs :: subvaluesL xs
  | .obj kvs => .obj kvs :: subvaluesO kvs
  | j => [j]
def subvaluesL : List J → List J
  | [] => []
  | x :: xs => subvalues x ++ subvaluesL xs
def subvaluesO : List (String × J) → List J
  | [] => []
  | (k, v) :: r => .str k :: subvalues v ++ subvaluesO r
end

/-- The string case of `pmv` (defined next). `pmv σ p d`: the bindings `σ`, applied to the pattern `p`, lay it over the data `d` as a partial match:
constants equal, every pattern key present in the data map, pattern array elements assigned injectively to
data array elements, and **each variable bound to exactly the data value found at its position**
(so a variable that occurs twice finds equal values). The anonymous variable `?` matches anything.
A map whose only key is a variable matches some entry of the data map whose key is the variable's value. -/
def pmStr (σ : Bs) (s : String) (d : J) : Bool :=
  if s == "?" then true
  else if isVar s then (match σ.get? s with | some b => b == d | none => false)
  else match d with | .str t => s == t | _ => false

mutual
def pmv (σ : Bs) (p d : J) : Bool :=
  match p, d with
  | .null, .null => true
  | .bool a, .bool b => a == b
  | .num a, .num b => a == b
  | .str s, d => pmStr σ s d
  | .obj kvs, .obj dm => pmO σ kvs dm dm
  | .arr xs, .arr ds => pmA σ xs ds
  | _, _ => false
termination_by (sizeOf p, 0)
def pmO (σ : Bs) (kvs : List (String × J)) (dm : List (String × J)) (rest : List (String × J)) : Bool :=
  match kvs with
  | [] => true
  | (k, v) :: r =>
    if isVar k then
      -- property variable: some entry of the data map (scanned through `rest`)
      (match rest with
       | [] => false
       | (dk, dv) :: rest' => (pmStr σ k (.str dk) && pmv σ v dv) || pmO σ ((k, v) :: r) dm rest') 
    else
      (match lookupKey k dm with
       | some dv => pmv σ v dv
       | none => false) && pmO σ r dm dm
termination_by (sizeOf kvs, rest.length)
/-- injective assignment of pattern elements to data elements -/
def pmA (σ : Bs) (xs : List J) (ds : List J) : Bool :=
  match xs with
  | [] => true
  | x :: xs' => pmPick σ x xs' [] ds
termination_by (sizeOf xs, 0)
def pmPick (σ : Bs) (x : J) (xs : List J) (pre post : List J) : Bool :=
  match post with
  | [] => false
  | d :: post' => (pmv σ x d && pmA σ xs (pre ++ post')) || pmPick σ x xs (pre ++ [d]) post'
termination_by (sizeOf x + sizeOf xs, post.length + 1)
decreasing_by
  all_goals simp_wf
  all_goals first | omega | (cases x <;> simp <;> omega) | (apply Prod.Lex.right'; simp; omega) | skip
end

def assignments (vars : List String) (cands : List J) : List Bs :=
  match vars with
  | [] => [[]]
  | v :: vs => (assignments vs cands).flatMap (fun σ => cands.map (fun c => (v, c) :: σ))

def dedupJ (l : List J) : List J := l.foldl (fun acc x => if acc.contains x then acc else acc ++ [x]) []

/-- Brute-force specification: every assignment of the pattern's unbound variables to sub-values of
the data (or keys) under which the pattern lies over the data. -/
def specMatch (p d : J) (bs : Bs) : List Bs :=
  let vs := ((varsOf p).filter (fun v => (bs.get? v).isNone)).eraseDups
  let cands := dedupJ (subvalues d)
  ((assignments vs cands).filter (fun σ => pmv (σ ++ bs) p d)).map (fun σ => σ ++ bs)

/-! ### fragment predicates (decidable, evaluated by the driver and used as theorem hypotheses) -/

def distinctJ : List J → Bool
  | [] => true
  | x :: xs => !xs.contains x && distinctJ xs

mutual
/-- keys are constants (a variable key, the map with a single variable key included, is outside the fragment);
arrays hold at most one variable and pairwise distinct scalar constants; no optional variables. -/
def patOK : J → Bool
  | .str s => !isOptVar s
  | .arr xs =>
      ((xs.filter (fun x => match x with | .str s => isVar s | _ => false)).length ≤ 1)
      && distinctJ (xs.filter J.isScalar) && patOKL xs
  | .obj kvs => kvs.all (fun kv => !isVar kv.1) && patOKO kvs
  | _ => true
def patOKL : List J → Bool
  | [] => true
  | x :: xs => patOK x && patOKL xs
def patOKO : List (String × J) → Bool
  | [] => true
  | (_, v) :: r => patOK v && patOKO r
end

mutual
/-- ground data; scalars inside one array pairwise distinct -/
def dataOK : J → Bool
  | .str s => !isVar s
  | .arr xs => distinctJ (xs.filter J.isScalar) && dataOKL xs
  | .obj kvs => dataOKO kvs
  | _ => true
def dataOKL : List J → Bool
  | [] => true
  | x :: xs => dataOK x && dataOKL xs
def dataOKO : List (String × J) → Bool
  | [] => true
  | (k, v) :: r => !isVar k && dataOK v && dataOKO r
end

def count (v : String) (l : List String) : Nat := (l.filter (· == v)).length

mutual
/-- rename every occurrence of a variable in `R` apart (`?x` ↦ `?x#n`), threading a counter -/
def apart (R : List String) : J → Nat → J × Nat
  | .str s, n => if R.contains s then (.str (s ++ "#" ++ toString n), n + 1) else (.str s, n)
  | .arr xs, n => let (ys, m) := apartL R xs n; (.arr ys, m)
  | .obj kvs, n => let (ys, m) := apartO R kvs n; (.obj ys, m)
  | j, n => (j, n)
def apartL (R : List String) : List J → Nat → List J × Nat
  | [], n => ([], n)
  | x :: xs, n => let (y, m) := apart R x n; let (ys, m') := apartL R xs m; (y :: ys, m')
def apartO (R : List String) : List (String × J) → Nat → List (String × J) × Nat
  | [], n => ([], n)
  | (k, v) :: r, n => let (y, m) := apart R v n; let (ys, m') := apartO R r m; ((k, y) :: ys, m')
end

/-- a variable that occurs more than once (or is already bound) is only ever laid over scalars -/
def scalarRepeats (p d : J) (bs : Bs) : Bool :=
  let vs := varsOf p
  let R := (vs.filter (fun v => count v vs > 1 || (bs.get? v).isSome)).eraseDups
  if R.isEmpty then true else
  let p' := (apart R p 0).1
  (bs.all (fun kv => kv.2.isScalar || !vs.contains kv.1)) &&
  (specMatch p' d []).all (fun σ => σ.all (fun kv => kv.2.isScalar || !(R.any (fun r => kv.1.startsWith (r ++ "#")))))
