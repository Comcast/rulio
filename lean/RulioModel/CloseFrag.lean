import RulioModel.StateInv
import RulioModel.PatIndexSpec
import RulioModel.SysInv

/-! # Vocabulary for the composition theorems of C06 (reload of the indexed state) and C07 (expiry): they combine the
state, index and storage invariants. Core Lean only. -/

/-- the ids of stored facts that are expired at `now` -/
def expiredIds (s : St) (now : Int) : List String :=
  (s.facts.filter (fun e => match checkExpiration e.2 now with | .ok true => true | _ => false)).map (·.1)

/-- a fact `t` that expires at time 5 and carries the term `k`, a live fact `v` and an expired fact `w` without it -/
def expirySearchOps : List StOp :=
  [StOp.add "t" [("expires", J.num 5), ("k", .num 1)] 0, StOp.add "v" [("m", J.num 1)] 0,
   StOp.add "w" [("expires", J.num 6), ("z", .num 2)] 0]

/-- executable form of "the stored fact `id` is expired at `now`, can leave the pattern index, and carries every term
of the pattern `p`" (the facts a completed indexed `Search p` is proved to purge) -/
def purgeCandB (s : St) (p : Obj) (id : String) (now : Int) : Bool :=
  match amGet s.facts id with
  | some f =>
    (match checkExpiration f now with | .ok true => true | _ => false) && !unindexErr id f &&
      (extractTerms p).all (fun t => (extractTerms f).contains t)
  | none => false

/-- ok-results of a search / rule lookup as a list of ids (`none`: the call failed) -/
def okIds {α} (r : Except LErr (List (String × α))) : Option (List String) :=
  match r with | .ok l => some (l.map (·.1)) | .error _ => none

/-- a rule that expires at 5 -/
def expiryRuleOps : List StOp :=
  [StOp.add "r" [("rule", .obj [("when", .obj [("a", .num 1)]), ("action", .obj [("code", .str "1")])]),
                 ("expires", J.num 5)] 0,
   StOp.add "q" [("rule", .obj [("when", .obj [("a", .num 1)]), ("action", .obj [("code", .str "2")])])] 0]

/-- the index invariants a live indexed state satisfies (`reachable_wf`, `state_index_invariant`) -/
structure IdxInvs (s : St) : Prop where
  kind : s.kind = .indexed
  wf : WF s
  idx : StIdx s

/-- same memory, storage and id counter; the two indexes may differ -/
structure SameMem (s t : St) : Prop where
  facts : t.facts = s.facts
  store : t.store = s.store
  fresh : t.fresh = s.fresh
  kind : t.kind = s.kind

/-- the relation between a live indexed state `s` and its reloaded twin `t`: same memory, storage and counter, storage
the list image of memory, and both satisfy the index invariants (the indexes themselves differ: the live term index
keeps stale ids, id lists are in different orders) -/
structure ReloadSim (s t : St) : Prop where
  mem : SameMem s t
  live : IdxInvs s
  re : IdxInvs t
  storeEq : StoreEq s

/-- the later operations for which live and reloaded state are proved to stay in step: writes and `clear` always;
`Get` of an id whose fact is absent or not expired at that time; `Search` / `FindRules` at a time when no stored fact
is expired; `Rem` of a non-variable id at such a time when every stored rule can leave the pattern index
(otherwise the cascade may abort half-way, at a point that depends on the order of the term-index lists) -/
def ROp.okFor (s : St) : ROp → Prop
  | .add _ _ _ => True
  | .rem id now => NoneExpired s now ∧ isVar id = false ∧ UnindexOK s
  | .get id now => ∀ f, amGet s.facts id = some f → checkExpiration f now = .ok false
  | .search _ now => NoneExpired s now
  | .findRules _ now => NoneExpired s now
  | .clear => True

/-- every operation of the history is inside that fragment when its turn comes (on the live state) -/
def OpsOK : St → List ROp → Prop
  | _, [] => True
  | s, op :: rest => op.okFor s ∧ OpsOK (s.stepOp op).1 rest

/-- a history for the reload examples: a fact with an expiry, a rule, a dependent of the fact, an overwritten fact
(which leaves stale ids in the live term index) -/
def reloadOps : List ROp :=
  [.add "x" [("a", .num 1), ("expires", .num 100)] 10,
   .add "r" [("rule", .obj [("when", .obj [("a", .num 1)]), ("action", .obj [("code", .str "1")])])] 11,
   .add "d" [("deleteWith", .arr [.str "x"]), ("k", .str "v")] 12,
   .add "o" [("a", .num 1), ("b", .num 2)] 13, .add "o" [("c", .num 3)] 14]

/-- later operations inside the fragment `OpsOK` (after the reload at time 15) -/
def laterOps : List ROp :=
  [.add "y" [("b", .num 2)] 20, .get "x" 21, .add "" [("c", .num 3)] 23, .get "d" 24, .rem "x" 25]
