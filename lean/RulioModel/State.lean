import RulioModel.Fact
import RulioModel.PatIndex

/-! # The two State implementations (state_indexed.go, state_linear.go) over a storage map.
Explicit `now`; Go maps are key-unique association lists; iteration is in list order (results are
compared as multisets by the check). `panic` is an explicit error class. -/

def stringLengthTermLimit : Nat := 1024

mutual
/-- `ExtractTerms` (as a list, duplicates removed by the caller) -/
def termsJ : J → List String
  | .str s => if !isVar s && s.utf8ByteSize < stringLengthTermLimit then [s] else []
  | .arr xs => termsL xs
  | .obj kvs => termsO kvs
  | _ => []
def termsL : List J → List String
  | [] => []
  | x :: xs => termsJ x ++ termsL xs
def termsO : List (String × J) → List String
  | [] => []
  | (k, v) :: r =>
    (if !isVar k && k.utf8ByteSize < stringLengthTermLimit then [k] else []) ++
    (if k == "rule" || k.endsWith "!" then [] else termsJ v) ++ termsO r
end

def extractTerms (fact : Obj) : List String := (termsO fact).eraseDups

/-- TermIndex: term ↦ set of ids -/
abbrev TI := List (String × List String)

def TI.add (ti : TI) (term id : String) : TI :=
  match amGet ti term with
  | some ids => amSet ti term (if ids.contains id then ids else ids ++ [id])
  | none => ti ++ [(term, [id])]

def TI.rem (ti : TI) (term id : String) : TI :=
  match amGet ti term with
  | some ids => let ids' := ids.erase id; if ids'.isEmpty then amErase ti term else amSet ti term ids'
  | none => ti

/-- `TermIndex.Search`: the intersection of the id sets of all terms; no terms is an error -/
def TI.search (ti : TI) (terms : List String) : Except LErr (List String) :=
  match terms with
  | [] => .error "noTerms"
  | t :: ts =>
    let first := (amGet ti t).getD []
    .ok (ts.foldl (fun acc t' => let ids := (amGet ti t').getD []; acc.filter ids.contains) first)

inductive Kind where | indexed | linear
deriving DecidableEq, Repr

structure St where
  kind  : Kind
  facts : List (String × Obj) := []   -- IdToFact / Facts[id].M (prepared facts)
  store : List (String × J) := []     -- storage: id ↦ stored document
  ri    : PI := PI.empty              -- RuleIndex (indexed only)
  ti    : TI := []                    -- FactIndex (indexed only)
  fresh : Nat := 0                    -- counter standing in for UUID()


def searchFuel (pairs : List (String × J)) : Nat := 4 * szO pairs + 8

def St.freshId (s : St) : String := "fresh#" ++ toString s.fresh

/-- `AddPatternMap` (`piRem`: `RemPatternMap`), run with the size-based fuel `searchFuel` for `PI.mod`/`PI.search`:
every step consumes a pair or expands one -/
def piAdd (ri : PI) (pat : Obj) (id : String) : PI × Option PErr :=
  let pairs := mapToPairs pat
  PI.mod (searchFuel pairs) ri pairs id true
def piRem (ri : PI) (pat : Obj) (id : String) : PI × Option PErr :=
  let pairs := mapToPairs pat
  PI.mod (searchFuel pairs) ri pairs id false
/-- `SearchPatternsMap`: the trie walk plus the ids sitting on the root (patterns without indexable pairs) -/
def piSearch (ri : PI) (ev : Obj) : Except PErr (List String) :=
  let pairs := mapToPairs ev
  (PI.search (searchFuel pairs) ri pairs).map (fun ids => union ids ri.ids)

def perr : PErr → LErr
  | .notSortable => "notSortable"
  | .varKeyWithOthers => "varKeyWithOthers"
  | .varInEvent => "varInEvent"

def merr : MErr → LErr
  | .propVarWithOthers => "propVarWithOthers"
  | .repeatedVar => "repeatedVar"
  | .multiVar => "multiVar"
  | .nonGround => "nonGround"

def matchesJ (p d : J) : Except LErr (List Bs) :=
  match matchJ p d [] with
  | .ok r => .ok r
  | .error e => .error (merr e)

/-! ## IndexedState -/

/-- `unindexRule` -/
def St.unindexRule (s : St) (id : String) (rule : Obj) : Except LErr St := do
  match ← getRulePattern rule with
  | none => pure s
  | some pat =>
    let (ri, e) := piRem s.ri pat id
    match e with
    | some e => .error (perr e)   -- NB: Go keeps the partially modified trie; the error aborts the op
    | none => pure { s with ri := ri }

/-- `indexRule`: adds the rule's pattern.
Returns the state even on error (the trie may have been partially extended). -/
def St.indexRule (s : St) (id : String) (rule : Obj) : St × Option LErr :=
  match getRulePattern rule with
  | .error e => (s, some e)
  | .ok none => (s, some "syntax")
  | .ok (some pat) =>
    let (ri, e) := piAdd s.ri pat id
    ({ s with ri := ri }, e.map perr)

/-- what `add` does first when the id is already stored: the previous rule's pattern leaves the index.
Returns the previous rule (if any) so that it can be put back when the new one is rejected. -/
def St.unindexPrevious (s : St) (id : String) : Except LErr (St × Option Obj) :=
  match amGet s.facts id with
  | none => .ok (s, none)
  | some prev =>
    match extractRule prev false with
    | .ok (some old, _) => (s.unindexRule id old).map (fun s' => (s', some old))
    | _ => .ok (s, none)

/-- `IndexedState.add` (memory only). Returns the new state even when it fails half-way. -/
def St.iadd (s : St) (given : String) (x : Obj) (now : Int) : St × Except LErr (String × Obj) :=
  match prepareFact given s.freshId x now with
  | .error e => (s, .error e)
  | .ok (id, fact, x') =>
    let s := if given == "" && id == s.freshId then { s with fresh := s.fresh + 1 } else s
    match extractRule fact false with
    | .error e => (s, .error e)
    | .ok (rule, fact) =>
      match s.unindexPrevious id with
      | .error e => (s, .error e)
      | .ok (s, replaced) =>
      let (s, err) : St × Option LErr :=
        match rule with
        | some r =>
          if Obj.has r "schedule" then (s, none) else
          match s.indexRule id r with
          | (s1, none) => (s1, none)
          | (s1, some e) =>
            -- the new rule is rejected: the previous one goes back into the index
            (match replaced with
             | some old => if Obj.has old "schedule" then (s1, some e) else ((s1.indexRule id old).1, some e)
             | none => (s1, some e))
        | none => (s, none)
      match err with
      | some e => (s, .error e)
      | none =>
        let ti := (extractTerms fact).foldl (fun ti t => TI.add ti t id) s.ti
        ({ s with ti := ti, facts := amSet s.facts id fact }, .ok (id, x'))

mutual
/-- `IndexedState.rem` with its cascade; `fuel` bounds the recursion depth (see C08) -/
def St.irem (fuel : Nat) (s : St) (id : String) (now : Int) : St × Except LErr Bool :=
  match fuel with
  | 0 => (s, .error "fuel")
  | fuel + 1 =>
    match amGet s.facts id with
    | some fact =>
      let rule := match extractRule fact false with | .ok (r, _) => r | .error _ => none
      let r1 : Except LErr St := match rule with
        | some r => s.unindexRule id r
        | none => .ok s
      match r1 with
      | .error e => (s, .error e)
      | .ok s1 =>
        let s2 := { s1 with facts := amErase s1.facts id,
                            ti := (extractTerms fact).foldl (fun ti t => TI.rem ti t id) s1.ti,
                            store := amErase s1.store id }
        match St.ideps fuel s2 id now with
        | (s3, .error e) => (s3, .error e)
        | (s3, .ok _) => (s3, .ok true)
    | none =>
      match St.ideps fuel s id now with
      | (s3, .error e) => (s3, .error e)
      | (s3, .ok _) => (s3, .ok false)
/-- `deleteDependencies`: search `{deleteWith:[id]}`, then `rem` each result found -/
def St.ideps (fuel : Nat) (s : St) (id : String) (now : Int) : St × Except LErr Unit :=
  match fuel with
  | 0 => (s, .error "fuel")
  | fuel + 1 =>
    if isVar id then (s, .ok ()) else   -- such an id would be a pattern variable
    match St.isearch fuel s [("deleteWith", .arr [.str id])] now with
    | (s1, .error e) => (s1, .error e)
    | (s1, .ok found) => St.iremAll fuel s1 (found.map (·.1)) now
def St.iremAll (fuel : Nat) (s : St) (ids : List String) (now : Int) : St × Except LErr Unit :=
  match fuel with
  | 0 => (s, .error "fuel")
  | fuel + 1 =>
    match ids with
    | [] => (s, .ok ())
    | i :: rest =>
      match St.irem fuel s i now with
      | (s1, .error e) => (s1, .error e)
      | (s1, .ok _) => St.iremAll fuel s1 rest now
/-- `IndexedState.search`: term-index candidates, expiry (purging, cascading), re-match -/
def St.isearch (fuel : Nat) (s : St) (pattern : Obj) (now : Int) : St × Except LErr (List (String × Obj × List Bs)) :=
  match fuel with
  | 0 => (s, .error "fuel")
  | fuel + 1 =>
    -- `SearchForIDs`: no terms = every stored fact is a candidate
    let cands := if (extractTerms pattern).isEmpty then .ok (s.facts.map (·.1)) else TI.search s.ti (extractTerms pattern)
    match cands with
    | .error e => (s, .error e)
    | .ok ids => St.isearchLoop fuel s pattern ids now []
def St.isearchLoop (fuel : Nat) (s : St) (pattern : Obj) (ids : List String) (now : Int)
    (acc : List (String × Obj × List Bs)) : St × Except LErr (List (String × Obj × List Bs)) :=
  match fuel with
  | 0 => (s, .error "fuel")
  | fuel + 1 =>
    match ids with
    | [] => (s, .ok acc)
    | id :: rest =>
      match amGet s.facts id with
      | none => St.isearchLoop fuel s pattern rest now acc
      | some fact =>
        -- expire: an error from checkExpiration is logged and ignored here
        let (s1, gone) : St × Bool := match checkExpiration fact now with
          | .ok true => ((St.irem fuel s id now).1, true)
          | _ => (s, false)
        if gone then St.isearchLoop fuel s1 pattern rest now acc else
        match matchesJ (.obj pattern) (.obj fact) with
        | .error e => (s1, .error e)
        | .ok bss =>
          St.isearchLoop fuel s1 pattern rest now (if bss.isEmpty then acc else acc ++ [(id, fact, bss)])
end

/-- length of the longest id list in the term index -/
def tiWidth : TI → Nat
  | [] => 0
  | (_, ids) :: r => max ids.length (tiWidth r)

/-- recursion budget: each level deletes a fact or is followed by one that does; the candidate lists of the indexed
search are bounded by the widest term-index entry, which stale entries can make longer than the number of facts
(C08 `cascade_terminates`, `fuel_insufficient` for the budget without the last summand) -/
def St.fuel (s : St) : Nat := 6 * s.facts.length + 12 + tiWidth s.ti

/-- `IndexedState.Add`: memory first, then the prepared fact goes to storage -/
def St.iAdd (s : St) (given : String) (x : Obj) (now : Int) : St × Except LErr String :=
  match s.iadd given x now with
  | (s1, .error e) => (s1, .error e)
  | (s1, .ok (id, _)) =>
    -- the *prepared* fact (absolute `expires`) is what goes to storage
    ({ s1 with store := amSet s1.store id (.obj ((amGet s1.facts id).getD [])) }, .ok id)

def St.iGet (s : St) (id : String) (now : Int) : St × Except LErr Obj :=
  match amGet s.facts id with
  | none => (s, .error "notFound")
  | some fact =>
    match checkExpiration fact now with
    | .error e => (s, .error e)
    | .ok true =>
      match St.irem s.fuel s id now with
      | (s1, .error e) => (s1, .error e)
      | (s1, .ok _) => (s1, .error "notFound")
    | .ok false => (s, .ok fact)

/-- `doFindRules` (indexed): pattern-index candidates → expiry → lost rule / rule body errors -/
def St.iFindRules (s : St) (event : Obj) (now : Int) : St × Except LErr (List (String × Obj)) :=
  match piSearch s.ri event with
  | .error e => (s, .error (perr e))
  | .ok ids =>
    let rec go (fuel : Nat) (s : St) (ids : List String) (acc : List (String × Obj)) : St × Except LErr (List (String × Obj)) :=
      match fuel with
      | 0 => (s, .error "fuel")
      | fuel + 1 =>
      match ids with
      | [] => (s, .ok acc)
      | id :: rest =>
        let fact? := amGet s.facts id
        let fact := fact?.getD []
        let (s1, gone) : St × Bool := match checkExpiration fact now with
          | .ok true => ((St.irem s.fuel s id now).1, true)
          | _ => (s, false)
        if gone then go fuel s1 rest acc else
        match fact? with
        | none => (s1, .error "lostRule")
        | some f =>
          match extractRule f true with
          | .error e => (s1, .error e)
          | .ok (some body, _) => go fuel s1 rest (acc ++ [(id, body)])
          | .ok (none, _) => (s1, .error "ruleBodyMissing")
    go (ids.length + 1) s ids []

/-- `Load` (indexed): re-prepare every stored document; expired ones are removed from storage -/
def St.iLoad (kindStore : List (String × J)) (now : Int) : Except LErr St :=
  let rec go (s : St) (docs : List (String × J)) : Except LErr St :=
    match docs with
    | [] => .ok s
    | (id, doc) :: rest =>
      match doc with
      | .obj x =>
        match s.iadd id x now with
        | (s1, .ok _) => go s1 rest
        | (s1, .error "expired") => go { s1 with store := amErase s1.store id } rest
        | (_, .error e) => .error e
      | _ => .error "unmarshal"
  go { kind := .indexed, store := kindStore } kindStore

/-! ## LinearState -/

mutual
def St.lrem (fuel : Nat) (s : St) (id : String) (now : Int) : St × Except LErr Bool :=
  match fuel with
  | 0 => (s, .error "fuel")
  | fuel + 1 =>
    let had := amHas s.facts id
    let s1 := { s with store := amErase s.store id, facts := amErase s.facts id }
    if isVar id then (s1, .ok had) else   -- such an id would be a pattern variable
    match St.lsearch fuel s1 [("deleteWith", .arr [.str id])] now with
    | (s2, .error e) => (s2, .error e)
    | (s2, .ok found) =>
      match St.lremAll fuel s2 ((found.map (·.1)).filter (· != id)) now with
      | (s3, .error e) => (s3, .error e)
      | (s3, .ok _) => (s3, .ok had)
def St.lremAll (fuel : Nat) (s : St) (ids : List String) (now : Int) : St × Except LErr Unit :=
  match fuel with
  | 0 => (s, .error "fuel")
  | fuel + 1 =>
    match ids with
    | [] => (s, .ok ())
    | i :: rest =>
      match St.lrem fuel s i now with
      | (s1, .error e) => (s1, .error e)
      | (s1, .ok _) => St.lremAll fuel s1 rest now
/-- `LinearState.search`: scan; iterates over a snapshot of the ids (a Go map range tolerates deletion) -/
def St.lsearch (fuel : Nat) (s : St) (pattern : Obj) (now : Int) : St × Except LErr (List (String × Obj × List Bs)) :=
  match fuel with
  | 0 => (s, .error "fuel")
  | fuel + 1 => St.lsearchLoop fuel s pattern (s.facts.map (·.1)) now []
def St.lsearchLoop (fuel : Nat) (s : St) (pattern : Obj) (ids : List String) (now : Int)
    (acc : List (String × Obj × List Bs)) : St × Except LErr (List (String × Obj × List Bs)) :=
  match fuel with
  | 0 => (s, .error "fuel")
  | fuel + 1 =>
    match ids with
    | [] => (s, .ok acc)
    | id :: rest =>
      match amGet s.facts id with
      | none => St.lsearchLoop fuel s pattern rest now acc
      | some fact =>
        match checkExpiration fact now with
        | .error e => (s, .error e)
        | .ok true =>
          match St.lrem fuel s id now with
          | (s1, .error e) => (s1, .error e)
          | (s1, .ok _) => St.lsearchLoop fuel s1 pattern rest now acc
        | .ok false =>
          match matchesJ (.obj pattern) (.obj fact) with
          | .error e => (s, .error e)
          | .ok bss => St.lsearchLoop fuel s pattern rest now (if bss.isEmpty then acc else acc ++ [(id, fact, bss)])
end

/-- `LinearState.Add`: prepare, store the prepared fact, then memory -/
def St.lAdd (s : St) (given : String) (x : Obj) (now : Int) : St × Except LErr String :=
  match prepareFact given s.freshId x now with
  | .error e => (s, .error e)
  | .ok (id, m, x') =>
    let s := if given == "" && id == s.freshId then { s with fresh := s.fresh + 1 } else s
    let _ := x'
    ({ s with store := amSet s.store id (.obj m), facts := amSet s.facts id m }, .ok id)

def St.lGet (s : St) (id : String) (now : Int) : St × Except LErr Obj :=
  match amGet s.facts id with
  | none => (s, .error "notFound")
  | some fact =>
    match checkExpiration fact now with
    | .error e => (s, .error e)
    | .ok true =>
      match St.lrem s.fuel s id now with
      | (s1, .error e) => (s1, .error e)
      | (s1, .ok _) => (s1, .error "notFound")
    | .ok false => (s, .ok fact)

/-- `doFindRules` (linear): scan all facts with a `rule` key -/
def St.lFindRules (s : St) (event : Obj) (now : Int) : St × Except LErr (List (String × Obj)) :=
  let rec go (fuel : Nat) (s : St) (ids : List String) (acc : List (String × Obj)) : St × Except LErr (List (String × Obj)) :=
    match fuel with
    | 0 => (s, .error "fuel")
    | fuel + 1 =>
    match ids with
    | [] => (s, .ok acc)
    | id :: rest =>
      match amGet s.facts id with
      | none => go fuel s rest acc
      | some fact =>
        match fact.get? "rule" with
        | none => go fuel s rest acc
        | some rule =>
          match checkExpiration fact now with
          | .error e => (s, .error e)
          | .ok true =>
            match St.lrem s.fuel s id now with
            | (s1, .error e) => (s1, .error e)
            | (s1, .ok _) => go fuel s1 rest acc
          | .ok false =>
            match rule with
            | .obj r =>
              match Obj.get? r "when" with
              | some (.obj w) =>
                let pat := (Obj.get? w "pattern").getD (.obj w)
                match matchesJ pat (.obj event) with
                | .error e => (s, .error e)
                | .ok bss => go fuel s rest (if bss.isEmpty then acc else acc ++ [(id, r)])
              | _ => go fuel s rest acc
            | _ => (s, .error "panic")
  go (s.facts.length + 1) s (s.facts.map (·.1)) []

/-- `Load` (linear): the stored documents become the in-memory facts verbatim -/
def St.lLoad (kindStore : List (String × J)) : Except LErr St :=
  let rec go (docs : List (String × J)) (acc : List (String × Obj)) : Except LErr (List (String × Obj)) :=
    match docs with
    | [] => .ok acc
    | (id, .obj x) :: rest => go rest (acc ++ [(id, x)])
    | _ => .error "unmarshal"
  match go kindStore [] with
  | .ok fs => .ok { kind := .linear, store := kindStore, facts := fs }
  | .error e => .error e

/-! ## kind-dispatching wrappers (the `State` interface) -/

def St.add (s : St) (given : String) (x : Obj) (now : Int) : St × Except LErr String :=
  match s.kind with | .indexed => s.iAdd given x now | .linear => s.lAdd given x now
def St.rem (s : St) (id : String) (now : Int) : St × Except LErr Bool :=
  match s.kind with | .indexed => St.irem s.fuel s id now | .linear => St.lrem s.fuel s id now
def St.get (s : St) (id : String) (now : Int) : St × Except LErr Obj :=
  match s.kind with | .indexed => s.iGet id now | .linear => s.lGet id now
def St.search (s : St) (p : Obj) (now : Int) : St × Except LErr (List (String × Obj × List Bs)) :=
  match s.kind with | .indexed => St.isearch s.fuel s p now | .linear => St.lsearch s.fuel s p now
def St.findRules (s : St) (ev : Obj) (now : Int) : St × Except LErr (List (String × Obj)) :=
  match s.kind with | .indexed => s.iFindRules ev now | .linear => s.lFindRules ev now
def St.clear (s : St) : St := { kind := s.kind, fresh := s.fresh }
def St.count (s : St) : Nat := s.facts.length
def St.reload (s : St) (now : Int) : Except LErr St :=
  match s.kind with
  | .indexed => (St.iLoad s.store now).map (fun t => { t with fresh := s.fresh })
  | .linear => (St.lLoad s.store).map (fun t => { t with fresh := s.fresh })
