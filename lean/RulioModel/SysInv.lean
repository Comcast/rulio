import RulioModel.Loc
import RulioModel.Spec

/-! # Invariants and specification vocabulary for systems of locations (C09) and for the
state/storage pair of one location (C06). Core Lean only. -/

/-! ## C09: well-formed systems, name-preserving computations, the parent graph -/

def Sys.keys (sys : Sys) : List String := sys.map (·.1)

/-- a system is a finite map: keys pairwise distinct, and every location sits under its own name
(`Sys.put` files a location under `l.name`) -/
structure SysWF (sys : Sys) : Prop where
  nodup : sys.keys.Nodup
  named : ∀ k l, (k, l) ∈ sys → l.name = k

/-- a single-location computation never renames the location it runs on (true of every model method) -/
def LM.KeepsName {α} (m : LM α) : Prop := ∀ l, (m l).1.name = l.name

/-- a single-location computation changes neither the name nor the provider flag -/
def LM.KeepsId {α} (m : LM α) : Prop := ∀ l, (m l).1.name = l.name ∧ (m l).1.hasProvider = l.hasProvider

/-- the parents of location `n` as `DoAncestors` would read them right now (`none`: unknown location or
a failing read) -/
def Sys.parentsAt (sys : Sys) (now : Int) (n : String) : Option (List String) :=
  match sys.get? n with
  | none => none
  | some l => match (locGetParentsRaw now l).2 with
    | .ok ps => some ps
    | .error _ => none

/-- `Par sys now n p`: `p` is a declared parent of `n` (read from `n`'s `!parents` property fact) -/
def Par (sys : Sys) (now : Int) (n p : String) : Prop :=
  ∃ ps, sys.parentsAt now n = some ps ∧ p ∈ ps

/-- reflexive-transitive closure of the parent relation: `Anc sys now n a` — `a` is `n` or a transitive parent of `n` -/
inductive Anc (sys : Sys) (now : Int) : String → String → Prop where
  | refl (n : String) : Anc sys now n n
  | step {n p a : String} : Par sys now n p → Anc sys now p a → Anc sys now n a

/-- the parent graph has no cycle: no location is a transitive parent of itself -/
def Acyclic (sys : Sys) (now : Int) : Prop :=
  ∀ n p, Par sys now n p → ¬ Anc sys now p n

/-! ## C06: the state/storage pair -/

/-- storage is the image of the in-memory facts: same ids, the stored document is the prepared fact -/
def Mirror (s : St) : Prop := ∀ id, amGet s.store id = (amGet s.facts id).map J.obj

/-- operations of one location's `State` -/
inductive ROp where
  | add (given : String) (x : Obj) (now : Int)
  | rem (id : String) (now : Int)
  | get (id : String) (now : Int)
  | search (p : Obj) (now : Int)
  | findRules (ev : Obj) (now : Int)
  | clear

/-- one step; the result is reduced to ok/error (the value is irrelevant for the invariants) -/
def St.stepOp (s : St) : ROp → St × Except LErr Unit
  | .add g x now => match s.add g x now with | (s', r) => (s', r.map (fun _ => ()))
  | .rem id now => match s.rem id now with | (s', r) => (s', r.map (fun _ => ()))
  | .get id now => match s.get id now with | (s', r) => (s', r.map (fun _ => ()))
  | .search p now => match s.search p now with | (s', r) => (s', r.map (fun _ => ()))
  | .findRules ev now => match s.findRules ev now with | (s', r) => (s', r.map (fun _ => ()))
  | .clear => (s.clear, .ok ())

/-- run a history (failed operations keep whatever state they reached, as the Go code does) -/
def St.runOps (s : St) : List ROp → St
  | [] => s
  | op :: rest => St.runOps (s.stepOp op).1 rest

def St.empty (k : Kind) : St := { kind := k }

/-! ## the ancestor walk without its loop counter (C09); the stored form of a fact and what a read may change
(C06, C09); chains of first parents (C09) -/

/-- the parent loop of `DoAncestors` by recursion on the parent list (the model's loop counter
`parents.length + 1` is redundant): `step` is the recursive call on one parent -/
def walkList {α} (step : Sys → String → List α → Sys × Except LErr (List α)) (n : String) :
    Sys → List String → List α → Sys × Except LErr (List α)
  | sys, [], acc => (sys, .ok acc)
  | sys, p :: rest, acc =>
    if p == n then (sys, .error "loop") else
    match sys.get? p with
    | none => (sys, .error "notFound")
    | some _ =>
      match step sys p acc with
      | (sys2, .error e) => (sys2, .error e)
      | (sys2, .ok acc2) => walkList step n sys2 rest acc2

/-- the `LocationProvider` check of `DoAncestors`: parents declared but no provider to resolve them -/
def noProv (sys : Sys) (n : String) (parents : List String) : Bool :=
  !parents.isEmpty && !(match sys.get? n with | some l => l.hasProvider | none => true)

/-- the names on the current path are pairwise distinct known locations -/
def PathOK (sys : Sys) (path : List String) : Prop := path.Nodup ∧ ∀ p ∈ path, p ∈ sys.keys

/-- the in-memory form of a prepared fact in the indexed state (`ExtractRule` mirrors `expires` into a map rule body) -/
def indexedForm (m : Obj) : Obj :=
  match extractRule m false with
  | .ok (_, f) => f
  | .error _ => m

/-- the fact as a state of the given kind keeps it in memory -/
def memForm (k : Kind) (m : Obj) : Obj := match k with | .indexed => indexedForm m | .linear => m

/-- same facts, storage and kind (the indexes and the id counter may differ) -/
def SameData (s s' : St) : Prop := s'.facts = s.facts ∧ s'.store = s.store ∧ s'.kind = s.kind

/-- `s'` is `s` with some ids erased from facts *and* storage together (indexes may differ) -/
def Shrinks (s s' : St) : Prop :=
  s'.kind = s.kind ∧ s'.fresh = s.fresh ∧ s'.facts.Sublist s.facts ∧ s'.store.Sublist s.store ∧
  ∀ id, (amGet s'.facts id = amGet s.facts id ∧ amGet s'.store id = amGet s.store id) ∨
        (amGet s'.facts id = none ∧ amGet s'.store id = none)

/-- the C06 state invariant: storage mirrors the facts, and both are finite maps (unique ids) -/
structure StoreOK (s : St) : Prop where
  mirror : Mirror s
  factsNodup : (s.facts.map (·.1)).Nodup
  storeNodup : (s.store.map (·.1)).Nodup

/-- the fact `setProp id prop v` stores -/
def propFact (id prop : String) (v : J) : Obj := [("id", .str id), ("!" ++ prop, v), ("deleteWith", .arr [.str id])]

/-- `p` is the first declared parent of `n` (and `n` can resolve parents) -/
def firstParentIs (sys : Sys) (now : Int) (n p : String) : Bool :=
  match sys.get? n with
  | none => false
  | some l => l.hasProvider && (match (locGetParentsRaw now l).2 with | .ok (q :: _) => q == p | _ => false)

/-- `n → m₁ → … → mₖ → last` along first declared parents -/
def chainFP (sys : Sys) (now : Int) : String → List String → String → Bool
  | n, [], last => firstParentIs sys now n last
  | n, m :: mid, last => firstParentIs sys now n m && chainFP sys now m mid last

/-- result test without `DecidableEq` on results -/
def isErr {α} (e : String) : Except LErr α → Bool
  | .error e' => e' == e
  | .ok _ => false

/-! ## small concrete systems for the non-vacuity examples; the storage and indexes of a linear state (C06) -/

def Sys.fresh (k : Kind) (names : List String) : Sys := names.map (fun n => (n, { name := n, st := { kind := k } }))

/-- `a` names itself as parent -/
def exSelfLoop (k : Kind) : Sys := ((Sys.fresh k ["a", "b"]).at "a" (locSetParents {} ["a"] 0)).1

/-- `a → b → a` -/
def exIndirectLoop (k : Kind) : Sys :=
  let s1 := ((Sys.fresh k ["a", "b"]).at "a" (locSetParents {} ["b"] 0)).1
  (s1.at "b" (locSetParents {} ["a"] 0)).1

/-- diamond `d → b, c`, `b → a`, `c → a` plus an unrelated `z → d` (a child of `d`) -/
def exDiamond (k : Kind) : Sys :=
  let s0 := Sys.fresh k ["a", "b", "c", "d", "z"]
  let s1 := (s0.at "d" (locSetParents {} ["b", "c"] 0)).1
  let s2 := (s1.at "b" (locSetParents {} ["a"] 0)).1
  let s3 := (s2.at "c" (locSetParents {} ["a"] 0)).1
  (s3.at "z" (locSetParents {} ["d"] 0)).1

def isOk {α} : Except LErr α → Bool
  | .error _ => false
  | .ok _ => true

/-- storage is the in-memory fact list, document by document, in the same order -/
def StoreEq (s : St) : Prop := s.store = s.facts.map (fun p => (p.1, J.obj p.2))

/-- a linear state never touches the indexes -/
def LinIdx (s : St) : Prop := s.kind = .linear ∧ s.ri = PI.empty ∧ s.ti = []

/-! ## C09 noninterference vocabulary -/

/-- every parent list that reading location state `l` can return lies inside `S` -/
def ParentsIn (S : String → Prop) (now : Int) (l : Loc) : Prop :=
  ∀ l' ps, locGetParentsRaw now l = (l', .ok ps) → ∀ p ∈ ps, S p

/-- `S` is closed under the declared-parent relation of `sys` -/
def Closed (S : String → Prop) (sys : Sys) (now : Int) : Prop :=
  ∀ m, S m → ∀ l, sys.get? m = some l → ParentsIn S now l

/-- the two systems have the same component at every name in `S` -/
def AgreeOn (S : String → Prop) (sys1 sys2 : Sys) : Prop := ∀ m, S m → sys1.get? m = sys2.get? m

/-- a single-location computation that keeps name and provider flag and whose only effect on the state is
to erase ids (from facts and storage together) and to update indexes — true of every read-only method:
their only side effect is the purge of expired facts -/
def LM.Shr {α} (m : LM α) : Prop :=
  ∀ l, (m l).1.name = l.name ∧ (m l).1.hasProvider = l.hasProvider ∧ Shrinks l.st (m l).1.st

/-- a computation after which the location's declared parents still lie in any set they lay in before -/
def LM.ParentMono {α} (now : Int) (m : LM α) : Prop :=
  ∀ (S : String → Prop) l, ParentsIn S now l → ParentsIn S now (m l).1

/-- decide that a finite set of names is parent-closed -/
def closedB (names : List String) (sys : Sys) (now : Int) : Bool :=
  names.all (fun m => match sys.get? m with
    | none => true
    | some l => match (locGetParentsRaw now l).2 with
      | .ok ps => ps.all names.contains
      | .error _ => true)

/-! ## C06: canonical (already prepared) facts -/

/-- the expiry data of an in-memory fact -/
def expOf (f : Obj) : Bool × Int := match f.get? "expires" with | some (.num n) => (true, n) | _ => (false, 0)

/-- `f` stored under `id` is a fixed point of fact preparation: preparing it again with its own id, at any
time, regenerates the same id and the same fact, and `ExtractRule` leaves it unchanged -/
structure CanonFact (id : String) (f : Obj) : Prop where
  genId : ∀ fresh, genId f id fresh = .ok id
  setExp : ∀ now, setExpires f now = .ok (f, expOf f)
  extract : ∃ r, extractRule f false = .ok (r, f)

def AllCanon (s : St) : Prop := ∀ p ∈ s.facts, CanonFact p.1 p.2

/-- re-indexing the (non-scheduled) rule of `f` never fails, whatever the rule index holds -/
def IndexableFact (id : String) (f : Obj) : Prop :=
  ∀ r, extractRule f false = .ok (some r, f) → Obj.has r "schedule" = false → ∀ s : St, (s.indexRule id r).2 = none

def AllIndexable (s : St) : Prop := ∀ p ∈ s.facts, IndexableFact p.1 p.2

/-- neither `fn` nor the parent read changes the state of any location of `sys` at time `now`
(e.g. nothing stored is expired) -/
def QuietWalk {α} (sys : Sys) (now : Int) (fn : String → LM α) : Prop :=
  (∀ m l, sys.get? m = some l → (fn m l).1 = l) ∧ (∀ m l, sys.get? m = some l → (locGetParentsRaw now l).1 = l)

/-- decide that no location of `sys` holds an expired `!.parents` fact at `now` (then parent reads are quiet) -/
def quietReadB (sys : Sys) (now : Int) : Bool :=
  sys.all (fun p => match amGet p.2.st.facts "!.parents" with
    | none => true
    | some f => match checkExpiration f now with
      | .ok true => false
      | _ => true)
