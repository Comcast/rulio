/-! Ghost model of OutboundBreaker: every admission carries its time and how many ticks it has been shifted.

`slide` advances `updated` by the whole ticks it shifted (to `now` only when everything has aged out), an admission
sets `updated := now`; a `Status()`/`Summary()` poll is one `slide`.  Two invariants are proved here:

* `BInv` (safety): an admission that has been shifted `s` ticks is at least `s·res` old — so whatever has left the
  `ticks` buckets is at least one window old, and every window holds at most `limit` admissions (`breaker_window`);
* `LInv` (liveness): the `j`-th newest admission that is still counted has lost at most `j·(res-1)` ns to the
  re-anchoring done by the `j` admissions after it, and older admissions are never behind newer ones — so the breaker
  is empty one window after its last admission, however it was polled (`ghost_idle_total`, `ghost_graded_total`). -/

/-- what arrives at a breaker: a `Do`/`Zap` call, or a `Status()`/`Summary()` poll, with the clock reading taken under the lock -/
inductive BEv where
  | call (t : Nat)
  | status (t : Nat)
  deriving Repr, DecidableEq

def BEv.time : BEv → Nat
  | .call t => t
  | .status t => t

structure G where
  limit : Nat
  res : Nat
  ticks : Nat
  all : List (Nat × Nat)   -- (admission time, shift), newest first
  updated : Nat

namespace G
def W (g : G) : Nat := g.ticks * g.res
def adm (g : G) : List Nat := g.all.map (·.1)
def total (g : G) : Nat := (g.all.filter (fun p => p.2 < g.ticks)).length

def slide (g : G) (now : Nat) : G :=
  let raw := (now - g.updated) / g.res
  let k := min raw g.ticks
  { g with all := g.all.map (fun p => (p.1, p.2 + k)),
           updated := if g.ticks < raw then now else g.updated + raw * g.res }

def call (g : G) (now : Nat) : G :=
  let g := g.slide now
  if g.total < g.limit then { g with all := (now, 0) :: g.all, updated := now } else g

def step (g : G) : BEv → G
  | .call t => g.call t
  | .status t => g.slide t

def run (g : G) : List BEv → G
  | [] => g
  | e :: es => (g.step e).run es
end G

def windowCount (W : Nat) (l : List Nat) (t : Nat) : Nat := (l.filter (fun u => t < u + W)).length

/-- number of admissions (`l`, newest first) that can still be counted at time `t`: the `j`-th newest one for at most
`W + j·slack` after its admission -/
def gradedCount (W slack : Nat) (t : Nat) : Nat → List Nat → Nat
  | _, [] => 0
  | j, u :: us => (if t < u + W + j * slack then 1 else 0) + gradedCount W slack t (j + 1) us

/-- The safety invariant.  `ok`: an admission that has been shifted `s` ticks was made at least `s·res` before
`updated`.  `suff`: for every admission `t`, the window that ends at `t` holds at most `limit` of the admissions made
up to `t` — what `call` tested when it admitted `t`; every other window starts at or after some admission and is
bounded by that one (`window_of_suff`). -/
structure BInv (g : G) : Prop where
  res_pos : 0 < g.res
  ok : ∀ p ∈ g.all, p.1 + p.2 * g.res ≤ g.updated
  sorted : g.adm.Pairwise (· ≥ ·)
  suff : ∀ newer t older, g.adm = newer ++ t :: older → windowCount g.W (t :: older) t ≤ g.limit

/-! ## `slide`: what it does to the admissions and to `updated` -/

/-- the number of ticks `slide` shifts by -/
def G.shift (g : G) (now : Nat) : Nat := min ((now - g.updated) / g.res) g.ticks

theorem G.slide_all (g : G) (now : Nat) :
    (g.slide now).all = g.all.map (fun p => (p.1, p.2 + g.shift now)) := rfl

theorem G.slide_adm (g : G) (now : Nat) : (g.slide now).adm = g.adm := by
  simp [G.slide, G.adm, List.map_map, Function.comp_def]

theorem G.slide_updated_ge (g : G) (now : Nat) (hn : g.updated ≤ now) :
    g.updated + g.shift now * g.res ≤ (g.slide now).updated := by
  have hk : (now - g.updated) / g.res * g.res ≤ now - g.updated := Nat.div_mul_le_self _ _
  simp only [G.slide, G.shift]
  split
  · rename_i hc
    rw [Nat.min_eq_right (Nat.le_of_lt hc)]
    have := Nat.mul_le_mul_right g.res (Nat.le_of_lt hc)
    omega
  · rename_i hc
    rw [Nat.min_eq_left (Nat.le_of_not_lt hc)]
    omega

theorem G.slide_updated_eq (g : G) (now : Nat) (h : g.shift now < g.ticks) :
    (g.slide now).updated = g.updated + g.shift now * g.res := by
  simp only [G.slide, G.shift] at h ⊢
  have hc : ¬ g.ticks < (now - g.updated) / g.res := by omega
  rw [if_neg hc, Nat.min_eq_left (Nat.le_of_not_lt hc)]

theorem G.slide_updated_le (g : G) (now : Nat) (hn : g.updated ≤ now) : (g.slide now).updated ≤ now := by
  have hk : (now - g.updated) / g.res * g.res ≤ now - g.updated := Nat.div_mul_le_self _ _
  simp only [G.slide]
  split <;> omega

theorem G.slide_rem (g : G) (now : Nat) (hr : 0 < g.res) :
    now < (g.slide now).updated + g.res := by
  have hdm := Nat.div_add_mod (now - g.updated) g.res
  have hml := Nat.mod_lt (now - g.updated) hr
  rw [Nat.mul_comm] at hdm
  simp only [G.slide]
  split <;> omega

/-! ## `call`: a `slide`, then an admission if fewer than `limit` are counted -/

theorem G.call_of_lt {g : G} {now : Nat} (h : (g.slide now).total < g.limit) :
    g.call now = { g.slide now with all := (now, 0) :: (g.slide now).all, updated := now } := if_pos h

theorem G.call_of_not_lt {g : G} {now : Nat} (h : ¬ (g.slide now).total < g.limit) :
    g.call now = g.slide now := if_neg h

theorem G.call_adm (g : G) (now : Nat) :
    (g.call now).adm = if (g.slide now).total < g.limit then now :: g.adm else g.adm := by
  split
  · rename_i h
    rw [G.call_of_lt h, ← G.slide_adm g now]
    rfl
  · rename_i h
    rw [G.call_of_not_lt h, G.slide_adm]

theorem G.call_updated_le (g : G) (now : Nat) (hn : g.updated ≤ now) : (g.call now).updated ≤ now := by
  by_cases h : (g.slide now).total < g.limit
  · rw [G.call_of_lt h]
    exact Nat.le_refl _
  · rw [G.call_of_not_lt h]
    exact G.slide_updated_le g now hn

theorem G.step_updated_le (g : G) (e : BEv) (hn : g.updated ≤ e.time) : (g.step e).updated ≤ e.time := by
  cases e with
  | call t => exact G.call_updated_le g t hn
  | status t => exact G.slide_updated_le g t hn

theorem G.step_fields (g : G) (e : BEv) :
    (g.step e).res = g.res ∧ (g.step e).ticks = g.ticks ∧ (g.step e).limit = g.limit := by
  cases e with
  | call t =>
    unfold G.step G.call
    simp only []
    split <;> exact ⟨rfl, rfl, rfl⟩
  | status t => exact ⟨rfl, rfl, rfl⟩

theorem G.run_fields (g : G) (es : List BEv) :
    (g.run es).res = g.res ∧ (g.run es).ticks = g.ticks ∧ (g.run es).limit = g.limit := by
  induction es generalizing g with
  | nil => exact ⟨rfl, rfl, rfl⟩
  | cons e es ih =>
    obtain ⟨e1, e2, e3⟩ := G.step_fields g e
    have := ih (g.step e)
    simp only [G.run]
    exact ⟨this.1.trans e1, this.2.1.trans e2, this.2.2.trans e3⟩

theorem G.run_W (g : G) (es : List BEv) : (g.run es).W = g.W := by
  obtain ⟨e1, e2, _⟩ := G.run_fields g es
  rw [G.W, e1, e2, G.W]

/-! ## safety: `BInv` is kept, and bounds every window -/

theorem slide_inv (g : G) (now : Nat) (h : BInv g) (hn : g.updated ≤ now) : BInv (g.slide now) := by
  refine ⟨h.res_pos, ?_, ?_, ?_⟩
  · intro p hp
    rw [G.slide_all, List.mem_map] at hp
    obtain ⟨q, hq, rfl⟩ := hp
    have h1 := h.ok q hq
    have h2 := G.slide_updated_ge g now hn
    show q.1 + (q.2 + g.shift now) * g.res ≤ (g.slide now).updated
    rw [Nat.add_mul]
    omega
  · rw [G.slide_adm]
    exact h.sorted
  · rw [G.slide_adm]
    exact h.suff

theorem filter_len_mono {α} (l : List α) (p q : α → Bool) (h : ∀ x ∈ l, p x = true → q x = true) :
    (l.filter p).length ≤ (l.filter q).length := by
  rw [← List.countP_eq_length_filter, ← List.countP_eq_length_filter]
  exact List.countP_mono_left h

theorem recent_le_total (g : G) (h : BInv g) (t : Nat) (ht : g.updated ≤ t) :
    windowCount g.W g.adm t ≤ g.total := by
  unfold windowCount G.total G.adm
  rw [List.filter_map, List.length_map]
  apply filter_len_mono
  intro p hp hrecent
  have := h.ok p hp
  simp only [Function.comp_apply, decide_eq_true_eq, G.W] at hrecent ⊢
  -- p.1 + p.2*res ≤ updated ≤ t < p.1 + ticks*res  ⇒  p.2 < ticks
  have hr := of_decide_eq_true hrecent
  exact Nat.lt_of_mul_lt_mul_right (a := g.res) (by omega)

theorem call_inv (g : G) (now : Nat) (h : BInv g) (hn : g.updated ≤ now) : BInv (g.call now) := by
  have hs := slide_inv g now h hn
  have hle := G.slide_updated_le g now hn
  by_cases hlt : (g.slide now).total < g.limit
  · rw [G.call_of_lt hlt]
    refine ⟨hs.res_pos, ?_, ?_, ?_⟩
    · intro p hp
      rcases List.mem_cons.mp hp with rfl | hp
      · simp
      · exact Nat.le_trans (hs.ok p hp) hle
    · refine List.pairwise_cons.mpr ⟨?_, hs.sorted⟩
      intro t ht
      obtain ⟨q, hq, rfl⟩ := List.mem_map.mp ht
      exact Nat.le_trans (Nat.le_add_right _ _) (Nat.le_trans (hs.ok q hq) hle)
    · intro newer t older he
      cases newer with
      | nil =>
        -- the new admission: what its window holds was counted by `total`, which was below the limit
        obtain ⟨rfl, rfl⟩ := List.cons.inj he
        have hr := recent_le_total _ hs now hle
        have : windowCount (g.slide now).W (now :: (g.slide now).adm) now ≤
            windowCount (g.slide now).W (g.slide now).adm now + 1 := by
          unfold windowCount
          rw [List.filter_cons]
          split <;> simp
        exact Nat.le_trans this (Nat.succ_le_of_lt (Nat.lt_of_le_of_lt hr hlt))
      | cons n newer' => exact hs.suff newer' t older (List.cons.inj he).2
  · rw [G.call_of_not_lt hlt]
    exact hs

theorem gstep_inv (g : G) (e : BEv) (h : BInv g) (hn : g.updated ≤ e.time) : BInv (g.step e) := by
  cases e with
  | call t => exact call_inv g t h hn
  | status t => exact slide_inv g t h hn

theorem window_of_suff (W limit : Nat) (l : List Nat) (hs : l.Pairwise (· ≥ ·))
    (hsuf : ∀ newer t older, l = newer ++ t :: older → windowCount W (t :: older) t ≤ limit)
    (a : Nat) : (l.filter (fun t => a ≤ t ∧ t < a + W)).length ≤ limit := by
  induction l with
  | nil => simp
  | cons t older ih =>
    have hs' := (List.pairwise_cons.mp hs)
    by_cases hin : a ≤ t ∧ t < a + W
    · -- every window element of (t :: older) is counted in windowCount for t
      refine Nat.le_trans ?_ (hsuf [] t older rfl)
      unfold windowCount
      apply filter_len_mono
      intro u hu huw
      simp only [decide_eq_true_eq] at *
      omega
    · rw [List.filter_cons_of_neg (by simpa using hin)]
      apply ih hs'.2
      intro newer t' older' he
      exact hsuf (t :: newer) t' older' (by rw [he]; rfl)

/-- the invariant along a run; `lo` is any time between `updated` and the first event (the previous clock reading) -/
theorem run_inv (g : G) (es : List BEv) (lo : Nat) (h : BInv g) (hlo : g.updated ≤ lo)
    (hmono : (lo :: es.map BEv.time).Pairwise (· ≤ ·)) :
    BInv (g.run es) ∧ (g.run es).updated ≤ (lo :: es.map BEv.time).getLast (by simp) := by
  induction es generalizing g lo with
  | nil => exact ⟨h, hlo⟩
  | cons e es ih =>
    have hp := List.pairwise_cons.mp hmono
    have hu : g.updated ≤ e.time := Nat.le_trans hlo (hp.1 e.time List.mem_cons_self)
    have := ih (g.step e) e.time (gstep_inv g e h hu) (G.step_updated_le g e hu) hp.2
    rw [List.map_cons, List.getLast_cons (List.cons_ne_nil _ _)]
    exact this

/-- **Window bound**: for every non-decreasing sequence of calls and polls, every window of length
`ticks * res` contains at most `limit` admissions. -/
theorem breaker_window (g : G) (es : List BEv) (h : BInv g)
    (hmono : (g.updated :: es.map BEv.time).Pairwise (· ≤ ·)) (a : Nat) :
    (((g.run es).adm).filter (fun t => a ≤ t ∧ t < a + g.W)).length ≤ g.limit := by
  have hi := (run_inv g es g.updated h (Nat.le_refl _) hmono).1
  have := window_of_suff (g.run es).W (g.run es).limit (g.run es).adm hi.sorted hi.suff a
  rwa [G.run_W, (G.run_fields g es).2.2] at this

/-! ## liveness -/

structure LInv (g : G) : Prop where
  /-- older admissions have been shifted at least as far as newer ones -/
  mono : (g.all.map (·.2)).Pairwise (· ≤ ·)
  /-- the `j`-th newest admission, while it is counted, has lost at most `j·(res-1)` ns -/
  graded : ∀ j p, g.all[j]? = some p → p.2 < g.ticks → g.updated ≤ p.1 + p.2 * g.res + j * (g.res - 1)

theorem slide_linv (g : G) (now : Nat) (h : LInv g) : LInv (g.slide now) := by
  constructor
  · have : (g.slide now).all.map (·.2) = (g.all.map (·.2)).map (· + g.shift now) := by
      rw [G.slide_all, List.map_map, List.map_map]
      rfl
    rw [this]
    exact h.mono.map _ (fun _ _ hab => Nat.add_le_add_right hab _)
  · intro j p hp hlt
    rw [G.slide_all, List.getElem?_map, Option.map_eq_some_iff] at hp
    obtain ⟨q, hq, rfl⟩ := hp
    have hlt' : q.2 + g.shift now < g.ticks := hlt
    have hold := h.graded j q hq (by omega)
    show (g.slide now).updated ≤ q.1 + (q.2 + g.shift now) * g.res + j * (g.res - 1)
    rw [G.slide_updated_eq g now (by omega), Nat.add_mul]
    omega

theorem call_linv (g : G) (now : Nat) (h : LInv g) (hr : 0 < g.res) : LInv (g.call now) := by
  have hs := slide_linv g now h
  by_cases hlt : (g.slide now).total < g.limit
  · rw [G.call_of_lt hlt]
    constructor
    · exact List.pairwise_cons.mpr ⟨fun _ _ => Nat.zero_le _, hs.mono⟩
    · intro j p hp hc
      cases j with
      | zero =>
        obtain rfl := Option.some.inj hp
        exact Nat.le_trans (Nat.le_add_right _ _) (Nat.le_add_right _ _)
      | succ j =>
        -- the admission re-anchors the clock: `updated` moves from the slid value to `now`, less than a tick
        have hold : (g.slide now).updated ≤ p.1 + p.2 * g.res + j * (g.res - 1) := hs.graded j p hp hc
        have hrem := G.slide_rem g now hr
        show now ≤ p.1 + p.2 * g.res + (j + 1) * (g.res - 1)
        rw [Nat.add_mul, Nat.one_mul]
        omega
  · rw [G.call_of_not_lt hlt]
    exact hs

theorem step_linv (g : G) (e : BEv) (h : LInv g) (hr : 0 < g.res) : LInv (g.step e) := by
  cases e with
  | call t => exact call_linv g t h hr
  | status t => exact slide_linv g t h

theorem run_linv (g : G) (es : List BEv) (lo : Nat) (hb : BInv g) (h : LInv g) (hlo : g.updated ≤ lo)
    (hmono : (lo :: es.map BEv.time).Pairwise (· ≤ ·)) : LInv (g.run es) := by
  induction es generalizing g lo with
  | nil => exact h
  | cons e es ih =>
    have hp := List.pairwise_cons.mp hmono
    have hu : g.updated ≤ e.time := Nat.le_trans hlo (hp.1 e.time List.mem_cons_self)
    exact ih (g.step e) e.time (gstep_inv g e hb hu) (step_linv g e h hb.res_pos)
      (G.step_updated_le g e hu) hp.2

theorem counted_young (g : G) (now : Nat) (h : LInv g) (hr : 0 < g.res)
    (j : Nat) (p : Nat × Nat) (hp : (g.slide now).all[j]? = some p) (hlt : p.2 < g.ticks) :
    now < p.1 + g.W + j * (g.res - 1) := by
  have hg : (g.slide now).updated ≤ p.1 + p.2 * g.res + j * (g.res - 1) := (slide_linv g now h).graded j p hp hlt
  have hrem := G.slide_rem g now hr
  have h1 : (p.2 + 1) * g.res ≤ g.ticks * g.res := Nat.mul_le_mul_right _ hlt
  rw [Nat.add_mul, Nat.one_mul] at h1
  unfold G.W
  omega

set_option linter.unusedVariables false in
/-- **idle recovery**: if every admission is at least one window old, nothing is counted after the slide -/
theorem ghost_idle_total (g : G) (now : Nat) (h : LInv g) (hr : 0 < g.res) (hn : g.updated ≤ now)
    (hidle : ∀ t ∈ g.adm, t + g.W ≤ now) : (g.slide now).total = 0 := by
  unfold G.total
  rw [List.length_eq_zero_iff, List.filter_eq_nil_iff]
  intro p hp
  rw [decide_eq_true_eq]
  show ¬ p.2 < g.ticks
  cases hall : (g.slide now).all with
  | nil => rw [hall] at hp; cases hp
  | cons q qs =>
    -- the newest admission is not counted …
    have hqmem : q.1 ∈ g.adm := by
      rw [← G.slide_adm g now, G.adm, hall]
      exact List.mem_cons_self
    have hqge : ¬ q.2 < g.ticks := fun hq => by
      have := counted_young g now h hr 0 q (by rw [hall]; rfl) hq
      have := hidle q.1 hqmem
      omega
    -- … and everything older has been shifted at least as far
    have hm := (slide_linv g now h).mono
    rw [hall] at hm hp
    rcases List.mem_cons.mp hp with rfl | hp'
    · exact hqge
    · have : q.2 ≤ p.2 := (List.pairwise_cons.mp hm).1 p.2 (List.mem_map.mpr ⟨p, hp', rfl⟩)
      omega

theorem graded_filter_le (W slack now ticks : Nat) (l : List (Nat × Nat)) (j0 : Nat)
    (h : ∀ i p, l[i]? = some p → p.2 < ticks → now < p.1 + W + (j0 + i) * slack) :
    (l.filter (fun p => p.2 < ticks)).length ≤ gradedCount W slack now j0 (l.map (·.1)) := by
  induction l generalizing j0 with
  | nil => exact Nat.le_refl _
  | cons p l ih =>
    have ih' := ih (j0 + 1) (fun i q hq hlt => by
      rw [Nat.add_right_comm j0 1 i]
      exact h (i + 1) q hq hlt)
    rw [List.map_cons, gradedCount, List.filter_cons]
    by_cases hlt : p.2 < ticks
    · have h0 : now < p.1 + W + j0 * slack := h 0 p rfl hlt
      rw [if_pos (decide_eq_true hlt), if_pos h0, List.length_cons]
      omega
    · rw [if_neg (by simpa using hlt)]
      omega

set_option linter.unusedVariables false in
/-- **graded recovery**: what is counted after the slide is at most the number of admissions that are younger than
their graded window -/
theorem ghost_graded_total (g : G) (now : Nat) (h : LInv g) (hr : 0 < g.res) (hn : g.updated ≤ now) :
    (g.slide now).total ≤ gradedCount g.W (g.res - 1) now 0 g.adm := by
  rw [← G.slide_adm g now]
  apply graded_filter_le
  intro i p hp hlt
  rw [Nat.zero_add]
  exact counted_young g now h hr i p hp hlt

/-! ## recovery along a run -/

theorem run_before_call (g : G) (es : List BEv) (now : Nat) (hb : BInv g) (hl : LInv g)
    (hmono : (g.updated :: (es.map BEv.time ++ [now])).Pairwise (· ≤ ·)) :
    LInv (g.run es) ∧ 0 < (g.run es).res ∧ (g.run es).updated ≤ now := by
  have hp := List.pairwise_append.mp (show ((g.updated :: es.map BEv.time) ++ [now]).Pairwise (· ≤ ·) from hmono)
  have hi := run_inv g es g.updated hb (Nat.le_refl _) hp.1
  exact ⟨run_linv g es g.updated hb hl (Nat.le_refl _) hp.1, hi.1.res_pos,
    Nat.le_trans hi.2 (hp.2.2 _ (List.getLast_mem _) now (List.mem_singleton.mpr rfl))⟩
