import RulioModel.State

/-! # Location API (location.go) over the State model; a System is a finite map of locations.
Every method lists its guards in source order. -/

structure Ctx where
  rk : String := ""     -- caller's read key
  wk : String := ""     -- caller's write key

structure Loc where
  name : String
  st : St
  readOnly : Bool := false
  maxFacts : Nat := 1000
  hasProvider : Bool := true

/-- state-threading error monad: an error keeps the state reached so far -/
def LM (α : Type) := Loc → Loc × Except LErr α

namespace LM
def pure {α} (a : α) : LM α := fun l => (l, .ok a)
def bind {α β} (m : LM α) (f : α → LM β) : LM β := fun l =>
  match m l with
  | (l1, .ok a) => f a l1
  | (l1, .error e) => (l1, .error e)
def fail {α} (e : LErr) : LM α := fun l => (l, .error e)
def liftSt {α} (f : St → St × Except LErr α) : LM α := fun l =>
  let (s, r) := f l.st; ({ l with st := s }, r)
def get : LM Loc := fun l => (l, .ok l)
/-- run `m`, turning an error into a value -/
def attempt {α} (m : LM α) : LM (Except LErr α) := fun l =>
  match m l with
  | (l1, r) => (l1, .ok r)
end LM

instance : Monad LM where
  pure := LM.pure
  bind := LM.bind

def stGet (id : String) (now : Int) : LM Obj := LM.liftSt (fun s => s.get id now)
def stAdd (id : String) (x : Obj) (now : Int) : LM String := LM.liftSt (fun s => s.add id x now)
def stRem (id : String) (now : Int) : LM Bool := LM.liftSt (fun s => s.rem id now)
def stSearch (p : Obj) (now : Int) : LM (List (String × Obj × List Bs)) := LM.liftSt (fun s => s.search p now)
def stFindRules (ev : Obj) (now : Int) : LM (List (String × Obj)) := LM.liftSt (fun s => s.findRules ev now)

/-- `getPropFromFact` ∘ `genPropId`: (value, found) or an error -/
def getProp (id prop : String) (dflt : J) (now : Int) : LM (J × Bool) := do
  match ← LM.attempt (stGet (genPropId id prop) now) with
  | .error "notFound" => pure (dflt, false)
  | .error e => LM.fail e
  | .ok fact =>
    match fact.get? ("!" ++ prop) with
    | some v => pure (v, true)
    | none => LM.fail "missingProp"

/-- `GetPropString` with every error swallowed into the default, as its callers do -/
def getPropStringD (prop : String) (now : Int) : LM String := do
  match ← LM.attempt (getProp "" prop (.str "") now) with
  | .ok (.str s, _) => pure s
  | _ => pure ""

def setProp (id prop : String) (v : J) (now : Int) : LM String :=
  stAdd "" [("id", .str id), ("!" ++ prop, v), ("deleteWith", .arr [.str id])] now

def remProp (id prop : String) (now : Int) : LM Bool := stRem (genPropId id prop) now

inductive Guard where | enabled | checkRead | checkWrite | atCapacity
deriving DecidableEq, Repr

def enabled (now : Int) : LM Unit := do
  let e ← getPropStringD "enabled" now
  if e == "" || e == "yes" || e == "true" then pure () else LM.fail "disabled"

def checkWrite (c : Ctx) (now : Int) : LM Unit := do
  let l ← LM.get
  if l.readOnly then LM.fail "readOnly" else
  let k ← getPropStringD "writeKey" now
  if k == "" || c.wk == k then pure () else LM.fail "writeDenied"

def checkRead (c : Ctx) (now : Int) : LM Unit := do
  let k ← getPropStringD "readKey" now
  if k == "" || c.rk == k then pure () else LM.fail "readDenied"

def atCapacity : LM Unit := do
  let l ← LM.get
  if l.maxFacts ≤ l.st.count then LM.fail "capacity" else pure ()

def runGuard (c : Ctx) (now : Int) : Guard → LM Unit
  | .enabled => enabled now
  | .checkRead => checkRead c now
  | .checkWrite => checkWrite c now
  | .atCapacity => atCapacity

def runGuards (c : Ctx) (now : Int) : List Guard → LM Unit
  | [] => pure ()
  | g :: gs => do runGuard c now g; runGuards c now gs

/-- the guard list of every exported Location method, in source order (cross-checked against the
table extracted from location.go, `Gen.locationGuards` in Gen/Loc.lean) -/
def guardsOf : String → List Guard
  | "AddFact" => [.checkWrite, .atCapacity, .enabled]
  | "RemFact" => [.enabled, .checkWrite]
  | "GetFact" => [.enabled, .checkRead]
  | "AddRule" => [.enabled, .checkWrite, .atCapacity]
  | "RemRule" => [.enabled, .checkWrite]
  | "EnableRule" => [.enabled, .checkWrite]
  | "RuleEnabled" => [.enabled, .checkRead]
  | "GetRule" => [.enabled, .checkRead]
  | "searchFacts" => [.enabled, .checkRead]
  | "searchRules" => [.enabled, .checkRead]
  | "SearchRules" => [.enabled, .checkRead]
  | "ListRules" => [.enabled, .checkRead]
  | "GetParents" => [.enabled, .checkRead]
  | "SetParents" => [.enabled, .checkWrite]
  | "Clear" => [.enabled, .checkWrite]
  | "Delete" => [.enabled, .checkWrite]
  | "StateSize" => [.enabled, .checkRead]
  | "Query" => [.enabled]
  | "RunJavascript" => [.enabled]
  | _ => []

/-! ## rule validation (`RuleFromMap`), restricted to what the generators produce -/

structure RuleM where
  when? : Option Obj          -- `when.pattern` (the PatternQuery's pattern; missing `pattern` key = nil map)
  schedule : String
  condition : Option J
  actions : List J
  serial : Bool
  raw : Obj

def actionOK : J → Bool
  | .obj a => match Obj.get? a "code" with
    | some (.str _) => true
    | some (.arr xs) => xs.all (fun x => match x with | .str _ => true | _ => false)
    | _ => false
  | _ => false

/-- shallow validity of a query map (`ParseQuery`'s dispatch); code terms are assumed to compile unless
they carry the marker the generators put on syntactically invalid programs -/
partial def queryOK : J → Bool
  | .obj [] => true
  | .obj q =>
    if Obj.has q "code" then !(Obj.has q "verif_bad")
    else if Obj.has q "pattern" then (match Obj.get? q "pattern" with | some (.obj _) => true | _ => false)
    else if Obj.has q "and" then (match Obj.get? q "and" with | some (.arr xs) => xs.all queryOK | _ => false)
    else if Obj.has q "or" then (match Obj.get? q "or" with | some (.arr xs) => xs.all queryOK | _ => false)
    else if Obj.has q "not" then (match Obj.get? q "not" with | some x => queryOK x | _ => false)
    else false
  | _ => false

def ruleFromMap (r : Obj) : Except LErr RuleM := do
  let when? ← (match r.get? "when" with
    | none => pure none
    | some .null => pure none
    | some (.obj w) =>
      match Obj.get? w "pattern" with
      | none => pure (some [])
      | some .null => pure (some [])
      | some (.obj p) => pure (some p)
      | some _ => .error "syntax"
    | some _ => .error "syntax" : Except LErr (Option Obj))
  let schedule ← (match r.get? "schedule" with
    | none => pure "" | some .null => pure "" | some (.str s) => pure s | some _ => .error "syntax" : Except LErr String)
  match r.get? "expires" with
  | some (.num _) | none | some .null => pure ()
  | some _ => .error "syntax"
  match r.get? "condition" with
  | none | some .null => pure ()
  | some q => if queryOK q then pure () else .error "syntax"
  if when?.isNone && schedule == "" then .error "syntax" else
  if when?.isSome && schedule != "" then .error "syntax" else
  let action? := match r.get? "action" with | some .null => none | x => x
  let actions? := match r.get? "actions" with | some .null => none | x => x
  if action?.isSome && actions?.isSome then .error "syntax" else
  let acts ← (match action?, actions? with
    | some a, _ => pure [a]
    | none, some (.arr xs) => pure xs
    | none, some _ => .error "syntax"
    | none, none => pure [] : Except LErr (List J))
  if acts.isEmpty then .error "syntax" else
  if !acts.all actionOK then .error "syntax" else
  let serial := match r.get? "policies" with
    | some (.obj p) => (match Obj.get? p "serialActions" with | some (.bool b) => b | _ => false)
    | _ => false
  pure { when? := when?, schedule := schedule, condition := (match r.get? "condition" with | some .null => none | x => x),
         actions := acts, serial := serial, raw := r }

/-! ## single-location methods -/

def locAddFact (c : Ctx) (id : String) (fact : Obj) (now : Int) : LM String := do
  runGuards c now (guardsOf "AddFact"); stAdd id fact now

def locRemFact (c : Ctx) (id : String) (now : Int) : LM String := do
  runGuards c now (guardsOf "RemFact"); let _ ← stRem id now; pure id

def locGetFact (c : Ctx) (id : String) (now : Int) : LM Obj := do
  runGuards c now (guardsOf "GetFact"); stGet id now

def locAddRule (c : Ctx) (id : String) (rule : Obj) (now : Int) : LM String := do
  runGuards c now (guardsOf "AddRule")
  match ruleFromMap rule with
  | .error e => LM.fail e
  | .ok _ =>
    match setExpires rule now with
    | .error e => LM.fail e
    | .ok (rule', expiring, expires) =>
      let w : Obj := [("rule", .obj rule')]
      let w := if expiring then w ++ [("expires", .num expires)] else w
      let w := match rule'.get? "deleteWith" with | some d => w ++ [("deleteWith", d)] | none => w
      stAdd id w now

def locRemRule (c : Ctx) (id : String) (now : Int) : LM String := do
  runGuards c now (guardsOf "RemRule")
  let _ ← stRem id now
  let (_, found) ← getProp id "disabled" (.bool false) now
  if found then do
    let _ ← remProp id "disabled" now
    pure id
  else pure id

def locEnableRule (c : Ctx) (id : String) (enable : Bool) (now : Int) : LM Unit := do
  runGuards c now (guardsOf "EnableRule")
  if enable then do
    let _ ← remProp id "disabled" now
    pure ()
  else do
    let _ ← setProp id "disabled" (.bool true) now
    pure ()

def locRuleEnabled (c : Ctx) (id : String) (now : Int) : LM Bool := do
  runGuards c now (guardsOf "RuleEnabled")
  let (v, _) ← getProp id "disabled" (.bool false) now
  match v with
  | .bool d => pure (!d)
  | _ => pure true

def locGetRule (c : Ctx) (id : String) (now : Int) : LM Obj := do
  runGuards c now (guardsOf "GetRule")
  let f ← stGet id now
  match extractRule f true with
  | .ok (some r, _) => pure r
  | .ok (none, _) => LM.fail "ruleBodyMissing"
  | .error e => LM.fail e

def locSearchFacts (c : Ctx) (p : Obj) (now : Int) : LM (List (String × Obj × List Bs)) := do
  runGuards c now (guardsOf "searchFacts"); stSearch p now

/-- `searchRules` = guards + `FindCachedRules` (every candidate body must be a valid rule) -/
def locSearchRules (c : Ctx) (ev : Obj) (now : Int) : LM (List (String × RuleM)) := do
  runGuards c now (guardsOf "searchRules")
  let cands ← stFindRules ev now
  let rec go : List (String × Obj) → Except LErr (List (String × RuleM))
    | [] => .ok []
    | (id, body) :: rest => do let r ← ruleFromMap body; let rs ← go rest; pure ((id, r) :: rs)
  match go cands with
  | .ok rs => pure rs
  | .error e => LM.fail e

def parentsOfJ : J → Except LErr (List String)
  | .arr xs => xs.mapM (fun x => match x with | .str s => .ok s | _ => .error "badParents")
  | _ => .error "badParents"

def locGetParentsRaw (now : Int) : LM (List String) := do
  let (v, found) ← getProp "" "parents" (.arr []) now
  if !found then pure [] else
  match parentsOfJ v with
  | .ok ps => pure ps
  | .error e => LM.fail e

def locGetParents (c : Ctx) (now : Int) : LM (List String) := do
  runGuards c now (guardsOf "GetParents"); locGetParentsRaw now

def locSetParents (c : Ctx) (ps : List String) (now : Int) : LM String := do
  runGuards c now (guardsOf "SetParents"); setProp "" "parents" (.arr (ps.map .str)) now

def locClear (c : Ctx) (now : Int) : LM Unit := do
  runGuards c now (guardsOf "Clear")
  fun l => ({ l with st := l.st.clear }, .ok ())

def locStateSize (c : Ctx) (now : Int) : LM Nat := do
  runGuards c now (guardsOf "StateSize")
  let l ← LM.get
  pure l.st.count

/-! ## Systems of locations and the ancestor walk -/

abbrev Sys := List (String × Loc)

def Sys.get? (sys : Sys) (n : String) : Option Loc := amGet sys n
def Sys.put (sys : Sys) (l : Loc) : Sys := amSet sys l.name l

/-- run a single-location computation at `n`, writing the location back -/
def Sys.at {α} (sys : Sys) (n : String) (m : LM α) : Sys × Except LErr α :=
  match sys.get? n with
  | none => (sys, .error "notFound")
  | some l => let (l', r) := m l; (sys.put l', r)

/-- `DoAncestors`: depth-first over the parents (each visited with its own ancestors first), then the
location itself. `fuel` stands for the Go stack; since the names on the current path are pairwise distinct, `sys.length + 2`
always suffices (C09 `ancestors_fuel_suffices`). -/
def doAncestors {α} (fuel : Nat) (sys : Sys) (n : String) (now : Int)
    (fn : String → LM α) (acc : List α) (path : List String := []) : Sys × Except LErr (List α) :=
  match fuel with
  | 0 => (sys, .error "diverge")
  | fuel + 1 =>
    -- the names on the current path: a chain of parents that comes back is the AncestorLoop error
    if path.contains n then (sys, .error "loop") else
    match sys.at n (locGetParentsRaw now) with
    | (sys1, .error e) => (sys1, .error e)
    | (sys1, .ok parents) =>
      let hasProv := match sys1.get? n with | some l => l.hasProvider | none => true
      if !parents.isEmpty && !hasProv then (sys1, .error "noProvider") else
      let rec loop (fuel' : Nat) (sys : Sys) (ps : List String) (acc : List α) : Sys × Except LErr (List α) :=
        match fuel' with
        | 0 => (sys, .error "diverge")
        | fuel' + 1 =>
        match ps with
        | [] => (sys, .ok acc)
        | p :: rest =>
          if p == n then (sys, .error "loop") else
          match sys.get? p with
          | none => (sys, .error "notFound")
          | some _ =>
            match doAncestors fuel sys p now fn acc (n :: path) with
            | (sys2, .error e) => (sys2, .error e)
            | (sys2, .ok acc2) => loop fuel' sys2 rest acc2
      match loop (parents.length + 1) sys1 parents acc with
      | (sys2, .error e) => (sys2, .error e)
      | (sys2, .ok acc2) =>
        match sys2.at n (fn n) with
        | (sys3, .error e) => (sys3, .error e)
        | (sys3, .ok a) => (sys3, .ok (acc2 ++ [a]))

def ancestorFuel (sys : Sys) : Nat := sys.length + 2

/-- tag every value with the name of the location that produced it -/
def tagged {α} (fn : String → LM α) : String → LM (String × α) :=
  fun m => LM.bind (fn m) (fun a => LM.pure (m, a))

/-- A location reached along more than one chain of parents is visited once (the `done` set of Go's `doAncestors`;
the model's walk has no such set and may visit a location again): of the
visits the model's walk makes, the first per location counts. (A later visit of the same location during the same
request reads the same state at the same clock, so dropping its answer is dropping a copy.) -/
def firstVisits {β} : List (String × β) → List String → List β
  | [], _ => []
  | (m, b) :: rest, seen => if seen.contains m then firstVisits rest seen else b :: firstVisits rest (m :: seen)

/-- `SearchFacts(pattern, includeInherited)` -/
def sysSearchFacts (sys : Sys) (c : Ctx) (n : String) (p : Obj) (inherited : Bool) (now : Int) :
    Sys × Except LErr (List (String × Obj × List Bs)) :=
  if inherited then
    match doAncestors (ancestorFuel sys) sys n now (tagged (fun _ => locSearchFacts c p now)) [] with
    | (s, .ok ls) => (s, .ok (firstVisits ls []).flatten)
    | (s, .error e) => (s, .error e)
  else sys.at n (locSearchFacts c p now)

/-- `searchRulesAncestors`: a rule id present twice along the walk is the duplicate-id error -/
def sysSearchRulesAnc (sys : Sys) (c : Ctx) (n : String) (ev : Obj) (now : Int) :
    Sys × Except LErr (List (String × RuleM)) :=
  match doAncestors (ancestorFuel sys) sys n now (tagged (fun _ => locSearchRules c ev now)) [] with
  | (s, .error e) => (s, .error e)
  | (s, .ok ls) =>
    let all := (firstVisits ls []).flatten
    let ids := all.map (·.1)
    if ids.eraseDups.length != ids.length then (s, .error "dupId") else (s, .ok all)

def sysSearchRules (sys : Sys) (c : Ctx) (n : String) (ev : Obj) (inherited : Bool) (now : Int) :
    Sys × Except LErr (List (String × RuleM)) :=
  match sys.at n (runGuards c now (guardsOf "SearchRules")) with
  | (s, .error e) => (s, .error e)
  | (s, .ok _) =>
    if inherited then sysSearchRulesAnc s c n ev now else s.at n (locSearchRules c ev now)

/-- `ListRules`: ids of facts matching `{"rule":"?rule"}` whose binding is a string or a map; errors of the
search are swallowed (the Go code returns `acc, nil`) -/
def sysListRules (sys : Sys) (c : Ctx) (n : String) (inherited : Bool) (now : Int) : Sys × Except LErr (List String) :=
  match sys.at n (runGuards c now (guardsOf "ListRules")) with
  | (s, .error e) => (s, .error e)
  | (s, .ok _) =>
    match sysSearchFacts s c n [("rule", .str "?rule")] inherited now with
    | (s1, .error e) => if inherited then (s1, .ok []) else (s1, .error ("panic:" ++ e))
    | (s1, .ok found) =>
      (s1, .ok ((found.filter (fun (_, _, bss) => match bss.head? with
          | some b => (match b.get? "?rule" with | some (.str _) => true | some (.obj _) => true | _ => false)
          | none => false)).map (·.1)))
