import RulioModel.MatchSpec

/-! # Semantic fragment predicates for the C05 theorems

`scalarRepeats` of `MatchSpec.lean` is defined through the brute-force `specMatch` and is what the driver
evaluates; the theorems use the explicit, decidable predicates below, which speak about the bindings `σ`
at hand instead (a *returned* binding for soundness, the *specification* binding for completeness).
No lemma relates `scalarRepeats` to `scalarRepeatsIn`: the two are connected by the differential run only. -/

/-- the critical variables of a call `match(p, _, bs)`: the variables of `p` that occur more than once in
`p`, or that are already bound in the incoming bindings `bs`.  Only these are ever compared with a data
value through `match(binding, fact)` (data used as a pattern). -/
def critVars (p : J) (bs : Bs) : List String :=
  (varsOf p).filter (fun v => decide (count v (varsOf p) > 1) || (bs.get? v).isSome)

/-- `σ` binds `v` to a scalar (or does not bind it) -/
def scalarAt (σ : Bs) (v : String) : Bool :=
  match σ.get? v with
  | some w => w.isScalar
  | none => true

/-- every critical variable is bound to a scalar in `σ` (decidable, explicit version of `scalarRepeats`) -/
def scalarRepeatsIn (σ : Bs) (p : J) (bs : Bs) : Bool := (critVars p bs).all (scalarAt σ)

/-- `σ` binds nothing besides the variables bound in `bs` and the variables of `p` (it is *minimal*) -/
def minimalFor (σ : Bs) (p : J) (bs : Bs) : Bool :=
  σ.all (fun kv => (bs.get? kv.1).isSome || (varsOf p).contains kv.1)

/-- all incoming bindings are ground, well-formed data -/
def groundBs (bs : Bs) : Bool := bs.all (fun kv => kv.2.ground && dataOK kv.2)

/-- the two bindings are equal as finite maps -/
def Bs.Same (σ σ' : Bs) : Prop := ∀ k, σ.get? k = σ'.get? k

/-- `q` is obtained from `p` by permuting the key/value pairs of maps and the elements of arrays, at any
depth (what Go's randomised map iteration, or a reordering of the JSON text, can do to a pattern) -/
inductive PatPerm : J → J → Prop
  | refl (p : J) : PatPerm p p
  | obj {kvs kvs' : List (String × J)} : kvs.Perm kvs' → PatPerm (.obj kvs) (.obj kvs')
  | arr {xs xs' : List J} : xs.Perm xs' → PatPerm (.arr xs) (.arr xs')
  | objIn (k : String) {v v' : J} (pre post : List (String × J)) :
      PatPerm v v' → PatPerm (.obj (pre ++ (k, v) :: post)) (.obj (pre ++ (k, v') :: post))
  | arrIn {x x' : J} (pre post : List J) :
      PatPerm x x' → PatPerm (.arr (pre ++ x :: post)) (.arr (pre ++ x' :: post))
  | trans {p q r : J} : PatPerm p q → PatPerm q r → PatPerm p r

/-- the keys of an association list are pairwise distinct -/
def distinctKeys : List (String × J) → Bool
  | [] => true
  | (k, _) :: r => !(r.any (fun kv => kv.1 == k)) && distinctKeys r

mutual
/-- every map inside the datum has pairwise distinct keys (always true of a decoded Go map / JSON object;
the association-list model does not enforce it) -/
def dataKeysOK : J → Bool
  | .arr xs => dataKeysOKL xs
  | .obj kvs => distinctKeys kvs && dataKeysOKO kvs
  | _ => true
def dataKeysOKL : List J → Bool
  | [] => true
  | x :: xs => dataKeysOK x && dataKeysOKL xs
def dataKeysOKO : List (String × J) → Bool
  | [] => true
  | (_, v) :: r => dataKeysOK v && dataKeysOKO r
end
