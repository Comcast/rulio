import RulioModel.Loc
import RulioModel.MatchSpec

/-! # Queries (query.go): AST, ParseQuery dispatch order, Exec over a list of bindings.
Fact search is a parameter (`srch`): the bindings of every stored fact — local and inherited — that matches. -/

inductive Q where
  | empty
  | pattern (p : Obj) (locs : List String)
  | code (tmpl : J)
  | and (qs : List Q)
  | or (qs : List Q) (sc : Bool)
  | not (q : Q)

/-- `ParseQuery`: code, pattern, and, or, not — in that order; `{}` is the empty query.
Structural in a fuel; the callers pass `4 * sz q + 4`, which is above the size `sz q` of the document. -/
def parseQuery : Nat → J → Except LErr Q
  | 0, _ => .error "fuel"
  | fuel + 1, j =>
    match j with
    | .obj [] => .ok .empty
    | .obj q =>
      if Obj.has q "code" then
        (if Obj.has q "verif_bad" then .error "syntax" else .ok (.code ((Obj.get? q "verif_tmpl").getD .null)))
      else if Obj.has q "pattern" then
        (match Obj.get? q "pattern" with
         | some (.obj p) => .ok (.pattern p [])
         | _ => .error "syntax")
      else if Obj.has q "and" then
        (match Obj.get? q "and" with
         | some (.arr xs) => do let qs ← xs.mapM (parseQuery fuel); pure (.and qs)
         | _ => .error "syntax")
      else if Obj.has q "or" then
        (match Obj.get? q "or" with
         | some (.arr xs) => do
           let qs ← xs.mapM (parseQuery fuel)
           -- the first of the four spellings that is present decides; it must be a bool
           let sc ← (match (["shortCircuit", "ShortCircuit", "short_circuit", "shortcircuit"].filterMap (Obj.get? q)).head? with
             | none => pure false
             | some (.bool b) => pure b
             | some _ => .error "syntax" : Except LErr Bool)
           pure (.or qs sc)
         | _ => .error "syntax")
      else if Obj.has q "not" then
        (match Obj.get? q "not" with
         | some (.obj n) => do let q' ← parseQuery fuel (.obj n); pure (.not q')
         | _ => .error "syntax")
      else .error "syntax"
    | _ => .error "syntax"

/-- `StripQuestionMarks` -/
def stripQ (bs : Bs) : Bs :=
  (bs.filter (fun kv => !kv.1.isEmpty)).map (fun kv => (if kv.1.startsWith "?" then (kv.1.drop 1).toString else kv.1, kv.2))

/-- `ExtendBindings x y`: y's entries override x's -/
def extendBs (x y : Bs) : Bs := y.foldl (fun acc kv => acc.set kv.1 kv.2) x

/-- the closed template family for code terms and actions; otto itself is trusted base -/
def evalTmpl (t : J) (env : Bs) : Except LErr J :=
  match t with
  | .obj o =>
    match Obj.get? o "t" with
    | some (.str "lit") => .ok ((Obj.get? o "v").getD .null)
    | some (.str "eqvar") =>
      (match Obj.get? o "x" with
       | some (.str x) =>
         match env.get? x with
         | some .null => .ok (.bool false)      -- the script sees `undefined`
         | some b => .ok (.bool (b.isScalar && b == (Obj.get? o "v").getD .null))
         | none => .error "script"
       | _ => .error "script")
    | some (.str "bindvar") =>
      (match Obj.get? o "x", Obj.get? o "k" with
       | some (.str x), some (.str k) =>
         match env.get? x with
         -- a variable bound to null reaches the script as `undefined` (otto's value of a Go nil), and an undefined
         -- property is dropped when the object is exported: no binding is added
         | some .null => .ok (.obj [])
         | some b => .ok (.obj [(k, b)])
         | none => .error "script"
       | _, _ => .error "script")
    | some (.str "echo") => .ok (.obj env)
    -- `event.verifmark = 1; Env.bindings`: the script marks ITS OWN copy of the event (every action execution gets one)
    | some (.str "mutevent") =>
      -- (a pattern may have bound `?event` itself; bound to null the script sees `undefined` and the assignment throws)
      if env.get? "event" == some .null then .error "script" else
      .ok (.obj (env.map (fun kv => if kv.1 == "event" then
        (match kv.2 with | .obj e => (kv.1, J.obj (Obj.set e "verifmark" (.num 1))) | _ => kv) else kv)))
    -- `Env.AddFact(id, fact)`: the value is the id; the effect on the location is applied by the caller of the
    -- event model (Driver/Loc.lean), which turns a refused add into a failed action
    | some (.str "addfact") => .ok ((Obj.get? o "id").getD .null)
    -- `Env.AddRule(id, rule)` / `Env.RemFact(id)`: likewise, the value is the id and the effect is applied by the caller
    | some (.str "addrule") => .ok ((Obj.get? o "id").getD .null)
    | some (.str "remfact") => .ok ((Obj.get? o "id").getD .null)
    | some (.str "throw") => .error "script"
    | _ => .error "script"
  | _ => .error "script"

/-- how `CodeQuery.Exec` reads a script's value -/
def codeKeep (bs : Bs) (v : J) : List Bs :=
  match v with
  | .bool true => [bs]
  | .bool false => []
  | .null => []
  | .obj o => [o.foldl (fun acc kv => acc.set ("?" ++ kv.1) kv.2) bs]
  | _ => [bs]

abbrev Srch := Obj → Except LErr (List Bs)

mutual
def execQ (srch : Srch) : Q → List Bs → Except LErr (List Bs)
  | .empty, bss => .ok bss
  | .pattern p _, bss => do
    let per ← bss.mapM (fun bs =>
      match subst bs (.obj p) with
      | .obj bound => do
        let found ← srch bound
        pure (found.map (fun more => extendBs bs more))
      | _ => .error "notMap")
    pure per.flatten
  | .code t, bss => do
    let per ← bss.mapM (fun bs => do let v ← evalTmpl t (stripQ bs); pure (codeKeep bs v))
    pure per.flatten
  | .and qs, bss => execAnd srch qs bss
  | .or qs sc, bss => do
    let per ← bss.mapM (fun bs => execOr srch qs sc bs)
    pure per.flatten
  | .not q, bss => execNot srch q bss
def execAnd (srch : Srch) : List Q → List Bs → Except LErr (List Bs)
  | [], bss => .ok bss
  | q :: qs, bss => do let r ← execQ srch q bss; execAnd srch qs r
def execOr (srch : Srch) : List Q → Bool → Bs → Except LErr (List Bs)
  | [], _, _ => .ok []
  | q :: qs, sc, bs => do
    let more ← execQ srch q [bs]
    if sc && !more.isEmpty then pure more
    else do let rest ← execOr srch qs sc bs; pure (more ++ rest)
def execNot (srch : Srch) (q : Q) : List Bs → Except LErr (List Bs)
  | [] => .ok []
  | bs :: rest => do
    let more ← execQ srch q [bs]
    let r ← execNot srch q rest
    pure (if more.isEmpty then bs :: r else r)
end
