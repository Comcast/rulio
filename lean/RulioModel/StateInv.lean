import RulioModel.Spec

/-! # Invariants, fragments and the recursion budget for the two State models (C02, C08).
Core Lean only. The proofs are in `RulioProofs/State*.lean`. -/

/-! ## recursion budget

A budget of `6·|facts| + 12` is enough for the linear state but **not** for the indexed state: the term
index keeps stale ids (an overwrite never un-indexes the terms of the previous fact, a removal only
un-indexes the terms of the *current* fact), so the candidate list of one `isearchLoop` is bounded by the
longest id list of the term index, not by `|facts|`. Hence the summand `tiWidth` in `St.fuel` (`State.lean`);
`St.fuelOK`, `St.remOK`, `St.searchOK`, `St.getOK` below are `St.fuel`, `St.rem`, `St.search`, `St.get` under a
second name. -/

/-- a budget that always suffices (theorem `cascade_terminates`) -/
def St.fuelOK (s : St) : Nat := 6 * s.facts.length + 12 + tiWidth s.ti

/-- the public wrappers with this budget -/
def St.remOK (s : St) (id : String) (now : Int) : St × Except LErr Bool :=
  match s.kind with | .indexed => St.irem s.fuelOK s id now | .linear => St.lrem s.fuelOK s id now
/-- `rem`/`search` with an explicit budget (to state that any larger budget gives the same result) -/
def St.remWith (g : Nat) (s : St) (id : String) (now : Int) : St × Except LErr Bool :=
  match s.kind with | .indexed => St.irem g s id now | .linear => St.lrem g s id now
def St.searchWith (g : Nat) (s : St) (p : Obj) (now : Int) : St × Except LErr (List (String × Obj × List Bs)) :=
  match s.kind with | .indexed => St.isearch g s p now | .linear => St.lsearch g s p now
def St.searchOK (s : St) (p : Obj) (now : Int) : St × Except LErr (List (String × Obj × List Bs)) :=
  match s.kind with | .indexed => St.isearch s.fuelOK s p now | .linear => St.lsearch s.fuelOK s p now

/-! ## well-formedness -/

/-- Go maps have unique keys -/
def KeysNodup (s : St) : Prop := (s.facts.map (·.1)).Nodup

/-- term-index completeness: every stored fact id is listed under each term of its fact
(stale extra entries are allowed) -/
def TIOK (s : St) : Prop :=
  ∀ id fact, (id, fact) ∈ s.facts → ∀ t, t ∈ extractTerms fact → ∃ ids, amGet s.ti t = some ids ∧ id ∈ ids

/-- the id "sets" of the term index have no duplicates -/
def TINodup (s : St) : Prop := ∀ e, e ∈ s.ti → e.2.Nodup

/-- no stored fact id looks like a pattern variable (`GenId` rejects those) -/
def IdsOK (s : St) : Prop := ∀ e, e ∈ s.facts → isVar e.1 = false

/-- well-formed states: what every state reachable from the empty one by `add`/`rem` satisfies -/
structure WF (s : St) : Prop where
  keys : KeysNodup s
  ids : IdsOK s
  tiok : s.kind = .indexed → TIOK s
  tinodup : s.kind = .indexed → TINodup s

/-- no stored fact is expired at `now` (and every stored `expires` is a number, as `PrepareFact` leaves it) -/
def NoneExpired (s : St) (now : Int) : Prop := ∀ e, e ∈ s.facts → checkExpiration e.2 now = .ok false

/-- no stored fact other than `id` is expired at `now`: the situation of `Rem id` *and* of a deletion of `id`
triggered by its own expiry -/
def NoneExpiredBut (s : St) (id : String) (now : Int) : Prop :=
  ∀ e, e ∈ s.facts → e.1 ≠ id → checkExpiration e.2 now = .ok false

/-- `Get` with the budget `St.fuelOK` (an expired fact is removed, with its cascade, before not-found is reported) -/
def St.getOK (s : St) (id : String) (now : Int) : St × Except LErr Obj :=
  match amGet s.facts id with
  | none => (s, .error "notFound")
  | some fact =>
    match checkExpiration fact now with
    | .error e => (s, .error e)
    | .ok true =>
      match s.remOK id now with
      | (s1, .error e) => (s1, .error e)
      | (s1, .ok _) => (s1, .error "notFound")
    | .ok false => (s, .ok fact)

/-! ## the cascade's search pattern and the dependency relation -/

/-- the pattern `{"deleteWith":[id]}` that `deleteDependencies` searches for -/
def depPat (id : String) : Obj := [("deleteWith", .arr [.str id])]

/-- `fact` names `id` in its `deleteWith` array -/
def depOn (fact : Obj) (id : String) : Bool := (deleteWithOf fact).contains id

/-- the rule stored in `fact` cannot leave the pattern index without an error
(`RemPatternMap` fails on arrays it cannot sort and panics on a `when` that is not a map);
decidable, depends on the fact only. `UnindexOK`: no stored fact is like that. -/
def unindexErr (id : String) (fact : Obj) : Bool :=
  match extractRule fact false with
  | .ok (some r, _) =>
    (match getRulePattern r with
     | .error _ => true
     | .ok none => false
     | .ok (some pat) => (piRem PI.empty pat id).2.isSome)
  | _ => false
def UnindexOK (s : St) : Prop := ∀ e, e ∈ s.facts → unindexErr e.1 e.2 = false

/-! ## operation histories -/

inductive StOp where
  | add (id : String) (x : Obj) (now : Int)
  | rem (id : String) (now : Int)

def St.step (s : St) : StOp → St
  | .add id x now => (s.add id x now).1
  | .rem id now => (s.remOK id now).1

def St.run (s : St) (ops : List StOp) : St := ops.foldl St.step s

/-- generated ids: no stored id has the form `fresh#n` with `n ≥ s.fresh` -/
def FreshOK (s : St) : Prop := ∀ e, e ∈ s.facts → ∀ n, s.fresh ≤ n → e.1 ≠ "fresh#" ++ toString n

/-! ## fragments for C02 -/

mutual
/-- no variable keys anywhere in the pattern -/
def noVarKeys : J → Bool
  | .arr xs => noVarKeysL xs
  | .obj kvs => noVarKeysO kvs
  | _ => true
def noVarKeysL : List J → Bool
  | [] => true
  | x :: xs => noVarKeys x && noVarKeysL xs
def noVarKeysO : List (String × J) → Bool
  | [] => true
  | (k, v) :: r => !isVar k && noVarKeys v && noVarKeysO r
end

mutual
/-- no optional variables (`??x`) anywhere in the pattern -/
def noOptVars : J → Bool
  | .str s => !isOptVar s
  | .arr xs => noOptVarsL xs
  | .obj kvs => noOptVarsO kvs
  | _ => true
def noOptVarsL : List J → Bool
  | [] => true
  | x :: xs => noOptVars x && noOptVarsL xs
def noOptVarsO : List (String × J) → Bool
  | [] => true
  | (_, v) :: r => noOptVars v && noOptVarsO r
end

/-- the fragment of C02: no optional variables and no variable keys -/
def TermOK (p : Obj) : Bool := noVarKeysO p && noOptVarsO p

/-- **Hypothesis taken from C05** (matcher soundness w.r.t. the declarative partial-match predicate):
whenever the matcher returns a binding for `p` against a fact, some bindings lay `p` over the fact. -/
def MatcherSound (p : Obj) : Prop :=
  ∀ (f : Obj) (bss : List Bs), matchesJ (.obj p) (.obj f) = .ok bss → bss ≠ [] → ∃ σ, pmv σ (.obj p) (.obj f) = true

/-- the same hypothesis restricted to the stored facts (what the search theorems need; with C05's `match_sound`
it follows from `patOK p`, `dataOK` of every stored fact and the scalar-repeats condition) -/
def MatcherSoundOn (F : List (String × Obj)) (p : Obj) : Prop :=
  ∀ e, e ∈ F → ∀ (bss : List Bs), matchesJ (.obj p) (.obj e.2) = .ok bss → bss ≠ [] →
    ∃ σ, pmv σ (.obj p) (.obj e.2) = true

/-- the (id, bindings) view of a search result -/
def projRes (r : List (String × Obj × List Bs)) : List (String × List Bs) := r.map (fun x => (x.1, x.2.2))
