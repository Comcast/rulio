import RulioModel.Gen.C20
import RulioModel.BreakerGhost

/-! # C20 — executable model of `core/breaker.go` (OutboundBreaker, SimpleBreaker, Throttle) and of the
capacity gate of `core/location.go`.

Every comparison, offset, guard and every assignment of `b.updated` comes from `RulioModel/Gen/C20.lean`, which is
regenerated from the Go source on every run of the check: a flipped `<`, a removed clamp, a moved lock, a `slide`
that sets `updated := now` again changes the definitions below and the theorems of `Props/C20.lean` have to be
re-proved against them.  (The file compiles against the definitions extracted from the unrepaired source as well —
the model then reproduces the defects and the recovery / interval / pending theorems fail.)

Time is nanoseconds on a monotone clock (`Nat`).  Core Lean only (the driver links this file). -/

open Gen.C20

/-! ## Go slices as lists -/

/-- Go `copy(cs[d:], cs[s:])` inside one slice (memmove semantics): `cs[s+j]` lands at `cs[d+j]` for every `j`
with both indices in range; the other cells keep their value. -/
def goCopySelf (cs : List Nat) (d s : Nat) : List Nat :=
  (List.range cs.length).map fun i =>
    if d ≤ i ∧ (i - d) + s < cs.length then cs.getD ((i - d) + s) 0 else cs.getD i 0

/-- `for i := lo; cond i; i++ { cs[i] = 0 }` for a condition that is downward closed from `lo` (as the extracted
`zeroCond i k = decide (i < k)` is): every index `i ≥ lo` with `cond i` is zeroed. -/
def goZeroWhile (cs : List Nat) (lo : Nat) (cond : Nat → Bool) : List Nat :=
  (List.range cs.length).map fun i => if lo ≤ i ∧ cond i then 0 else cs.getD i 0

/-- `cs[i]++` -/
def goIncrAt (cs : List Nat) (i : Nat) : List Nat :=
  (List.range cs.length).map fun j => if j = i then cs.getD j 0 + 1 else cs.getD j 0

/-! ## OutboundBreaker -/

/-- the fields of `OutboundBreaker` that matter (`disabled` is never read by `Do`) -/
structure OB where
  limit : Nat
  interval : Nat        -- nanoseconds
  ticks : Nat           -- `b.ticks`
  counts : List Nat     -- `b.counts`
  updated : Nat         -- `b.updated`, nanoseconds
  deriving Repr, DecidableEq

namespace OB

/-- the state `init` leaves behind; `updated` is the zero time, which precedes every clock reading -/
def init (limit interval : Nat) : OB :=
  { limit, interval, ticks := initTicks, counts := List.replicate initTicks 0, updated := 0 }

/-- `NewOutboundBreaker(limit, interval)` with its error return (`limit` is an `int64`, `interval` a `time.Duration`:
both can be zero or negative) -/
def initE (limit interval : Int) : Option OB :=
  if initRejects limit interval then none else some (init limit.toNat interval.toNat)

/-- the same breaker with `updated` set (what the white-box harness does, and `Reset`) -/
def initAt (limit interval t0 : Nat) : OB := { init limit interval with updated := t0 }

/-- `resolution` of `slide` -/
def res (b : OB) : Nat := resolution b.interval b.ticks

/-- the tick count of `slide` at time `now`, before the clamp -/
def rawAt (b : OB) (now : Nat) : Nat := rawTicks (elapsed now b.updated) b.res

/-- the number of ticks `slide` shifts by at time `now` -/
def shiftBy (b : OB) (now : Nat) : Nat := clampTicks b.counts.length (b.rawAt now)

/-- `slide(now)` (assumes `b.res ≠ 0`: see `callE`) -/
def slide (b : OB) (now : Nat) : OB :=
  let k := b.shiftBy now
  let cs := goCopySelf b.counts (copyDst k) (copySrc k)
  let cs := goZeroWhile cs (zeroLo k) (fun i => zeroCond i k)
  { b with counts := cs, updated := slideUpdated b.updated now b.counts.length (b.rawAt now) b.res }

def total (b : OB) : Nat := b.counts.sum

/-- the locked section of `Do` at clock reading `now`: slide, sum, test, increment (and what `Do` does to `updated`
on admission).  Returns the new state and `closed`. -/
def call (b : OB) (now : Nat) : OB × Bool :=
  let b := b.slide now
  let closed := admitTest b.total b.limit
  (if closed then { b with counts := goIncrAt b.counts incrIndex, updated := admitUpdated b.updated now } else b, closed)

/-- the locked section of `Status()` / `Summary()` at clock reading `now`: one `slide` (`statusIsSlide`); the second
component is the `Closed` that `Status` reports -/
def status (b : OB) (now : Nat) : OB × Bool :=
  let b := b.slide now
  (b, admitTest b.total b.limit)

inductive Err where
  | divByZero      -- `ns / int64(resolution)` with `resolution = 0` (interval < ticks nanoseconds)
  | indexRange     -- `b.counts[incrIndex]` out of range
  deriving Repr, DecidableEq

/-- `Do` with the run-time panics of the Go code made explicit -/
def callE (b : OB) (now : Nat) : Except Err (OB × Bool) :=
  if b.ticks = 0 ∨ b.res = 0 then .error .divByZero
  else
    let r := b.call now
    if r.2 ∧ ¬ incrIndex < b.counts.length then .error .indexRange else .ok r

/-- a sequence of calls; result: final state and the admission decisions -/
def run (b : OB) : List Nat → OB × List Bool
  | [] => (b, [])
  | t :: ts =>
    let r := b.call t
    let r' := run r.1 ts
    (r'.1, r.2 :: r'.2)

/-- one arrival: a `Do` call (result: admitted?) or a `Status()`/`Summary()` poll (never an admission) -/
def stepEv (b : OB) : BEv → OB × Bool
  | .call t => b.call t
  | .status t => ((b.status t).1, false)

/-- the times of the admitted calls of a sequence of calls and polls, newest first (the order of the ghost model) -/
def admittedEv (b : OB) (es : List BEv) : List Nat :=
  go b es []
where
  go (b : OB) : List BEv → List Nat → List Nat
    | [], acc => acc
    | e :: es, acc =>
      let r := b.stepEv e
      go r.1 es (if r.2 then e.time :: acc else acc)

/-- the state after a sequence of calls and polls -/
def afterEv (b : OB) : List BEv → OB
  | [] => b
  | e :: es => afterEv (b.stepEv e).1 es

/-- the times of the admitted calls of a sequence of calls, newest first -/
def admitted (b : OB) (ts : List Nat) : List Nat := b.admittedEv (ts.map .call)

/-- the state after a sequence of calls -/
def after (b : OB) (ts : List Nat) : OB := b.afterEv (ts.map .call)

end OB

/-! ## Concurrent callers of `Do`

A thread is a number of remaining `Do` calls; a schedule is a list of `(thread id, clock reading)`; a step lets
the thread run its next *atomic section* of `Do` (as cut by `doSegments`) with that clock reading.  The clock
is global and monotone, so the readings along a schedule are non-decreasing. -/

/-- per-thread registers of a `Do` in flight -/
structure DoLocal where
  now : Nat := 0
  total : Nat := 0
  closed : Bool := false
  deriving Repr

/-- one step of `Do` on the shared breaker and the thread's registers; `log` collects (time, closed) at the test -/
def doStep (clk : Nat) : DoStep → OB × DoLocal × List (Nat × Bool) → OB × DoLocal × List (Nat × Bool)
  | .readClock, (b, l, log) => (b, { l with now := clk }, log)
  | .slide, (b, l, log) => (b.slide l.now, l, log)
  | .sum, (b, l, log) => (b, { l with total := b.total }, log)
  | .test, (b, l, log) => (b, { l with closed := admitTest l.total b.limit }, (l.now, admitTest l.total b.limit) :: log)
  | .incr, (b, l, log) => (if l.closed then { b with counts := goIncrAt b.counts incrIndex, updated := admitUpdated b.updated l.now } else b, l, log)
  | .runF, s => s

/-- a thread: the sections still to run of the current `Do`, registers, number of further `Do` calls -/
structure DoThread where
  todo : List (List DoStep) := []
  regs : DoLocal := {}
  more : Nat := 0
  deriving Repr

structure DoSys where
  b : OB
  threads : List DoThread
  log : List (Nat × Bool) := []   -- newest first

/-- a thread between two `Do` calls starts the next one, if it has any left -/
def DoThread.next (th : DoThread) : DoThread :=
  match th.todo, th.more with
  | [], n + 1 => { th with todo := doSegments, more := n }
  | _, _ => th

/-- one atomic section -/
def runSeg (clk : Nat) (seg : List DoStep) (st : OB × DoLocal × List (Nat × Bool)) : OB × DoLocal × List (Nat × Bool) :=
  seg.foldl (fun acc stp => doStep clk stp acc) st

/-- thread `tid` runs its next atomic section at clock reading `clk` (a finished thread does nothing) -/
def DoSys.step (s : DoSys) (tid clk : Nat) : DoSys :=
  match s.threads[tid]? with
  | none => s
  | some th =>
    match th.next.todo with
    | [] => s
    | seg :: rest =>
      let r := runSeg clk seg (s.b, th.regs, s.log)
      { b := r.1, threads := s.threads.set tid { th.next with todo := rest, regs := r.2.1 }, log := r.2.2 }

def DoSys.exec (s : DoSys) : List (Nat × Nat) → DoSys
  | [] => s
  | (tid, clk) :: sch => (s.step tid clk).exec sch

/-- `n` threads, thread `i` about to make `calls i` calls -/
def DoSys.start (b : OB) (calls : List Nat) : DoSys :=
  { b, threads := calls.map fun n => { more := n } }

/-- admitted times recorded in the log, newest first -/
def DoSys.admitted (s : DoSys) : List Nat := (s.log.filter (·.2)).map (·.1)

/-! ## SimpleBreaker / ComboBreaker / OutboundBreaker as seen by `Throttle.Submit` -/

/-- the status a breaker has when `Do` is called -/
inductive BKind where
  | outbound (closed : Bool)
  | simple (closed disabled : Bool)
  | comboDisabled
  | combo (allAttempted : Bool)
  deriving Repr, DecidableEq

/-- `Do(f)` with `f ≠ nil`: (f was run, reported `attempted`) -/
def BKind.doF : BKind → Bool × Bool
  | .outbound closed => (outboundRuns closed true, outboundAttempted closed)
  | .simple closed disabled => (simpleRuns closed disabled, simpleAttempted closed disabled)
  | .comboDisabled => (true, true)
  | .combo all => (all, all)

/-- a breaker whose `Do` reports `attempted` exactly when it ran the function -/
def BKind.faithful (k : BKind) : Bool := k.doF.1 == k.doF.2

/-- the retry loop of `Submit`: `for i := 0; i < attempts; i++ { worked, _ = t.Do(f); if worked { break }; sleep }`.
`st` = status of the breaker at each successive attempt.  Result: (number of times f ran, worked). -/
def submitLoop (attempts : Nat) (st : List BKind) : Nat × Bool :=
  go 0 st attempts
where
  go (i : Nat) : List BKind → Nat → Nat × Bool
    | _, 0 => (0, false)
    | [], _ => (0, false)
    | k :: st, fuel + 1 =>
      if loopCond i attempts then
        let r := k.doF
        if r.2 && loopBreaksOnWorked then ((if r.1 then 1 else 0), true)
        else
          let r' := go (i + 1) st fuel
          ((if r.1 then 1 else 0) + r'.1, r'.2)
      else (0, false)

/-! ## Throttle bookkeeping as a transition system over any number of submitters -/

inductive SPc where
  | idle        -- `Submit` not yet entered
  | waiting     -- between the increment and the decrement (in the retry loop)
  | overflow    -- returned `ThrottleOverflow`
  | done        -- returned after the loop
  deriving Repr, DecidableEq

structure Thr where
  pendingLimit : Nat
  disabled : Bool
  pending : Nat
  pcs : List SPc
  deriving Repr, DecidableEq

namespace Thr

def start (pendingLimit : Nat) (disabled : Bool) (n : Nat) : Thr :=
  { pendingLimit, disabled, pending := 0, pcs := List.replicate n .idle }

/-- the first critical section of `Submit` -/
def enter (t : Thr) (tid : Nat) : Thr :=
  let too := tooMany t.pendingLimit t.pending
  let p := if incrGuard too t.disabled then t.pending + 1 else t.pending
  { t with pending := p, pcs := t.pcs.set tid (if overflowReturns too then .overflow else .waiting) }

/-- the second critical section of `Submit` -/
def exit (t : Thr) (tid : Nat) : Thr :=
  { t with pending := t.pending - exitDecrement, pcs := t.pcs.set tid .done }

/-- submitter `tid` takes its next step under the throttle's lock; `Disable(b)` is step `setDisabled` -/
def step (t : Thr) (tid : Nat) : Thr :=
  match t.pcs[tid]? with
  | some .idle => t.enter tid
  | some .waiting => t.exit tid
  | _ => t

inductive Ev where
  | sub (tid : Nat)          -- submitter `tid` moves
  | setDisabled (b : Bool)   -- `Throttle.Disable(b)`
  | spawn                    -- one more submitter arrives
  deriving Repr, DecidableEq

def ev (t : Thr) : Ev → Thr
  | .sub tid => t.step tid
  | .setDisabled b => { t with disabled := b }
  | .spawn => { t with pcs := t.pcs ++ [.idle] }

def exec (t : Thr) : List Ev → Thr
  | [] => t
  | e :: es => (t.ev e).exec es

def waiting (t : Thr) : Nat := t.pcs.count .waiting

end Thr

/-! ## Capacity gate of `Location.AddFact` / `Location.AddRule` -/

/-- what is stored in a location: ids with a tag (payloads do not matter for counting) -/
structure Cap where
  maxFacts : Int
  store : List (String × String)   -- id ↦ payload tag, ids unique
  deriving Repr, DecidableEq

inductive CapOp where
  | addFact (id : String) (v : String)
  | addRule (id : String) (v : String)
  | rem (id : String)
  | setProp (id : String) (v : String)   -- SetProp / EnableRule(false) / SetParents: reaches `state.Add` ungated
  deriving Repr, DecidableEq

inductive CapOut where
  | ok | capacity | notFound
  deriving Repr, DecidableEq

namespace Cap

def count (c : Cap) : Nat := c.store.length

/-- `state.Add(id, v)`: insert or overwrite -/
def put (st : List (String × String)) (id v : String) : List (String × String) :=
  if st.any (·.1 == id) then st.map (fun kv => if kv.1 == id then (id, v) else kv) else st ++ [(id, v)]

def step (c : Cap) : CapOp → Cap × CapOut
  | .addFact id v =>
    if addFactGated && atCapacity c.maxFacts c.count then (c, .capacity) else ({ c with store := put c.store id v }, .ok)
  | .addRule id v =>
    if addRuleGated && atCapacity c.maxFacts c.count then (c, .capacity) else ({ c with store := put c.store id v }, .ok)
  | .rem id =>
    if c.store.any (·.1 == id) then ({ c with store := c.store.filter (·.1 != id) }, .ok) else (c, .notFound)
  | .setProp id v => ({ c with store := put c.store id v }, .ok)

def exec (c : Cap) : List CapOp → Cap
  | [] => c
  | o :: os => (c.step o).1.exec os

/-- ops that go through the capacity gate or remove -/
def CapOp.public : CapOp → Bool
  | .setProp _ _ => false
  | _ => true

end Cap

/-- the check-then-add race: each adder first evaluates `AtCapacity` (step 1) and later calls `state.Add` (step 2) -/
inductive APc where
  | start | checked (full : Bool) | done
  deriving Repr, DecidableEq

structure CapRace where
  maxFacts : Int
  count : Nat
  pcs : List APc
  deriving Repr, DecidableEq

def CapRace.step (s : CapRace) (tid : Nat) : CapRace :=
  match s.pcs[tid]? with
  | some .start => { s with pcs := s.pcs.set tid (.checked (atCapacity s.maxFacts s.count)) }
  | some (.checked false) => { s with count := s.count + 1, pcs := s.pcs.set tid .done }  -- distinct new ids
  | some (.checked true) => { s with pcs := s.pcs.set tid .done }
  | _ => s

def CapRace.exec (s : CapRace) : List Nat → CapRace
  | [] => s
  | t :: ts => (s.step t).exec ts

/-- ... repaired: `Location.admission` makes the test and the addition it admits one step. An adder is `start`, then holds the
admission lock with the test's answer (`checked`), then adds (or not) and releases. A scheduling decision for a thread that
wants the lock while another holds it does nothing. -/
structure CapLocked where
  maxFacts : Int
  count : Nat
  holder : Option Nat
  pcs : List APc
  deriving Repr, DecidableEq

def CapLocked.step (s : CapLocked) (tid : Nat) : CapLocked :=
  match s.pcs[tid]? with
  | some .start =>
    (match s.holder with
     | none => { s with holder := some tid, pcs := s.pcs.set tid (.checked (atCapacity s.maxFacts s.count)) }
     | some _ => s)
  | some (.checked false) => { s with count := s.count + 1, holder := none, pcs := s.pcs.set tid .done }
  | some (.checked true) => { s with holder := none, pcs := s.pcs.set tid .done }
  | _ => s

def CapLocked.exec (s : CapLocked) : List Nat → CapLocked
  | [] => s
  | t :: ts => (s.step t).exec ts

/-! ## arrival patterns -/

/-- the call times `t0 + δ, t0 + 2δ, …, t0 + nδ` (steady polling) -/
def pollEvery (t0 δ : Nat) : Nat → List Nat
  | 0 => []
  | n + 1 => (t0 + δ) :: pollEvery (t0 + δ) δ n
