import RulioModel.Query

/-! # Event processing (events.go): FindRules → EvalRule → EvalRuleCondition → ExecRuleAction, `steps = 0`.
Rules are visited in list order (the Go code ranges over a map; the model takes the order of the candidate list). -/

structure ActNode where
  ok : Bool
  value : J
structure CondNode where
  bs : Bs
  err : Option LErr          -- condition failed (aborts the whole walk)
  acts : List ActNode
structure RuleNode where
  id : String
  bss : List Bs
  conds : List CondNode
structure Tree where
  err : Option LErr          -- FindRules failed
  rules : List RuleNode
  values : List J
  aborted : Bool             -- a failed condition / serial action stopped the walk

/-- a rule action: template evaluated on the stripped bindings -/
def execAction (a : J) (bs : Bs) : Except LErr J :=
  match a with
  | .obj o => evalTmpl ((Obj.get? o "verif_tmpl").getD .null) (stripQ bs)
  | _ => .error "script"

def addDefault (bs : Bs) (k : String) (v : J) : Bs := if (bs.get? k).isSome then bs else bs ++ [(k, v)]

/-- `EvalRuleCondition.Do` + the actions below it -/
def evalCond (srch : Srch) (locName : String) (event : Obj) (id : String) (r : RuleM) (bs : Bs) : CondNode × List J × Bool :=
  let bs := addDefault (addDefault (addDefault bs "?event" (.obj event)) "?location" (.str locName)) "?ruleId" (.str id)
  let res : Except LErr (List Bs) := match r.condition with
    | none => .ok [bs]
    | some q => do let q' ← parseQuery (4 * sz q + 4) q; execQ srch q' [bs]
  match res with
  | .error e => ({ bs := bs, err := some e, acts := [] }, [], true)
  | .ok out =>
    let pairs := out.flatMap (fun b => r.actions.map (fun a => (b, a)))
    if r.serial then
      -- stop at the first failing action
      let rec go (ps : List (Bs × J)) (acc : List ActNode) (vals : List J) : List ActNode × List J × Bool :=
        match ps with
        | [] => (acc, vals, false)
        | (b, a) :: rest =>
          match execAction a b with
          | .ok v => go rest (acc ++ [{ ok := true, value := v }]) (vals ++ [v])
          | .error _ => (acc ++ [{ ok := false, value := .null }], vals, true)
      let (acts, vals, ab) := go pairs [] []
      ({ bs := bs, err := none, acts := acts }, vals, ab)
    else
      let acts := pairs.map (fun (b, a) => match execAction a b with
        | .ok v => ({ ok := true, value := v } : ActNode)
        | .error _ => { ok := false, value := .null })
      ({ bs := bs, err := none, acts := acts }, (acts.filter (·.ok)).map (·.value), false)

/-- `ProcessEvent` given the dispatched candidates `cands` (id, rule, enabled) in visiting order -/
def processEvent (srch : Srch) (locName : String) (event : Obj) (cands : List (String × RuleM × Bool)) : Tree :=
  -- FindRules.Do: enabled filter and the re-match of `when`
  let rec find (cs : List (String × RuleM × Bool)) (acc : List (String × RuleM × List Bs)) : Except LErr (List (String × RuleM × List Bs)) :=
    match cs with
    | [] => .ok acc
    | (id, r, en) :: rest =>
      if !en then find rest acc else
      match r.when? with
      | some pat =>
        (match matchesJ (.obj pat) (.obj event) with
         | .error e => .error e
         | .ok bss => find rest (if bss.isEmpty then acc else acc ++ [(id, r, bss)]))
      | none => find rest (acc ++ [(id, r, [[]])])
  match find cands [] with
  | .error e => { err := some e, rules := [], values := [], aborted := true }
  | .ok disp =>
    let rec walk (ds : List (String × RuleM × List Bs)) (acc : List RuleNode) (vals : List J) : List RuleNode × List J × Bool :=
      match ds with
      | [] => (acc, vals, false)
      | (id, r, bss) :: rest =>
        let rec conds (bs : List Bs) (cacc : List CondNode) (vals : List J) : List CondNode × List J × Bool :=
          match bs with
          | [] => (cacc, vals, false)
          | b :: more =>
            let (cn, vs, ab) := evalCond srch locName event id r b
            if ab then (cacc ++ [cn], vals ++ vs, true) else conds more (cacc ++ [cn]) (vals ++ vs)
        let (cns, vals', ab) := conds bss [] vals
        let node : RuleNode := { id := id, bss := bss, conds := cns }
        if ab then (acc ++ [node], vals', true) else walk rest (acc ++ [node]) vals'
    let (nodes, vals, ab) := walk disp [] []
    { err := none, rules := nodes, values := vals, aborted := ab }
