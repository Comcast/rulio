import RulioModel.Gen.C16

/-! # Model of the Bolt-backed cron service (crolt/cron.go)

Two buckets per partition: `jobs<p>` keyed by `account,id` (here a `Nat`, the *aid*) and `time<p>` keyed by
`<RFC3339Nano due time>,<aid>` (here the pair `TId`). The partition is a function of the account, so the partitions
are independent copies of the same structure; the model is one partition (the harness merges them).
A Bolt transaction is atomic and durable (trusted): every operation below is one transaction, so the states
between operations are exactly the states a reopen can observe, and `reopen` is the identity.

`ts` values are produced by `Cron.set` from `time.Now()`; the model receives the value the implementation chose
(the harness reads it back and checks it against the clock readings around the call). -/

namespace Crolt
open C16Gen

/-- key of the time bucket: `fmt.Sprintf("%s,%s", ts, j.aid)`; neither component contains the separator and no
timestamp is a proper prefix of another (all end in `Z`), so byte order on the string is the lexicographic order on the pair -/
structure TId where
  ts : Nat
  aid : Nat
  deriving DecidableEq, Repr, Inhabited

/-- the JSON value stored (identically) in both buckets; only the fields the logic reads -/
structure Job where
  aid : Nat
  /-- `Job.TId`; `none` = `""` -/
  tid : Option TId
  /-- the expression parses as a Go duration (⇒ `set` makes it a one-shot) -/
  isDur : Bool
  once : Bool
  evict : Bool
  deriving DecidableEq, Repr, Inhabited

abbrev Map (κ α : Type) := List (κ × α)

def get {κ α} [DecidableEq κ] (k : κ) : Map κ α → Option α
  | [] => none
  | (k', v) :: m => if k' = k then some v else get k m

def del {κ α} [DecidableEq κ] (k : κ) (m : Map κ α) : Map κ α := m.filter (fun e => e.1 ≠ k)

def put {κ α} [DecidableEq κ] (k : κ) (v : α) (m : Map κ α) : Map κ α := (k, v) :: del k m

/-- one firing = one `job.Do` (ghost log) -/
structure Fire where
  aid : Nat
  due : Nat
  now : Nat
  once : Bool
  deriving DecidableEq, Repr, Inhabited

structure DB where
  jobs : Map Nat Job := []
  time : Map TId Job := []
  log : List Fire := []
  deriving Repr, Inhabited

/-- the transaction built by `Cron.update` for job `j` (whose `TId` field still holds the old key) and new due time `ts` -/
def update (db : DB) (j : Job) (ts : Nat) : DB :=
  let tid : TId := ⟨ts, j.aid⟩
  let j' := { j with tid := some tid }
  let time1 := match j.tid with
    | some old => if updateDeletesOld then del old db.time else db.time
    | none => db.time
  { db with jobs := put j.aid j' db.jobs, time := put tid j' time1 }

/-- the effect of `Cron.set` on the flags (the due time itself is an input) -/
def setFlags (j : Job) : Job := if j.evict then j else if j.isDur then { j with once := true } else j

/-- `Cron.Add` forgets the `TId` its caller put into the job (`j.TId = ""`; `AddHandler` decodes the request body into the job) -/
def clearTid (j : Job) : Job := if addClearsTid then { j with tid := none } else j

/-- `Cron.Add` when nothing runs between its exists-check (a View transaction) and its Update transaction; Bool = no `Exists` error -/
def add (db : DB) (j : Job) (ts : Nat) : DB × Bool :=
  match get j.aid db.jobs with
  | some _ => (db, false)
  | none => (update db (setFlags (clearTid j)) ts, true)

/-- the write of the second (Update) transaction of `Cron.Add` alone; the exists-check that this transaction makes before it writes is not part of `addCommit` (the theorems assume it of each `addCommit` of a history) -/
def addCommit (db : DB) (j : Job) (ts : Nat) : DB := update db (setFlags (clearTid j)) ts

/-- the transaction built by `Cron.delete` -/
def delete (db : DB) (aid : Nat) : DB :=
  match get aid db.jobs with
  | none => db
  | some j =>
    let time1 := match j.tid with
      | some t => if deleteRemovesTime then del t db.time else db.time
      | none => db.time
    { db with time := time1, jobs := if deleteRemovesJob then del aid db.jobs else db.jobs }

/-- the loop condition of `Cron.work`: `bytes.Compare(k, max) <= 0` where `max` is the formatted `now`:
`k` has the form `ts,aid`, `max` the form `ts'`; the comparison is decided by the timestamps, and on equal timestamps `k` is longer -/
def cmpKey (k : TId) (now : Nat) : Int := if k.ts < now then -1 else 1

def isDue (k : TId) (now : Nat) : Bool := dueCmp (cmpKey k now)

/-- body of the loop of `Cron.work` for the entry at key `k` (if present and due); `ts` is the new due time chosen by `set`.
Returns the new state and whether the loop stops (`return f(tx)` after an eviction). -/
def workOne (db : DB) (now : Nat) (k : TId) (ts : Nat) : DB × Bool :=
  match get k db.time with
  | none => (db, false)
  | some v =>
    if !isDue k now then (db, false) else
    if v.evict then (delete db v.aid, true)
    else
      let j := if v.once && workEvictsOnce then { v with evict := true } else v
      let j := setFlags j
      let db1 := { db with log := ⟨v.aid, k.ts, now, v.once⟩ :: db.log }
      (update db1 j ts, false)

/-- `Cron.work(now)`: the cursor visits due keys; `sel` lists the visited keys in order with the new due times
(which due keys a Bolt cursor visits while the bucket is being modified is not modelled: every choice is allowed) -/
def work (db : DB) (now : Nat) : List (TId × Nat) → DB
  | [] => db
  | (k, ts) :: sel =>
    let r := workOne db now k ts
    if r.2 then r.1 else work r.1 now sel

inductive Op where
  | add (j : Job) (ts : Nat)
  | addCommit (j : Job) (ts : Nat)
  | delete (aid : Nat)
  | work (now : Nat) (sel : List (TId × Nat))
  /-- close and reopen the database file -/
  | reopen
  deriving Repr, Inhabited

def step (db : DB) : Op → DB
  | .add j ts => (add db j ts).1
  | .addCommit j ts => addCommit db j ts
  | .delete aid => delete db aid
  | .work now sel => work db now sel
  | .reopen => db

def run (db : DB) (ops : List Op) : DB := ops.foldl step db

/-! ## recurring jobs: occurrences and jitter (`Cron.set` / `Cron.Jitter`)

The bucket model above takes the new due time of a job as an input. For a job with a cron expression `Cron.set` computes it as
`schedule.Next(time.Now().UTC()).Add(c.Jitter())`; the life of one such job is modelled here with the occurrence as a ghost
field, so that "once per occurrence" and "not before the occurrence" can be stated. `p` is the period of the stand-in schedule
(occurrences = multiples of `p`), `max` is `Cron.MaxJitter`, `u` (`< max`) is the value `rand.Float64()*max` of one call. -/

/-- stand-in for `Expression.Next(now)`: the first multiple of `p` strictly after `now` -/
def nextOcc (p now : Nat) : Nat := (now / p + 1) * p

/-- `Cron.set` for a cron expression: next occurrence plus `Cron.Jitter()` (= `u - jitterSub max`; times before 0 do not exist) -/
def setCron (p max now u : Nat) : Nat := nextOcc p now + u - jitterSub max

structure RState where
  /-- ghost: the occurrence the job's key in the time bucket was computed from -/
  occ : Nat
  /-- the timestamp of that key -/
  key : Nat
  clock : Nat
  /-- ghost log, newest first: (occurrence served, clock reading of the due test) of every run of the job -/
  runs : List (Nat × Nat) := []
  deriving Repr, Inhabited

inductive ROp where
  | advance (d : Nat)
  /-- one `work()` transaction: the due test reads the clock, `set` reads it again `d` later and draws `u` -/
  | poll (d u : Nat)
  deriving Repr, Inhabited

/-- the state right after `Add` at time `now` -/
def rinit (p max now u : Nat) : RState := { occ := nextOcc p now, key := setCron p max now u, clock := now }

def rstep (p max : Nat) (s : RState) : ROp → RState
  | .advance d => { s with clock := s.clock + d }
  | .poll d u =>
    if isDue ⟨s.key, 0⟩ s.clock then
      { occ := nextOcc p (s.clock + d), key := setCron p max (s.clock + d) u, clock := s.clock + d, runs := (s.occ, s.clock) :: s.runs }
    else s

def rrun (p max : Nat) (s : RState) (ops : List ROp) : RState := ops.foldl (rstep p max) s

end Crolt
