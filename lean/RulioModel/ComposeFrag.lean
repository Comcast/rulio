import RulioModel.StateInv
import RulioModel.PatIndexSpec
import RulioModel.LocInv
import RulioModel.MatchFrag
import RulioModel.QuerySpec

/-! # Vocabulary for the end-to-end (composed) statements of C01 / C02 / C10

Core Lean only; nothing here changes the executable model.  The theorems that use these definitions are in
`RulioProofs/Compose*.lean` and at the end of `Props/C01.lean`, `Props/C02.lean`, `Props/C10.lean`.

* `linearPattern p`   — no variable occurs twice in the pattern (the repeated-variable condition of C05's
                        soundness theorem is then vacuous for the empty incoming bindings);
* `FactsOK s`, `FactsOKFor F p` — the stored facts are in the data fragment of C05;
* `whenFrag p`, `WhenFrag s`    — the `when` patterns of the stored rules are in the index fragment (C01), the
                        matcher fragment (C05) and linear;
* `ruleShapeOK r`, `RuleShapes s` — a stored rule body with a `when` map keeps its pattern under the key
                        `pattern` and has no `schedule` key (the shape `AddRule` documents);
* `IdxSound s`        — the converse of the rule-index invariant `StIdx`;
* `specFires`         — the dispatch specification filtered by the disabled flags;
* `locEnabledFlags`, `locProcessEvent` — an `event` op on one location without parents, the three steps of the
                        `event` case of `Driver/Loc.lean` (rule search → `RuleEnabled` per candidate → `processEvent`)
                        on the location itself; the driver runs them through `sys.at`, hides the post actions from
                        `processEvent` (`hidePosts`) and applies their effects afterwards (`applyEffects`);
* `LocOp`, `Loc.run`  — histories of Location operations. -/

/-! ## fragments -/

/-- no string occurs twice in the list -/
def noRepeats : List String → Bool
  | [] => true
  | x :: xs => !xs.contains x && noRepeats xs

/-- **linear pattern**: no variable occurs twice (anonymous `?` does not count, as in `varsOf`) -/
def linearPattern (p : Obj) : Bool := noRepeats (varsOf (.obj p))

/-- every stored fact is well-formed ground data in the sense of C05 (`dataOK`: no variable-looking string,
scalars inside one array pairwise distinct) -/
def FactsOK (s : St) : Prop := ∀ e, e ∈ s.facts → dataOK (.obj e.2) = true

/-- the same relative to a pattern: a stored fact that is not ground data (a rule whose `when` holds variables,
say) is tolerated when the matcher plainly answers "no match" on it -/
def FactsOKFor (F : List (String × Obj)) (p : Obj) : Prop :=
  ∀ e, e ∈ F → dataOK (.obj e.2) = true ∨ matchesJ (.obj p) (.obj e.2) = .ok []

/-- the fragment of `when` patterns for which indexed dispatch is proved exact: index fragment (C01),
matcher fragment (C05), and linear -/
def whenFrag (p : Obj) : Bool := IdxOK p && patOK (.obj p) && linearPattern p

/-- every stored non-scheduled rule has its `when` pattern in `whenFrag` -/
def WhenFrag (s : St) : Prop := ∀ e, e ∈ s.facts → ∀ p, whenOf e.2 = some p → whenFrag p = true

/-- shape of a rule body: if `when` is a map, the pattern sits under its key `pattern` (as a map) and the body has
no `schedule` key.  (Bodies whose `when` is absent, `null` or not a map are never dispatched by either state.) -/
def ruleShapeOK (r : Obj) : Bool :=
  match Obj.get? r "when" with
  | some (.obj w) =>
    !Obj.has r "schedule" && (match Obj.get? w "pattern" with | some (.obj _) => true | _ => false)
  | _ => true

/-- every stored rule body has the shape `ruleShapeOK` -/
def RuleShapes (s : St) : Prop :=
  ∀ e, e ∈ s.facts → ∀ r, e.2.get? "rule" = some (.obj r) → ruleShapeOK r = true

/-- the rule body the state hands to `FindCachedRules` for a stored fact: the linear scan passes the stored `rule`
map, the indexed state passes it through `ExtractRule` (which writes the fact's `expires` into it once more) -/
def candBody (k : Kind) (f : Obj) : Option Obj :=
  match k with
  | .linear => (match f.get? "rule" with | some (.obj r) => some r | _ => none)
  | .indexed => (match extractRule f true with | .ok (some b, _) => some b | _ => none)

/-- every stored rule body is accepted by `RuleFromMap` (true of rules added through `AddRule`, which validates
them; a fact with a `rule` key written through `AddFact` is not validated) -/
def RulesValid (s : St) : Prop :=
  ∀ e, e ∈ s.facts → ∀ body, candBody s.kind e.2 = some body → ∃ rm, ruleFromMap body = .ok rm

/-- every stored `rule` value is a map (the linear scan panics on anything else) -/
def RuleMaps (s : St) : Prop := ∀ e, e ∈ s.facts → ∀ rv, e.2.get? "rule" = some rv → ∃ r, rv = .obj r

/-! ### executable forms of the hypotheses (for concrete instances) -/

def ruleShapesB (s : St) : Bool :=
  s.facts.all (fun e => match e.2.get? "rule" with | some (.obj r) => ruleShapeOK r | _ => true)
def whenFragB (s : St) : Bool :=
  s.facts.all (fun e => match whenOf e.2 with | some p => whenFrag p | none => true)
def rulesValidB (s : St) : Bool :=
  s.facts.all (fun e => match candBody s.kind e.2 with
    | some b => (match ruleFromMap b with | .ok _ => true | .error _ => false)
    | none => true)
def ruleMapsB (s : St) : Bool :=
  s.facts.all (fun e => match e.2.get? "rule" with | some (.obj _) => true | some _ => false | none => true)
def factsOKB (s : St) : Bool := s.facts.all (fun e => dataOK (.obj e.2))

/-- **converse of the rule-index invariant**: an id sits on a trie node only if it is currently stored as a
non-scheduled rule whose `when` pattern's path ends at that node -/
def IdxSound (s : St) : Prop :=
  ∀ π id, id ∈ s.ri.idsAt π → ∃ fact pat, amGet s.facts id = some fact ∧ whenOf fact = some pat ∧
    PI.path (mapToPairs pat) = some π

/-! ## the specification an event is compared with -/

/-- the dispatch specification of one location's own rules, filtered by the disabled flags:
stored, unexpired, non-scheduled rules whose `when` matches, not disabled, with the matcher's bindings -/
def specFires (facts : List (String × Obj)) (ev : Obj) (now : Int) : Except LErr (List (String × List Bs)) :=
  (specDispatchLocal facts ev now).map (fun out => out.filter (fun r => !ruleDisabled facts r.1 now))

/-- **live and enabled**: `id` is currently stored as a non-scheduled rule, unexpired at `now`, its `when` pattern
matches the event with exactly the bindings `bss` (at least one), and the id is not disabled -/
def LiveEnabled (facts : List (String × Obj)) (ev : Obj) (now : Int) (id : String) (bss : List Bs) : Prop :=
  ∃ f p, (id, f) ∈ facts ∧ whenOf f = some p ∧ unexpired f now = true ∧
    matchesJ (.obj p) (.obj ev) = .ok bss ∧ bss ≠ [] ∧ ruleDisabled facts id now = false

/-- the (rule id, `when` bindings) view of the rule nodes of a work tree -/
def Tree.fired (t : Tree) : List (String × List Bs) := t.rules.map (fun n => (n.id, n.bss))

/-- the (rule id, `when` bindings) view of a dispatch -/
def firedOf (disp : List (String × RuleM × List Bs)) : List (String × List Bs) := disp.map (fun d => (d.1, d.2.2))

/-! ## an `event` op on one location (no parents): the steps of the `event` case of `Driver/Loc.lean` -/

/-- `RuleEnabled` is asked for every candidate; an answer "disabled location" counts as not enabled, any other
error as enabled (the rule of the driver's `event` case, which asks through `sys.at`) -/
def locEnabledFlags (c : Ctx) (now : Int) : List (String × RuleM) → Loc → Loc × List (String × RuleM × Bool)
  | [], l => (l, [])
  | (id, r) :: rest, l =>
    match locRuleEnabled c id now l with
    | (l1, res) =>
      let en := match res with | .ok b => b | .error "disabled" => false | .error _ => true
      match locEnabledFlags c now rest l1 with
      | (l2, out) => (l2, (id, r, en) :: out)

/-- rule search, enabled flags, `processEvent` -/
def locProcessEvent (srch : Srch) (c : Ctx) (ev : Obj) (now : Int) (l : Loc) : Loc × Tree :=
  match locSearchRules c ev now l with
  | (l1, .error e) => (l1, { err := some e, rules := [], values := [], aborted := true })
  | (l1, .ok cands) =>
    match locEnabledFlags c now cands l1 with
    | (l2, withEn) => (l2, processEvent srch l.name ev withEn)

/-! ## histories of Location operations -/

/-- the operations of the lifecycle property: add / replace a rule, remove it, disable / enable it, overwrite
its id with a fact (or add any fact), clear the location; plus the reads that may purge expired facts -/
inductive LocOp where
  | addRule (c : Ctx) (id : String) (rule : Obj) (now : Int)
  | remRule (c : Ctx) (id : String) (now : Int)
  | enableRule (c : Ctx) (id : String) (enable : Bool) (now : Int)
  | addFact (c : Ctx) (id : String) (fact : Obj) (now : Int)
  | remFact (c : Ctx) (id : String) (now : Int)
  | getFact (c : Ctx) (id : String) (now : Int)
  | searchFacts (c : Ctx) (p : Obj) (now : Int)
  | searchRules (c : Ctx) (ev : Obj) (now : Int)
  | clear (c : Ctx) (now : Int)

/-- one operation (its answer is dropped; a refused or failed operation leaves whatever state it reached) -/
def LocOp.step (l : Loc) : LocOp → Loc
  | .addRule c id rule now => (locAddRule c id rule now l).1
  | .remRule c id now => (locRemRule c id now l).1
  | .enableRule c id en now => (locEnableRule c id en now l).1
  | .addFact c id fact now => (locAddFact c id fact now l).1
  | .remFact c id now => (locRemFact c id now l).1
  | .getFact c id now => (locGetFact c id now l).1
  | .searchFacts c p now => (locSearchFacts c p now l).1
  | .searchRules c ev now => (locSearchRules c ev now l).1
  | .clear c now => (locClear c now l).1

/-- run a history -/
def Loc.run (l : Loc) (ops : List LocOp) : Loc := ops.foldl LocOp.step l

/-- a fresh location of the given kind -/
def Loc.fresh (name : String) (k : Kind) : Loc := { name := name, st := { kind := k } }
