/-! # C15 — the coupling between location state and the cron registry (cron/corehooks.go)

An abstract machine over *hook-level events*. A location's state is seen as a finite map
`(location, id) ↦ AItem`, where an item keeps exactly what the hooks and the `trigger!` path look at:
the rule's `schedule` (`""` = none: plain fact, property, `when` rule) and how a `{"trigger!": id}` event
evaluates the stored item. The registry is the cron service's job table.

What is modelled is the code that exists:

* `AddHooks`' add hook: called by every top-level `State.Add` (and by `State.Load`, with `loading`);
  `schedule ≠ ""` ⇒ `ScheduleEvent{id, schedule}` in `ctx.Location()`; skipped while loading iff the cron
  is persistent. A registration **replaces** the job with the same key.
* the key of a job: the built-in `cron.Cron` keys by **id only** (`Cron.schedule` removes the job with the
  same id first; `Cron.Rem(id)`); crolt keys by (account = location, id). `CronCfg.byLoc` selects.
* the rem hook: called only by top-level `State.Rem`; it does `state.Get(id)` first (absent ⇒ the error
  aborts the `Rem`), and calls `Cronner.Rem(id)` iff the stored fact is a rule with a schedule.
* nothing calls a hook when a fact disappears by a `deleteWith` cascade or by expiry (`rem`, lower case).
* `Clear` runs the rem hook for every id, in `IndexedState` and in `LinearState`.
* `Load` goes through `add` (hooks, `loading = true`), in both states.
* a tick: the cron pops the job, runs `ProcessEvent({"trigger!": id})` in the registered location —
  `GetRule(id)`, `RuleEnabled(id)`, the `when` test, condition and actions, then `RuleDone` removes the rule
  (through top-level `RemRule`, hooks included) iff the *stored* rule's schedule is one-shot — and re-inserts
  the job iff the *registered* schedule is recurring.

Everything is a small total function on lists; all of it reduces in the kernel (`decide`). -/

/-! ## finite maps as association lists (first match wins; `aSet` puts the binding in front) -/

section AList
variable {κ α : Type} [DecidableEq κ]

def aGet (m : List (κ × α)) (k : κ) : Option α :=
  match m with
  | [] => none
  | (k', v) :: r => if k = k' then some v else aGet r k

def aErase (m : List (κ × α)) (k : κ) : List (κ × α) := m.filter (fun p => decide (p.1 ≠ k))

def aSet (m : List (κ × α)) (k : κ) (v : α) : List (κ × α) := (k, v) :: aErase m k

end AList

/-! ## cron side -/

structure CronCfg where
  /-- `Cronner.Persistent()` -/
  persistent : Bool
  /-- jobs keyed by (location, id) (crolt: account + id) instead of id only (the built-in cron) -/
  byLoc : Bool
deriving DecidableEq, Repr

abbrev RegKey := Option String × String

structure RegEntry where
  sched : String
  /-- the location whose add hook made the registration (`ctx.Location()` captured by the job) -/
  loc : String
deriving DecidableEq, Repr

abbrev Reg := List (RegKey × RegEntry)

def keyOf (cfg : CronCfg) (loc id : String) : RegKey := if cfg.byLoc then (some loc, id) else (none, id)

/-- `core.OneShotSchedule`: the schedule starts with '+' or '!' -/
def oneShot (s : String) : Bool :=
  match s.toList with
  | c :: _ => c == '+' || c == '!'
  | [] => false

/-! ## state side -/

/-- what `FindRules.Do` makes of `{"trigger!": id}` when `id` is stored -/
inductive Trig where
  | notRule   -- `GetRule`/`RuleFromMap` fails: no rule body, not a valid rule
  | noMatch   -- a rule with a `when` pattern that does not match the trigger event: nothing is evaluated
  | runs      -- evaluated: a scheduled rule (no `when`), or a `when` rule whose pattern matches the trigger event
deriving DecidableEq, Repr

structure AItem where
  /-- `getSchedule(fact)`: `""` unless the fact is a rule with a `schedule` -/
  sched : String
  trig : Trig
deriving DecidableEq, Repr

inductive SKind where | indexed | linear
deriving DecidableEq, Repr

abbrev Items := List ((String × String) × AItem)

structure ASys where
  kind : SKind
  cfg : CronCfg
  items : Items := []
  reg : Reg := []
deriving DecidableEq, Repr

def ASys.init (kind : SKind) (cfg : CronCfg) : ASys := { kind := kind, cfg := cfg }

/-- the items of one location -/
def itemsOf (its : Items) (loc : String) : Items := its.filter (fun p => decide (p.1.1 = loc))
def itemsNotOf (its : Items) (loc : String) : Items := its.filter (fun p => decide (p.1.1 ≠ loc))

/-! ## the hooks -/

/-- the add hook -/
def hookAdd (a : ASys) (loc id : String) (it : AItem) (loading : Bool) : Reg :=
  if a.cfg.persistent && loading then a.reg
  else if it.sched = "" then a.reg
  else aSet a.reg (keyOf a.cfg loc id) ⟨it.sched, loc⟩

/-- the rem hook: `Get`, then `Cronner.Rem(id)` iff the stored fact has a schedule -/
def hookRem (a : ASys) (loc id : String) : Reg :=
  match aGet a.items (loc, id) with
  | some it => if it.sched = "" then a.reg else aErase a.reg (keyOf a.cfg loc id)
  | none => a.reg

/-! ## events -/

/-- a top-level `State.Add` that succeeded (the hook runs before the fact is stored) -/
def evAdd (a : ASys) (loc id : String) (it : AItem) (loading : Bool) : ASys :=
  { a with reg := hookAdd a loc id it loading, items := aSet a.items (loc, id) it }

/-- a top-level `State.Rem` of a stored, live id (an absent id makes the hook fail and aborts the `Rem`) -/
def evRemTop (a : ASys) (loc id : String) : ASys :=
  match aGet a.items (loc, id) with
  | none => a
  | some _ => { a with reg := hookRem a loc id, items := aErase a.items (loc, id) }

/-- facts that disappear as a side effect — a `deleteWith` cascade or expiry: lower-case `rem`, no hook -/
def evDrop (a : ASys) (loc : String) (ids : List String) : ASys :=
  { a with items := a.items.filter (fun p => !(decide (p.1.1 = loc) && ids.contains p.1.2)) }

/-- does `loc` store a rule with a schedule under `id`? (what the rem hook finds out with `Get` + `getSchedule`) -/
def schedAt (a : ASys) (loc id : String) : Bool :=
  match aGet a.items (loc, id) with
  | some it => it.sched != ""
  | none => false

/-- `State.Clear`. Both states run the rem hook for every stored id — `Cronner.Rem(id)` for every stored
scheduled rule, i.e. the registry loses exactly the keys of this location's scheduled rules —, then empty the
state (`LinearState.Clear` only emptied the state until the repair of finding C15-linear-clear). -/
def evClear (a : ASys) (loc : String) : ASys :=
  { a with
    reg := a.reg.filter (fun p => !(decide (p.1 = keyOf a.cfg loc p.1.2) && schedAt a loc p.1.2)),
    items := itemsNotOf a.items loc }

/-- a location re-created from its stored documents (`NewLocation` → `State.Load`): both states hand every
loaded document to the add hook with `loading = true` (`LinearState.Load` called no hook until the repair of finding
C15-linear-load) -/
def evLoad (a : ASys) (loc : String) (docs : List (String × AItem)) : ASys :=
  docs.foldl (fun a d => evAdd a loc d.1 d.2 true) { a with items := itemsNotOf a.items loc }

/-- the process restarts: an ephemeral cron has lost its jobs -/
def evCronReset (a : ASys) : ASys := if a.cfg.persistent then a else { a with reg := [] }

/-- the stored item that a `trigger!` event for `id` in `loc` evaluates, if any -/
def runsNow (a : ASys) (loc id : String) (enabled : Bool) : Option AItem :=
  match aGet a.items (loc, id) with
  | some it => if it.trig = .runs && enabled then some it else none
  | none => none

structure TickOut where
  /-- the key had a job -/
  fired : Bool
  /-- (location, id) of the rule whose condition and actions were evaluated -/
  ran : Option (String × String)
deriving DecidableEq, Repr

/-- the cron fires the job `key`. `enabled` = `RuleEnabled`'s answer, `completes` = the evaluation was not cut
short by a failing condition / serial action (both are inputs: universally quantified in the theorems). -/
def evTick (a : ASys) (key : RegKey) (enabled completes : Bool) : ASys × TickOut :=
  match aGet a.reg key with
  | none => (a, ⟨false, none⟩)
  | some e =>
    let a1 : ASys := { a with reg := aErase a.reg key }            -- `Cron.start` pops the job
    let r : ASys × Option (String × String) :=
      match runsNow a1 e.loc key.2 enabled with
      | some it =>
        -- `RuleDone`: a one-shot *rule* is removed through top-level `RemRule`
        (if completes && oneShot it.sched then evRemTop a1 e.loc key.2 else a1, some (e.loc, key.2))
      | none => (a1, none)
    -- `Cron.run`: a recurring *job* is re-scheduled when `Fn` returns
    let a3 : ASys := if oneShot e.sched then r.1 else { r.1 with reg := aSet r.1.reg key e }
    (a3, ⟨true, r.2⟩)

inductive AEv where
  | add (loc id : String) (it : AItem)
  | remTop (loc id : String)
  | drop (loc : String) (ids : List String)
  | clear (loc : String)
  | load (loc : String) (docs : List (String × AItem))
  | cronReset
  | tick (key : RegKey) (enabled completes : Bool)
deriving DecidableEq, Repr

def step (a : ASys) : AEv → ASys
  | .add loc id it => evAdd a loc id it false
  | .remTop loc id => evRemTop a loc id
  | .drop loc ids => evDrop a loc ids
  | .clear loc => evClear a loc
  | .load loc docs => evLoad a loc docs
  | .cronReset => evCronReset a
  | .tick key en co => (evTick a key en co).1

def run (a : ASys) (evs : List AEv) : ASys := evs.foldl step a

/-! ## the specification: "registered exactly while it exists" -/

/-- `e` is what should be registered under `k`: some location stores a scheduled rule whose key is `k` -/
def Stored (a : ASys) (k : RegKey) (e : RegEntry) : Prop :=
  ∃ loc it, aGet a.items (loc, k.2) = some it ∧ it.sched ≠ "" ∧ e = ⟨it.sched, loc⟩ ∧ k = keyOf a.cfg loc k.2

/-- the registry is exactly the set of stored scheduled rules -/
def RegOK (a : ASys) : Prop := ∀ k e, aGet a.reg k = some e ↔ Stored a k e

/-- executable twin of `RegOK` (used by the driver): the registry and the stored scheduled rules, as sorted-free
lists to be compared as sets by the caller -/
def storedList (a : ASys) : List (RegKey × RegEntry) :=
  (a.items.filter (fun p => decide (p.2.sched ≠ ""))).map (fun p => (keyOf a.cfg p.1.1 p.1.2, ⟨p.2.sched, p.1.1⟩))

/-- scheduled-rule ids are not shared between locations (only matters for the id-keyed cron) -/
def Uniq (a : ASys) : Prop :=
  a.cfg.byLoc = false → ∀ l l' id it it', aGet a.items (l, id) = some it → it.sched ≠ "" →
    aGet a.items (l', id) = some it' → it'.sched ≠ "" → l = l'

/-- the hook-visible fragment: the event, executed in `a`, changes the set of stored scheduled rules only
through a hook that sees the change -/
def Plain (a : ASys) : AEv → Bool
  | .add loc id it =>
    -- not an overwrite of a scheduled rule by something without a schedule …
    (it.sched != "" || (match aGet a.items (loc, id) with | some old => old.sched == "" | none => true)) &&
    -- … and (id-keyed cron) no other location stores a scheduled rule with this id
    (a.cfg.byLoc || it.sched == "" ||
      a.items.all (fun p => p.1.2 != id || p.1.1 == loc || p.2.sched == ""))
  | .remTop _ _ => true
  | .drop loc ids =>
    -- side-effect deletions (cascade, expiry) touch no scheduled rule
    (itemsOf a.items loc).all (fun p => !ids.contains p.1.2 || p.2.sched == "")
  | .clear _ => true
  | .load _ _ => false
  | .cronReset => a.cfg.persistent
  | .tick key en co =>
    match aGet a.reg key with
    | none => true
    | some e =>
      -- a one-shot job is consumed by the cron: the rule must be consumed as well
      !oneShot e.sched ||
        (match runsNow a e.loc key.2 en with | some it => co && oneShot it.sched | none => false)

def PlainRun (a : ASys) : List AEv → Bool
  | [] => true
  | e :: es => Plain a e && PlainRun (step a e) es

/-- no event of the list can register `key` -/
def NoRegister (cfg : CronCfg) (key : RegKey) : List AEv → Bool
  | [] => true
  | .add loc id it :: es => (it.sched == "" || keyOf cfg loc id != key) && NoRegister cfg key es
  | .load _ _ :: _ => false
  | _ :: es => NoRegister cfg key es

/-- no event of the list stores `(loc, id)` -/
def NoStore (loc id : String) : List AEv → Bool
  | [] => true
  | .add l i _ :: es => !(l == loc && i == id) && NoStore loc id es
  | .load l _ :: es => l != loc && NoStore loc id es
  | _ :: es => NoStore loc id es
