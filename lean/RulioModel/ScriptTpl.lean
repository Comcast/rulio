import RulioModel.Json
import RulioModel.Watchdog

/-!
# C14 — what a script sees and returns: a closed family of script templates

otto (the JavaScript interpreter) is trusted base. The model evaluates only the closed template family below
itself, so that the correspondence run can compare "the value of the last expression is the result" and "the
script sees exactly its bindings as variables" on generated programs. Anything outside the family is reported
as `unsupported` and never compared.

Also here: `Bindings.StripQuestionMarks` (`core/query.go`) and the way `CodeQuery.Exec` turns the value of a
condition script into bindings (`condBindings`). How `EvalRuleCondition.Do` / `ExecRuleAction.Do` turn the call's
result into the node's disposition is `Watchdog.nodeComplete` (`RulioModel/Watchdog.lean`).
-/

namespace ScriptTpl

/-! ## bindings → JavaScript variables -/

/-- `StripQuestionMarks`: the empty name is dropped, one leading `?` is removed, other names are kept -/
def stripKey (k : String) : Option String :=
  match k.toList with
  | [] => none
  | '?' :: r => some (String.ofList r)
  | _ => some k

def stripQ (bs : Bs) : Bs :=
  bs.filterMap (fun kv => (stripKey kv.1).map (fun k => (k, kv.2)))

/-- two bindings end up under one name (`?x` and `x`): Go's map iteration order decides which one wins -/
def stripCollides (bs : Bs) : Bool :=
  let names := (stripQ bs).map (·.1)
  names.length != names.eraseDups.length

/-! ## expressions -/

inductive Op | add | sub | mul | lt | le | gt | ge | eq | ne | and | or
deriving Repr, DecidableEq

inductive Ex
  | num (n : Int)
  | str (s : String)
  | bool (b : Bool)
  | null
  | var (name : String)
  | typeOf (name : String)            -- `typeof name` (never throws)
  | bin (op : Op) (a b : Ex)
  | not (a : Ex)
  | obj (kvs : List (String × Ex))    -- `({k: e, …})`
  | arr (xs : List Ex)
deriving Repr

inductive EvalErr
  | reference (name : String)   -- ReferenceError: name is not defined  (a JavaScript exception)
  | unsupported                 -- outside the template semantics: not compared
deriving Repr

def typeName : J → String
  | .null => "object"
  | .bool _ => "boolean"
  | .num _ => "number"
  | .str _ => "string"
  | .arr _ => "object"
  | .obj _ => "object"

/-- JavaScript `ToString` on the scalars the templates concatenate -/
def jsToString : J → Option String
  | .null => some "null"
  | .bool b => some (if b then "true" else "false")
  | .num n => some (toString n)
  | .str s => some s
  | _ => none

/-- numbers stay exactly representable as float64 -/
def inRange (n : Int) : Bool := decide (-9007199254740992 < n) && decide (n < 9007199254740992)

def evalBin (op : Op) (a b : J) : Except EvalErr J :=
  match op, a, b with
  | .add, .num x, .num y => if inRange (x + y) then .ok (.num (x + y)) else .error .unsupported
  | .sub, .num x, .num y => if inRange (x - y) then .ok (.num (x - y)) else .error .unsupported
  | .mul, .num x, .num y => if inRange (x * y) then .ok (.num (x * y)) else .error .unsupported
  | .add, .str x, y => match jsToString y with | some s => .ok (.str (x ++ s)) | none => .error .unsupported
  | .add, x, .str y => match jsToString x with | some s => .ok (.str (s ++ y)) | none => .error .unsupported
  | .lt, .num x, .num y => .ok (.bool (decide (x < y)))
  | .le, .num x, .num y => .ok (.bool (decide (x ≤ y)))
  | .gt, .num x, .num y => .ok (.bool (decide (x > y)))
  | .ge, .num x, .num y => .ok (.bool (decide (x ≥ y)))
  | .eq, .num x, .num y => .ok (.bool (x == y))
  | .ne, .num x, .num y => .ok (.bool (x != y))
  | .eq, .str x, .str y => .ok (.bool (x == y))
  | .ne, .str x, .str y => .ok (.bool (x != y))
  | .eq, .bool x, .bool y => .ok (.bool (x == y))
  | .ne, .bool x, .bool y => .ok (.bool (x != y))
  | .and, .bool x, .bool y => .ok (.bool (x && y))    -- both operands are evaluated first: see `eval`
  | .or, .bool x, .bool y => .ok (.bool (x || y))
  | _, _, _ => .error .unsupported

/-- the expression is a variable whose binding is Go nil: declared, value `undefined` -/
def isUndefVar (env : Bs) : Ex → Bool
  | .var x => (match lookupKey x env with | some .null => true | _ => false)
  | _ => false

mutual
/-- evaluation in an environment of visible variables; left to right, as JavaScript does -/
def eval (env : Bs) : Ex → Except EvalErr J
  | .num n => if inRange n then .ok (.num n) else .error .unsupported
  | .str s => .ok (.str s)
  | .bool b => .ok (.bool b)
  | .null => .ok .null
  -- a binding whose value is Go nil (JSON null) is set with `runtime.Set(k, nil)`: the variable exists and is
  -- `undefined`, a value outside this family
  | .var x => match lookupKey x env with
    | some .null => .error .unsupported
    | some v => .ok v
    | none => .error (.reference x)
  | .typeOf x => match lookupKey x env with
    | some .null => .ok (.str "undefined")
    | some v => .ok (.str (typeName v))
    | none => .ok (.str "undefined")
  | .bin op a b =>
    -- strict (in)equality with a variable bound to Go nil: the variable is declared and `undefined`; `undefined === v` is
    -- false and `undefined !== v` true for every value `v` of this family (both undefined: true / false)
    if (op == .eq || op == .ne) && (isUndefVar env a || isUndefVar env b) then
      if isUndefVar env a && isUndefVar env b then .ok (.bool (op == .eq))
      else if isUndefVar env a then
        match eval env b with
        | .error e => .error e
        | .ok _ => .ok (.bool (op == .ne))
      else
        match eval env a with
        | .error e => .error e
        | .ok _ => .ok (.bool (op == .ne))
    else
    match eval env a with
    | .error e => .error e
    | .ok va =>
      -- `&&` / `||` short-circuit: the right operand is evaluated only when needed
      match op, va with
      | .and, .bool false => .ok (.bool false)
      | .or, .bool true => .ok (.bool true)
      | _, _ =>
        match eval env b with
        | .error e => .error e
        | .ok vb => evalBin op va vb
  | .not a =>
    match eval env a with
    | .ok (.bool b) => .ok (.bool !b)
    | .ok _ => .error .unsupported
    | .error e => .error e
  | .obj kvs => match evalKvs env kvs with | .ok r => .ok (.obj r) | .error e => .error e
  | .arr xs => match evalList env xs with | .ok r => .ok (.arr r) | .error e => .error e
def evalKvs (env : Bs) : List (String × Ex) → Except EvalErr (List (String × J))
  | [] => .ok []
  | (k, e) :: r =>
    match eval env e with
    | .error er => .error er
    | .ok v => match evalKvs env r with
      | .error er => .error er
      -- a repeated key keeps its first position and takes its last value
      | .ok vs => .ok ((k, (lookupKey k vs).getD v) :: vs.filter (fun p => p.1 != k))
def evalList (env : Bs) : List Ex → Except EvalErr (List J)
  | [] => .ok []
  | e :: r =>
    match eval env e with
    | .error er => .error er
    | .ok v => match evalList env r with
      | .error er => .error er
      | .ok vs => .ok (v :: vs)
end

/-! ## scripts -/

inductive Tpl
  | exprs (pre : List Ex) (last : Ex)      -- `e1; e2; …; last`  → the value of the last expression
  | echo                                   -- `JSON.stringify(Env.bindings)` (compared after parsing)
  | throwE (e : Ex)                        -- `throw e`
  | syntaxErr                              -- any text that does not parse
  | loop                                   -- `while(true){…}`
  | busy (n : Nat) (last : Ex)             -- `var s=0; for(var i=0;i<n;i++){s=s+i}; [s, last]`
  | sleepThen (ms : Nat) (last : Ex)       -- `Env.sleep(ms*1e6); last`
  | sleepLast (ms : Nat)                   -- `Env.sleep(ms*1e6)`  (the native call is the last expression)
deriving Repr

/-- the script's own behaviour, as a `Watchdog.Script` over `J`, or `none` when the value is outside the
template semantics. `echo` yields the object of visible bindings (the real script yields its JSON text). -/
def behaviour (env : Bs) : Tpl → Option (Watchdog.Script J)
  | .exprs pre last =>
    match evalList env (pre ++ [last]) with
    | .ok vs => some (.value (pre.length + 1) (vs.getLast?.getD .null))
    | .error (.reference _) => some (.throws (pre.length + 1))
    | .error .unsupported => none
  -- a nil-valued binding is `undefined` in `Env.bindings`: JSON.stringify leaves it out
  | .echo => some (.value 1 (.obj (env.filter (fun kv => match kv.2 with | .null => false | _ => true))))
  | .throwE e =>
    match eval env e with
    | .ok _ => some (.throws 1)
    | .error (.reference _) => some (.throws 1)
    | .error .unsupported => none
  | .syntaxErr => some .syntaxError
  | .loop => some .loops
  | .busy n last =>
    match eval env last with
    | .ok v => some (.value (2 * n + 3) (.arr [.num ((n * (n - 1) / 2 : Nat) : Int), v]))
    | .error (.reference _) => some (.throws (2 * n + 3))
    | .error .unsupported => none
  | .sleepThen _ last =>
    match eval env last with
    | .ok v => some (.value 2 v)
    | .error (.reference _) => some (.throws 2)
    | .error .unsupported => none
  | .sleepLast ms => some (.value 1 (.num ((ms * 1000000 : Nat) : Int)))

/-! ## the callers -/

/-- `CodeQuery.Exec`: what the value of a condition script does to the bindings it was run with.
`true` keeps them, `false`/`null`/`undefined` drops them, an object extends them (`?`+key), anything else
keeps them. -/
def condBindings (bs : Bs) : Option J → List Bs
  | none => []
  | some .null => []
  | some (.bool true) => [bs]
  | some (.bool false) => []
  | some (.obj kvs) => [kvs.foldl (fun acc kv => acc.filter (fun p => p.1 != "?" ++ kv.1) ++ [("?" ++ kv.1, kv.2)]) bs]
  | some _ => [bs]

end ScriptTpl
