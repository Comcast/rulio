import RulioProofs.CronHooks
import RulioProofs.CronHooksLoc

/-! # C15 — scheduled rules run when due, per location, and never after removal

The theorems are about the hook-level machine of `RulioModel/CronHooks.lean`: histories are lists of events
(`add`, `remTop`, `drop` = cascade/expiry, `clear`, `load`, `cronReset`, `tick`) over several locations; the
configuration says whether the cron keys jobs by id (built-in `cron.Cron`) or by (location, id) (crolt) and
whether it is persistent; `SKind` records Indexed/LinearState, which no event reads (both states call the same
hooks). `enabled`/`completes` of a tick are inputs.
`RegOK a` = "the registry is exactly the set of stored scheduled rules". -/

/-! ## "registered exactly while it exists" -/

/-- **The invariant is inductive.** From any state in which the registry is exact and scheduled ids are not shared,
every hook-visible history (`PlainRun`, described below) leads to such a state again: the invariant can be
re-established, e.g. after a restart, and continues to hold. -/
theorem registered_iff_exists_from (a : ASys) (evs : List AEv) (h : RegOK a) (hu : Uniq a)
    (hp : PlainRun a evs = true) : RegOK (run a evs) ∧ Uniq (run a evs) := by
  refine (ASys.run_inv (P := fun b es => PlainRun b es = true ∧ RegOK b ∧ Uniq b) ?_ ⟨hp, h, hu⟩).2
  intro b ev es ⟨hp, h, hu⟩
  rw [PlainRun, Bool.and_eq_true] at hp
  exact ⟨hp.2, plain_step_preserves h hu hp.1⟩

/-- **Partial.** Full statement (false on the code, see the negative theorems below): *after every step of every
history the registry equals the set of stored scheduled rules*. Proved: after every step (every prefix) of a
history all of whose events are hook-visible (`PlainRun`: top-level adds and removes of rules and facts, ticks that
consume a one-shot together with its rule, Clear with either State, cascades/expirations that touch
no scheduled rule, no overwrite of a scheduled rule by an unscheduled item, rule ids not shared between locations
when the cron keys by id, no reload), starting from the empty system. What is missing is exactly what the code
gets wrong. -/
theorem registered_iff_exists_partial (kind : SKind) (cfg : CronCfg) (evs : List AEv)
    (hp : PlainRun (ASys.init kind cfg) evs = true) (n : Nat) :
    RegOK (run (ASys.init kind cfg) (evs.take n)) :=
  (registered_iff_exists_from _ _ (regOK_init kind cfg) (uniq_init kind cfg) (plainRun_take n hp)).1

/-! ## "once removed, ticks no longer run it" — all histories -/

/-- For **every** state (hence after every history, stale registrations included) and every later history that
does not store `(loc, id)` again: no tick of any job evaluates `(loc, id)`. -/
theorem removed_never_runs (a : ASys) (loc id : String) (evs : List AEv) (key : RegKey) (en co : Bool)
    (habs : aGet a.items (loc, id) = none) (hn : NoStore loc id evs = true) :
    (evTick (run a evs) key en co).2.ran ≠ some (loc, id) := by
  intro h
  obtain ⟨_, it, _, _, hit, _, _⟩ := evTick_ran_iff.mp h
  rw [(ASys.run_inv (P := fun b es => NoStore loc id es = true ∧ aGet b.items (loc, id) = none)
    (fun _ _ _ hb => absent_step hb.1 hb.2) ⟨hn, habs⟩).2] at hit
  cases hit

/-- a top-level remove makes the item absent (whatever the registry looks like) -/
theorem absent_after_remove (a : ASys) (loc id : String) : aGet (evRemTop a loc id).items (loc, id) = none := by
  rw [evRemTop_items, if_pos rfl]

/-- so does a cascade / an expiration that takes the item away … -/
theorem absent_after_drop (a : ASys) (loc id : String) (ids : List String) (h : id ∈ ids) :
    aGet (evDrop a loc ids).items (loc, id) = none := by
  rw [evDrop_items, if_pos ⟨rfl, h⟩]

/-- … and clearing its location, with either State -/
theorem absent_after_clear (a : ASys) (loc id : String) : aGet (evClear a loc).items (loc, id) = none := by
  rw [evClear_items, if_pos rfl]

/-- a tick evaluates nothing unless the stored item is a rule that the trigger event dispatches and that is
enabled; in particular a scheduled rule replaced by a plain fact (`notRule`) or by a `when` rule that does not
match `{"trigger!": id}` (`noMatch`) is not run by the stale job -/
theorem replaced_never_runs (a : ASys) (key : RegKey) (en co : Bool)
    (h : ∀ e it, aGet a.reg key = some e → aGet a.items (e.loc, key.2) = some it → it.trig ≠ .runs) :
    (evTick a key en co).2.ran = none ∧ (evTick a key en co).1.items = a.items := by
  have hran : (evTick a key en co).2.ran = none := by
    cases hran : (evTick a key en co).2.ran with
    | none => rfl
    | some x =>
      obtain ⟨e, it, hreg, hx, hit, hr, _⟩ := evTick_ran_iff.mp hran
      exact absurd hr (h e it hreg (hx ▸ hit))
  refine ⟨hran, ?_⟩
  cases hget : aGet a.reg key with
  | none => rw [evTick_none hget]
  | some e =>
    -- nothing was evaluated, so `RuleDone` removed nothing
    rw [evTick_items_eq hget, if_neg]
    intro hd
    obtain ⟨it, hr, -⟩ := ruleDone_iff.mp hd
    rw [evTick_some hget] at hran
    simp [hr] at hran

/-! ## "each due tick evaluates that rule in its own location" -/

/-- whatever a tick evaluates is the item stored under the job's id in the location that the job recorded, it is
dispatchable and enabled; no other item of any location changes -/
theorem tick_runs_rule_in_its_location (a : ASys) (key : RegKey) (en co : Bool) (l i : String)
    (h : (evTick a key en co).2.ran = some (l, i)) :
    (∃ e it, aGet a.reg key = some e ∧ e.loc = l ∧ i = key.2 ∧ aGet a.items (l, i) = some it ∧
      it.trig = .runs ∧ en = true) ∧
    (∀ x, x ≠ (l, i) → aGet (evTick a key en co).1.items x = aGet a.items x) := by
  obtain ⟨e, it, hreg, hx, hit, hr, hen⟩ := evTick_ran_iff.mp h
  have h1 : l = e.loc := congrArg Prod.fst hx
  have h2 : i = key.2 := congrArg Prod.snd hx
  refine ⟨⟨e, it, hreg, h1.symm, h2, hit, hr, hen⟩, ?_⟩
  intro x hne
  rw [evTick_items_eq hreg]
  split
  · rw [evRemTop_items, if_neg (hx ▸ hne)]
  · rfl

/-- a due tick of a registered job whose rule is stored, dispatchable and enabled does evaluate it -/
theorem due_tick_runs_registered_rule (a : ASys) (key : RegKey) (co : Bool) (e : RegEntry) (it : AItem)
    (hreg : aGet a.reg key = some e) (hit : aGet a.items (e.loc, key.2) = some it) (hr : it.trig = .runs) :
    (evTick a key true co).2.ran = some (e.loc, key.2) :=
  evTick_ran_iff.mpr ⟨e, it, hreg, rfl, hit, hr, rfl⟩

/-- in every history (no restriction) a job remembers the location whose add hook registered it, and its key is
the key of that location: with a cron keyed by (location, id) a job of location `l` can only run in `l` -/
theorem job_runs_where_it_was_registered (kind : SKind) (cfg : CronCfg) (evs : List AEv) (k : RegKey) (e : RegEntry)
    (h : aGet (run (ASys.init kind cfg) evs).reg k = some e) : k = keyOf cfg e.loc k.2 := by
  have := ASys.run_inv (P := fun b _ => RegSound b) (fun _ ev _ hb => regSound_step ev hb) (regSound_init kind cfg) k e h
  rw [run_cfg] at this
  exact this

/-! ## "a one-shot schedule runs at most once, after which the rule is deleted" -/

/-- once a one-shot job has fired, no later tick of its key fires again until some add hook registers the key
again (`NoRegister`: the later history contains no add of a scheduled item with that key and no reload) -/
theorem oneshot_at_most_once (a : ASys) (key : RegKey) (e : RegEntry) (en co en' co' : Bool) (evs : List AEv)
    (hreg : aGet a.reg key = some e) (ho : oneShot e.sched = true)
    (hn : NoRegister a.cfg key evs = true) :
    (evTick (run (evTick a key en co).1 evs) key en' co').2.fired = false := by
  rw [evTick_fired_iff]
  have h1 : aGet (evTick a key en co).1.reg key = none := by simp [evTick_reg hreg, ho]
  have h2 := ASys.run_inv (P := fun b es => NoRegister b.cfg key es = true ∧ aGet b.reg key = none)
    (fun _ _ _ hb => unregistered_step hb.1 hb.2) (evs := evs) ⟨by rw [evTick_cfg]; exact hn, h1⟩
  rw [h2.2]; rfl

/-- when the evaluation of a one-shot rule completes, the rule is deleted (by `RuleDone`, through the hooks) -/
theorem oneshot_rule_deleted_after_run (a : ASys) (key : RegKey) (en : Bool) (x : String × String) (it : AItem)
    (hran : (evTick a key en true).2.ran = some x) (hit : aGet a.items x = some it) (ho : oneShot it.sched = true) :
    aGet (evTick a key en true).1.items x = none := by
  obtain ⟨e, it', hreg, rfl, hit', hr, hen⟩ := evTick_ran_iff.mp hran
  cases hit.symm.trans hit'
  have hd : ruleDone a e key en true = true :=
    ruleDone_iff.mpr ⟨it, runsNow_eq_some.mpr ⟨hit, hr, hen⟩, rfl, ho⟩
  rw [evTick_items_eq hreg, if_pos hd, evRemTop_items, if_pos rfl]

/-! ## "with a non-persistent cron a reloaded location registers its scheduled rules again" -/

/-- ephemeral cron, either State: after a location is loaded, every scheduled rule it holds is registered under
its key, in that location (whatever the registry contained before, e.g. nothing after a restart). For LinearState this is
finding C15-linear-load: its `Load` calls the add hook. -/
theorem ephemeral_reregisters_on_load (a : ASys) (loc : String) (docs : List (String × AItem))
    (hp : a.cfg.persistent = false) (id : String) (it : AItem)
    (hit : aGet (evLoad a loc docs).items (loc, id) = some it) (hs : it.sched ≠ "") :
    aGet (evLoad a loc docs).reg (keyOf a.cfg loc id) = some ⟨it.sched, loc⟩ := by
  -- invariant of the loading adds: every scheduled rule stored in `loc` has its job
  refine (evLoad_inv (P := fun b => b.cfg = a.cfg ∧ ∀ id it, aGet b.items (loc, id) = some it → it.sched ≠ "" →
    aGet b.reg (keyOf a.cfg loc id) = some ⟨it.sched, loc⟩) a loc docs ⟨rfl, ?_⟩ ?_).2 id it hit hs
  · intro id it h1
    simp [itemsNotOf_get] at h1
  · intro b i' it' ⟨hc, hb⟩
    refine ⟨hc, fun id it hi hs => ?_⟩
    show aGet (hookAdd b loc i' it' true) _ = _
    rw [evAdd_items] at hi
    rw [hookAdd_get, hc, hp]
    split at hi
    · next heq => cases heq; cases hi; rw [if_pos ⟨rfl, hs, rfl⟩]
    · next hne =>
      rw [if_neg, hb id it hi hs]
      rintro ⟨-, -, hk⟩
      exact hne (by rw [← keyOf_snd a.cfg loc id, hk, keyOf_snd])

/-- a persistent cron is not touched when a location loads -/
theorem persistent_load_keeps_registry (a : ASys) (loc : String) (docs : List (String × AItem))
    (hp : a.cfg.persistent = true) : (evLoad a loc docs).reg = a.reg := by
  refine (evLoad_inv (P := fun b => b.cfg = a.cfg ∧ b.reg = a.reg) a loc docs ⟨rfl, rfl⟩ ?_).2
  intro b id it ⟨hc, hb⟩
  exact ⟨hc, by simp [evAdd, hookAdd, hc, hp, hb]⟩

/-! ## the hooked `State.Add` of the Location-level model (`RulioModel/CronHooksLoc.lean`, the model the driver runs against the
real code): what the add hook does to location and registry -/

/-- **a refused add changes nothing.** When the state accepts the fact but the add hook refuses it (a `rule` that is no
map, a `schedule` that is no string), the add reports the hook's error and memory, storage, registry and the calls made
to the cron are what they were (only the id generator may have moved). -/
theorem refused_add_leaves_location_and_registry (cfg : CronCfg) (loading : Bool)
    (addFn : St → String → Obj → Int → St × Except LErr String) (given : String) (x : Obj) (now : Int) (h : HS)
    (s' : St) (id : String) (e : LErr)
    (hadd : addFn h.loc.st given x now = (s', .ok id))
    (hnot : (cfg.persistent && loading) = false)
    (hhook : getScheduleObj ((amGet s'.facts id).getD []) = .error e) :
    (addCore cfg loading addFn given x now h).2.1 = .error e ∧
    (addCore cfg loading addFn given x now h).1.loc.st.facts = h.loc.st.facts ∧
    (addCore cfg loading addFn given x now h).1.loc.st.store = h.loc.st.store ∧
    (addCore cfg loading addFn given x now h).1.reg = h.reg ∧
    (addCore cfg loading addFn given x now h).1.calls = h.calls := by
  simp [addCore, hadd, hnot, hhook]

/-- **an accepted scheduled rule is registered.** When the state accepts the fact and it is a rule with a non-empty
schedule, the add succeeds, the registry holds the job under the rule's key in this location, and exactly one
`ScheduleEvent` call was made (unless the cron is persistent and the location is loading). -/
theorem accepted_add_registers_schedule (cfg : CronCfg) (loading : Bool)
    (addFn : St → String → Obj → Int → St × Except LErr String) (given : String) (x : Obj) (now : Int) (h : HS)
    (s' : St) (id s : String)
    (hadd : addFn h.loc.st given x now = (s', .ok id))
    (hnot : (cfg.persistent && loading) = false)
    (hhook : getScheduleObj ((amGet s'.facts id).getD []) = .ok s) (hs : s ≠ "") :
    (addCore cfg loading addFn given x now h).2.1 = .ok id ∧
    aGet (addCore cfg loading addFn given x now h).1.reg (keyOf cfg h.loc.name id) = some ⟨s, h.loc.name⟩ ∧
    (addCore cfg loading addFn given x now h).1.calls = h.calls ++ [["schedule", h.loc.name, id, s]] := by
  simp [addCore, hadd, hnot, hhook, hs, aGet_aSet]

/-- **a top-level remove of a scheduled rule unregisters it.** When the rem hook's `Get` finds the fact and it is a rule
with a non-empty schedule, the registry loses the rule's key in this location and exactly one `Cronner.Rem` call is made. -/
theorem rem_unregisters_schedule (cfg : CronCfg) (quiet : Bool) (id : String) (now : Int) (h : HS)
    (s1 : St) (fact : Obj) (sched : String)
    (hget : h.loc.st.get id now = (s1, .ok fact)) (hs : getScheduleObj fact = .ok sched) (hne : sched ≠ "") :
    (hRemCore cfg quiet id now h).1.reg = aErase h.reg (keyOf cfg h.loc.name id) ∧
    (hRemCore cfg quiet id now h).1.calls = h.calls ++ [["rem", h.loc.name, id]] := by
  simp [hRemCore, hget, hs, hne]

/-- **a remove whose hook cannot get the fact is refused.** The error of the hook's `Get` (not found, expired) is the
remove's error; no call is made to the cron, the registry is what it was, and the state is what the `Get` left
(an expired fact is purged by it, nothing else). -/
theorem rem_of_missing_changes_no_registration (cfg : CronCfg) (quiet : Bool) (id : String) (now : Int) (h : HS)
    (s1 : St) (e : LErr)
    (hget : h.loc.st.get id now = (s1, .error e)) :
    (hRemCore cfg quiet id now h).2 = .error e ∧
    (hRemCore cfg quiet id now h).1.reg = h.reg ∧ (hRemCore cfg quiet id now h).1.calls = h.calls ∧
    (hRemCore cfg quiet id now h).1.loc.st = s1 := by
  simp [hRemCore, hget]

/-- the hook hypotheses are met by concrete facts: a schedule that is a number is refused, a string is accepted -/
example : getScheduleObj [("rule", .obj [("schedule", .num 5)])] = .error "hookSchedNotString" ∧
    getScheduleObj [("rule", .obj [("schedule", .str "+1h")])] = .ok "+1h" ∧
    getScheduleObj [("rule", .str "x")] = .error "hookRuleNotMap" ∧ getScheduleObj [("k", .num 1)] = .ok "" := by
  refine ⟨?_, ?_, ?_, ?_⟩ <;> rfl

/-! ## witnesses: histories that break "registered exactly while it exists" (a shared id, a cascade or expiry, an
overwrite, a one-shot fired while disabled), and `Clear` and reload, which keep it in both states (each witness is
replayed on the real code by `checks/c15.py`) -/

def ephemeralById : CronCfg := ⟨false, false⟩
def sched1 : AItem := ⟨"+1s", .runs⟩
def schedR : AItem := ⟨"0 0 1 1 *", .runs⟩
def plainFact : AItem := ⟨"", .notRule⟩
def whenRule : AItem := ⟨"", .noMatch⟩

/-- **shared id.** Built-in cron (keyed by id): rule `r` with a schedule in `A` and in `B`. Only the last
registration survives; the tick runs `B`'s rule, `A`'s rule is stored, unregistered and never run — and removing
`A`'s rule afterwards would unschedule `B`'s (second part). -/
theorem shared_id_last_registration_wins :
    let a := run (ASys.init .indexed ephemeralById) [.add "A" "r" sched1, .add "B" "r" sched1]
    a.reg = [((none, "r"), ⟨"+1s", "B"⟩)] ∧
    (evTick a (none, "r") true true).2.ran = some ("B", "r") ∧
    aGet (evTick a (none, "r") true true).1.items ("A", "r") = some sched1 ∧
    (evTick (evTick a (none, "r") true true).1 (none, "r") true true).2.fired = false ∧
    (run (ASys.init .indexed ephemeralById) [.add "A" "r" schedR, .add "B" "r" schedR, .remTop "A" "r"]).reg = [] := by
  decide

/-- **cascade / expiry.** A scheduled rule that disappears as a side effect (`deleteWith` cascade, expiration)
keeps its job: registered, not stored. The stale job evaluates nothing (`removed_never_runs`). -/
theorem side_effect_delete_leaves_stale_registration :
    let a := run (ASys.init .indexed ephemeralById) [.add "A" "f" plainFact, .add "A" "r" schedR, .remTop "A" "f", .drop "A" ["r"]]
    a.reg = [((none, "r"), ⟨"0 0 1 1 *", "A"⟩)] ∧ a.items = [] ∧ ¬ RegOK a ∧
    (evTick a (none, "r") true true).2 = ⟨true, none⟩ := by
  intro a
  have ha : a = ⟨.indexed, ephemeralById, [], [((none, "r"), ⟨"0 0 1 1 *", "A"⟩)]⟩ := by decide
  rw [ha]
  refine ⟨rfl, rfl, ?_, by decide⟩
  -- the job is registered, and nothing is stored that it could be the job of
  intro h
  obtain ⟨l, it, h1, -⟩ := (h (none, "r") ⟨"0 0 1 1 *", "A"⟩).mp rfl
  cases h1

/-- **Clear.** Both states run the rem hook for every stored id before they forget their facts: the jobs of the
cleared location go, the jobs of the other location stay. (For LinearState this is finding C15-linear-clear: a `Clear` that
calls no hook leaves A's job behind.) -/
theorem clear_unregisters_in_both_states (kind : SKind) :
    (run (ASys.init kind ephemeralById) [.add "A" "r" schedR, .add "B" "q" sched1, .clear "A"]).reg
      = [((none, "q"), ⟨"+1s", "B"⟩)] ∧
    (run (ASys.init kind ephemeralById) [.add "A" "r" schedR, .add "B" "q" sched1, .clear "A"]).items
      = [(("B", "q"), sched1)] := by
  cases kind <;> decide

/-- **Clear, every history.** After a `Clear` of `loc` no job of a rule of `loc` is registered under that rule's key,
whatever the state kind and whatever happened before (no `Plain` hypothesis). -/
theorem clear_leaves_no_job_of_the_location (a : ASys) (loc id : String) (h : schedAt a loc id = true) :
    aGet (evClear a loc).reg (keyOf a.cfg loc id) = none := by
  rw [evClear_reg, keyOf_snd, if_pos ⟨rfl, h⟩]

/-- **overwrite.** A scheduled rule overwritten by a `when` rule (or a plain fact) keeps its job; the stale tick
finds a rule that the trigger event does not match and evaluates nothing. -/
theorem overwrite_by_unscheduled_leaves_stale_registration :
    let a := run (ASys.init .indexed ephemeralById) [.add "A" "r" schedR, .add "A" "r" whenRule]
    a.reg = [((none, "r"), ⟨"0 0 1 1 *", "A"⟩)] ∧ storedList a = [] ∧
    (evTick a (none, "r") true true).2 = ⟨true, none⟩ := by
  decide

/-- **reload.** After a restart with an ephemeral cron both states register the location's scheduled rule again
when the location loads, and the tick runs it. (Finding C15-linear-load: a `LinearState.Load` that calls
no add hook leaves the rule stored, unregistered and never run.) -/
theorem reload_reregisters_in_both_states (kind : SKind) :
    let a := run (ASys.init kind ephemeralById) [.add "A" "r" schedR, .cronReset, .load "A" [("r", schedR)]]
    a.reg = [((none, "r"), ⟨"0 0 1 1 *", "A"⟩)] ∧ storedList a = [((none, "r"), ⟨"0 0 1 1 *", "A"⟩)] ∧
    (evTick a (none, "r") true true).2 = ⟨true, some ("A", "r")⟩ := by
  cases kind <;> decide

/-- **lost one-shot.** A one-shot job that fires while its rule is disabled is consumed by the cron; the rule
stays stored, is unregistered and is not run by any later tick. -/
theorem oneshot_fired_while_disabled_is_lost :
    let a := (evTick (run (ASys.init .indexed ephemeralById) [.add "A" "r" sched1]) (none, "r") false true).1
    a.reg = [] ∧ storedList a = [((none, "r"), ⟨"+1s", "A"⟩)] ∧ (evTick a (none, "r") true true).2 = ⟨false, none⟩ := by
  decide

/-! ## the hypotheses are satisfiable by non-trivial instances -/

/-- a history inside the fragment of `registered_iff_exists_partial`: two locations, both keyings' precondition
(distinct ids), a fact cascade that touches no rule, an overwrite by another schedule, removes, a one-shot tick
that consumes job and rule, a recurring tick, a Clear -/
def plainExample : List AEv :=
  [.add "A" "ra" sched1, .add "B" "rb" schedR, .add "A" "f" plainFact, .add "A" "g" plainFact, .remTop "A" "f", .drop "A" ["g"],
   .add "B" "rb" ⟨"*/5 * * * *", .runs⟩, .tick (none, "ra") true true, .tick (none, "rb") true true,
   .add "A" "rc" schedR, .remTop "A" "rc", .clear "B"]

example : PlainRun (ASys.init .indexed ephemeralById) plainExample = true := by decide +kernel
example : (run (ASys.init .indexed ephemeralById) (plainExample.take 9)).reg = [((none, "rb"), ⟨"*/5 * * * *", "B"⟩)] := by decide +kernel
example : (evTick (run (ASys.init .indexed ephemeralById) (plainExample.take 7)) (none, "ra") true true).2 = ⟨true, some ("A", "ra")⟩ := by decide +kernel
/-- `removed_never_runs`: absent after the remove, the later history adds other items only -/
example : aGet (run (ASys.init .indexed ephemeralById) [.add "A" "r" schedR, .drop "A" ["r"]]).items ("A", "r") = none ∧
    NoStore "A" "r" [.add "A" "q" schedR, .add "B" "r" schedR, .tick (none, "r") true true] = true := by decide +kernel
/-- `oneshot_at_most_once`: a one-shot entry, a later history with other registrations only -/
example : aGet (run (ASys.init .indexed ephemeralById) [.add "A" "r" sched1]).reg (none, "r") = some ⟨"+1s", "A"⟩ ∧
    oneShot "+1s" = true ∧ NoRegister ephemeralById (none, "r") [.add "A" "q" schedR, .remTop "A" "q", .clear "A"] = true := by decide +kernel
/-- `ephemeral_reregisters_on_load`: an indexed, ephemeral system loading a scheduled rule -/
example : aGet (evLoad (ASys.init .indexed ephemeralById) "A" [("r", schedR), ("f", plainFact)]).items ("A", "r") = some schedR := by decide +kernel
/-- `tick_runs_rule_in_its_location` with the (location, id) key: same id in two locations, each tick in its own -/
example :
    let a := run (ASys.init .linear ⟨true, true⟩) [.add "A" "r" sched1, .add "B" "r" sched1]
    (evTick a (some "A", "r") true true).2.ran = some ("A", "r") ∧ (evTick a (some "B", "r") true true).2.ran = some ("B", "r") := by decide +kernel
