import RulioProofs.Service

/-!
# C18 — the service layer is a faithful, encoding-independent rendering of the API

Model: `RulioModel/Service.lean`, an interpreter of the dispatch table regenerated from `service/service.go`
(`RulioModel/Gen/C18.lean`).  The library decoders (`net/url`, `encoding/json`, `yaml.v2`) are the parameter
`Codec`; their round-trip contracts are explicit hypotheses.

Clauses of C18 that the unchanged code violates are stated as *negative* theorems with concrete witnesses
(section N), each under the condition (read off the regenerated text) that the defect is still in the source; the
positive theorems exclude those cases (`knownUncheckedReads`, the nested requests of `take`/`replace`), and that
nothing else is excluded is itself a theorem over the regenerated table (`unchecked_reads_bounded`).
-/

open Svc Gen.C18

/-! ## T0 — ties between the regenerated text and the hand-written model -/

/-- The regular-expression literals, replacement strings, `/api` prefix test and step order of `DWIMURI` in the
source are the ones `dropParamsL`, `dropVersionL` and `dwimL` implement. -/
theorem dwim_literals_match :
    dwimSteps = implSteps ∧ dwimRegexps = implRegexps ∧ dwimPrefixTest = implPrefix ∧ dwimPrefixAdded = implPrefix :=
  ⟨rfl, rfl, rfl, rfl⟩

/-- Every `/api/loc/*` case that is a single unconditional System call reads exactly the parameters (name, type,
required) and calls exactly the System method, with exactly the arguments, of the documented API table `Svc.api`. -/
theorem rows_match_api :
    (rows.filter (fun r => !compositeUris.contains r.uri)).map rowApi = api.map some := by
  decide +kernel

/-- The hand-written `getHTTPRequest`, `parseParameter`, `unmarshalMap`, the three getters and the batch loop were
written against the call skeletons / decision structures the source still has (up to `len(..) == 0` guards before
the first-byte tests, which the model reads off the skeleton: `emptyBodyGuarded`, `emptyUnmarshalGuarded`). -/
theorem httpd_shape :
    noGuards skelGetHTTPRequest = impl_skelGetHTTPRequest ∧ skelParseParameter = impl_skelParseParameter ∧
    noGuards skelUnmarshal = impl_skelUnmarshal ∧ skelUnmarshalYAML = impl_skelUnmarshalYAML ∧ skelBatch = impl_skelBatch ∧
    skel_getMapParam = impl_skel_getMapParam ∧ skel_getBoolParam = impl_skel_getBoolParam ∧
    skel_GetStringParam = impl_skel_GetStringParam :=
  ⟨by rw [noGuards_eq]; decide +kernel, rfl, by rw [noGuards_eq]; decide +kernel, rfl, rfl, rfl, rfl, rfl⟩

/-- Errors are written with `http.StatusBadRequest`, on both error paths of `ServeHTTP` (decoding the request,
processing it); the default clause of the dispatch returns an error. -/
theorem errors_are_400 :
    errorStatus = implErrorStatus ∧ serveErrorPaths = implServeErrorPaths ∧ defaultIsError = true :=
  ⟨rfl, rfl, rfl⟩

/-! ## T1 — DWIMURI -/

/-- Normalising a URI twice is the same as normalising it once (for every string). -/
theorem dwim_idempotent (s : String) : dwimURI (dwimURI s) = dwimURI s := dwimURI_idem s

/-- For every plain path `p` (no `?`, not starting with a version or with `/api`), every version prefix `ver`
matched by `/v?[.0-9]+` and every query string `q` (no newline): the path alone, with `/api`, with a version
prefix, with both, and each of these followed by `?q`, all normalise to `/api` ++ `p`. -/
theorem dwim_prefix_insensitive (p ver q : String) (hp : plainL p.toList = true) (hv : isVersionL ver.toList = true)
    (hq : '\n' ∉ q.toList) :
    dwimURI p = "/api" ++ p ∧ dwimURI ("/api" ++ p) = "/api" ++ p ∧
    dwimURI (ver ++ p) = "/api" ++ p ∧ dwimURI (ver ++ ("/api" ++ p)) = "/api" ++ p ∧
    dwimURI (p ++ "?" ++ q) = "/api" ++ p ∧ dwimURI ("/api" ++ p ++ "?" ++ q) = "/api" ++ p ∧
    dwimURI (ver ++ p ++ "?" ++ q) = "/api" ++ p ∧ dwimURI (ver ++ ("/api" ++ p) ++ "?" ++ q) = "/api" ++ p := by
  have hP := plain_of_plainL hp
  have nf : ("/api" ++ p).toList = apiL ++ p.toList := by rw [String.toList_append, api_toList]
  have s1 := dwimURI_spelling (x := p) hP hv hq (by simp)
  have s2 := dwimURI_spelling (x := "/api" ++ p) hP hv hq (by simp [nf])
  have s3 := dwimURI_spelling (x := ver ++ p) hP hv hq (by simp [String.toList_append])
  have s4 := dwimURI_spelling (x := ver ++ ("/api" ++ p)) hP hv hq (by simp [String.toList_append, nf])
  exact ⟨s1.1, s2.1, s3.1, s4.1, s1.2, s2.2, s3.2, s4.2⟩

/-- Every `/api/loc/*` label of the regenerated table is `/api` followed by a plain path, so by
`dwim_prefix_insensitive` each operation is reached with no prefix, with `/api`, and with a version prefix. -/
theorem table_uris_plain :
    ∀ r ∈ rows, r.uri.toList.take 4 = apiL ∧ plainL (r.uri.toList.drop 4) = true := by
  intro r hr
  obtain ⟨h, hapi, hplain⟩ := rows_uris_chars r hr
  rw [toList_of_asciiChars h]
  exact ⟨hapi, hplain⟩

/-! ## T2 — parameter typing -/

/-- Consistency of `parameterTypes` (httpd.go) with the getters of the dispatch (service.go): every parameter
read with `getMapParam` is declared `json` (so a query string can supply it), every parameter read with
`GetStringParam`, `getBoolParam` or a presence test is undeclared (so the query-string value stays a string),
and no unknown getter occurs. -/
theorem params_typed :
    (∀ rd ∈ allReads, getterKind rd.getter = .map → parameterTypes.lookup rd.param = some "json") ∧
    (∀ rd ∈ allReads, getterKind rd.getter ≠ .map → parameterTypes.lookup rd.param = none) ∧
    (∀ rd ∈ allReads, getterKind rd.getter ≠ .unknown) := by
  decide +kernel

/-- A value that travels as text (query string, form body) comes out of `parseParameter` as `wireTyped v`, and
every getter of the family that reads the parameter returns the same result for it as for the typed value `v`
(JSON, YAML, envelope, direct). -/
theorem params_typed_wire (c : Codec) (enc : List (String × J) → String) (p : String) (v : J)
    (h : ArgOK c enc p v) (rd : Read) (hrd : rd ∈ allReads) (hp : rd.param = p) :
    parseParameter c p (wireStr enc v) = .ok (wireTyped v) ∧
    evalReadV (some (wireTyped v)) rd = evalReadV (some v) rd :=
  ⟨parseParameter_wire c enc p v h, evalReadV_wire c enc p v h rd hrd hp⟩

/-! ## T3 — every encoding of one logical request performs the same call with the same arguments -/

/-- Under the decoder contracts (hypotheses `hq … hey`: decoding what the client encoded gives back the
arguments), the six encodings of one logical request — query string (GET), form body, JSON body, YAML body,
`/api/json` envelope, `/api/yaml` envelope — under any spelling `u` of the operation's path (`dwimURI u = target`:
with or without `/api`, with a version prefix, see `dwim_prefix_insensitive`) are served exactly as
`ProcessRequest` serves the typed request map `("uri", target) :: args`: same System calls, same arguments,
or the same error. -/
theorem same_request_same_call (c : Codec) (enc : List (String × J) → String) (args : List (String × J))
    (hL : Logical c enc args)
    (u target ue uy : String) (hu : dwimURI u = target) (huq : '?' ∉ u.toList)
    (hne : target ≠ "/api/json" ∧ target ≠ "/api/yaml")
    (hue : dwimURI ue = "/api/json") (huy : dwimURI uy = "/api/yaml")
    (qtext jtext ytext etext eytext : String)
    (hq0 : c.parseQuery "" = some [])
    (hq : c.parseQuery qtext = some (wirePairs enc args))
    (hqnl : '\n' ∉ qtext.toList) (hqform : ∃ ch r, qtext.toList = ch :: r ∧ ch ≠ '{')
    (hj : c.jsonObj jtext = some args) (hj0 : ∃ r, jtext.toList = '{' :: r)
    (hy : c.yamlObj ytext = some args) (hy0 : ∃ ch r, ytext.toList = ch :: r ∧ ch ≠ '{') (hynl : '\n' ∈ ytext.toList)
    (he : c.jsonObj etext = some (("uri", .str u) :: args))
    (hey : c.yamlObj eytext = some (("uri", .str u) :: args)) :
    serve c ⟨"GET", u ++ "?" ++ qtext, u, qtext, ""⟩ = processRequest c (("uri", .str target) :: args) ∧
    serve c ⟨"POST", u, u, "", qtext⟩ = processRequest c (("uri", .str target) :: args) ∧
    serve c ⟨"POST", u, u, "", jtext⟩ = processRequest c (("uri", .str target) :: args) ∧
    serve c ⟨"POST", u, u, "", ytext⟩ = processRequest c (("uri", .str target) :: args) ∧
    serve c ⟨"POST", ue, ue, "", etext⟩ = processRequest c (("uri", .str target) :: args) ∧
    serve c ⟨"POST", uy, uy, "", eytext⟩ = processRequest c (("uri", .str target) :: args) := by
  have hne' : dwimURI u ≠ "/api/json" ∧ dwimURI u ≠ "/api/yaml" := by rw [hu]; exact hne
  have hty := evalReadV_typed hL
  exact ⟨serve_direct c (http_query c enc args hL.ok u qtext hne' huq hqnl hq) hu (uri_first _ _) hty,
    serve_direct c (http_form c enc args hL.ok u qtext hne' hqnl hqform hq hq0) hu (uri_last _ (typed_nouri hL)) hty,
    serve_direct c (http_json c args u jtext hne' hj hj0 hq0) hu (uri_last _ hL.nouri) (fun _ _ => rfl),
    serve_direct c (http_yaml c args u ytext hne' hy hy0 hynl hq0) hu (uri_last _ hL.nouri) (fun _ _ => rfl),
    serve_direct c (http_envelope c args u ue etext (.inl hue) (by rw [if_pos hue]; exact he) hq0) hu (uri_first _ _)
      (fun _ _ => rfl),
    serve_direct c (http_envelope c args u uy eytext (.inr huy) (by simp [huy, hey]) hq0) hu (uri_first _ _)
      (fun _ _ => rfl)⟩

/-- Inside a batch: the elements of `requests` are processed in order, each exactly as a request of its own. -/
theorem batch_same_calls (c : Codec) (m : ReqMap) (ms : List ReqMap)
    (h : lookupKey "requests" m = some (.arr (ms.map J.obj))) :
    processBatch c m = .ok (ms.map (processRequest c)) := by
  simp [processBatch, h, List.map_map, Function.comp_def]

/-! ## T4 — missing or ill-typed parameters, unknown URIs -/

/-- No getter error goes untested outside the five listed in `knownUncheckedReads`, no System call error outside
the two of `knownUncheckedCalls`, and no nested request result is ignored outside take/replace (over the whole
regenerated table; the lists are upper bounds, so repairing a listed defect keeps this theorem). -/
theorem unchecked_reads_bounded :
    subsetOf (uncheckedReads rows) knownUncheckedReads = true ∧
    subsetOf (uncheckedCalls rows) knownUncheckedCalls = true ∧
    (uncheckedRedirects rows).all (fun u => u == "/api/loc/facts/take" || u == "/api/loc/facts/replace") = true :=
  unchecked_bounded

/-- For every `/api/loc/*` case of the regenerated table and every parameter it reads (outside the five listed
unchecked reads): on every request map addressed to that case in which the parameter is required and absent, or
present with a type its getter rejects, `ProcessRequest` returns an error, which `ServeHTTP` answers with 400.
(`_partial`: the full clause also covers `knownUncheckedReads` and `take`/`replace`, where the unchanged code violates it: section N.) -/
theorem missing_or_illtyped_is_error_partial (c : Codec) (m : ReqMap) (u : String) (row : Row) (rd : Read)
    (hrow : row ∈ rows) (hrd : rd ∈ row.reads)
    (hu : lookupKey "uri" m = some (.str u)) (hd : dwimURI u = row.uri)
    (hk : (row.uri, rd.param) ∉ knownUncheckedReads) (hfail : readFails m rd = true) :
    ∃ e, processRequest c m = .error e ∧ status (processRequest c m) = 400 := by
  have hc := checked_of_not_known hrow hrd hk
  obtain ⟨e, he, hnp⟩ := evalReads_fails m rd hc (readFails_error m rd hfail) row.reads [] hrd
  have hp : processRequest c m = .error e := by
    simp only [processRequest, uriNF_of_lookup hu, hd, findRow_rows row hrow, runRow]
    split
    · simp only [runPlain, he]
    · simp only [he]
  refine ⟨e, hp, ?_⟩
  rw [hp]
  cases e <;> simp [status] at hnp ⊢

/-- A request whose normalised URI is not a case label of `ProcessRequest` is an error (400), whatever else it carries. -/
theorem unknown_uri_is_error (c : Codec) (m : ReqMap) (u : String)
    (hu : lookupKey "uri" m = some (.str u)) (hn : caseLabels.contains (dwimURI u) = false) :
    processRequest c m = .error .unknownUri ∧ status (processRequest c m) = 400 := by
  have hn' : dwimURI u ∉ caseLabels := by simpa using hn
  have hf : findRow (dwimURI u) = none := by
    cases hf : findRow (dwimURI u) with
    | none => rfl
    | some row =>
      obtain ⟨hrow, hruri⟩ := findRow_mem hf
      exact absurd (hruri ▸ rows_uris_in_labels row hrow) hn'
  have h : processRequest c m = .error .unknownUri := by
    simp [processRequest, uriNF_of_lookup hu, hf, hn']
  exact ⟨h, by rw [h]; rfl⟩

/-! ## N — clauses the code violates (negative theorems with witnesses; the check replays the witnesses)

Each is stated under the condition, read off the regenerated text, that the defect is still in the source; the proof
script closes the goal in both worlds, so repairing a defect does not break the build (the check then stops
listing the finding because its witness no longer fails). -/

/-- `/api/loc/facts/take` without `pattern`: the nested request fails, its error is dropped, the answer is 200 with
no System call. -/
theorem take_swallows_errors (c : Codec) (h : (uncheckedRedirects rows).contains "/api/loc/facts/take" = true) :
    summary (processRequest c [("uri", .str "/api/loc/facts/take"), ("location", .str "here")])
      = (200, [], [.missing "pattern"]) := by
  first | exact absurd h (by decide +kernel) | rfl

/-- `/api/loc/facts/replace` without `pattern` and `fact`: both nested requests fail, 200. -/
theorem replace_swallows_errors (c : Codec) (h : ((uncheckedRedirects rows).filter (· == "/api/loc/facts/replace")).length = 2) :
    summary (processRequest c [("uri", .str "/api/loc/facts/replace"), ("location", .str "here")])
      = (200, [], [.missing "pattern", .missing "fact"]) := by
  first | exact absurd h (by decide +kernel) | rfl

/-- `/api/loc/util/js` without the required `code`: the getter's error is overwritten, the (empty) code is run. -/
theorem utiljs_missing_code_is_not_an_error (c : Codec) (h : (uncheckedReads rows).contains ("/api/loc/util/js", "code") = true) :
    summary (processRequest c [("uri", .str "/api/loc/util/js"), ("location", .str "here")])
      = (200, ["RunJavascript"], []) := by
  first | exact absurd h (by decide +kernel) | rfl

/-- `/api/loc/facts/add` with an ill-typed `id` (a number): no error; the fact is added under a generated id
(the System is called with id `""`). -/
theorem add_illtyped_id_is_ignored (c : Codec) (h : (uncheckedReads rows).contains ("/api/loc/facts/add", "id") = true) :
    (match processRequest c [("uri", .str "/api/loc/facts/add"), ("location", .str "here"), ("fact", .obj []), ("id", .num 5)] with
     | .ok o => o.calls == [⟨"AddFact", [.str "here", .str "", .obj []], true⟩]
     | .error _ => false) = true := by
  first | exact absurd h (by decide +kernel) | rfl

/-- A POST without a body to any non-envelope URI: `js[0]` panics (no HTTP response at all), as long as the source
does not test the length first. -/
theorem empty_post_body_panics (c : Codec) (u : String) (hg : emptyBodyGuarded = false) (hq0 : c.parseQuery "" = some [])
    (hne : dwimURI u ≠ "/api/json" ∧ dwimURI u ≠ "/api/yaml") :
    serve c ⟨"POST", u, u, "", ""⟩ = .error .panic ∧ status (serve c ⟨"POST", u, u, "", ""⟩) = 0 := by
  have : serve c ⟨"POST", u, u, "", ""⟩ = .error .panic := by
    simp [serve, getHTTPRequest, hne.1, hne.2, parseQueryInto_empty c hq0, hg]
  exact ⟨this, by rw [this]; rfl⟩

/-- An empty value for a `json`-typed parameter in a query string (`?fact=`): `bs[0]` panics, as long as the source
does not test the length first. -/
theorem empty_json_parameter_panics (c : Codec) (hg : emptyUnmarshalGuarded = false) :
    parseParameter c "fact" "" = .error .panic := by
  have hl : parameterTypes.lookup "fact" = some "json" := by decide +kernel
  have hu : unmarshalMap c "" = .error .panic := by rw [unmarshalMap, String.toList_empty, hg]; rfl
  rw [parseParameter, hl]
  simp only [hu, if_true]

/-! ## Non-vacuity: the hypotheses are met by non-trivial instances -/

example : plainL "/loc/facts/add".toList = true ∧ isVersionL "/v1.0".toList = true ∧ isVersionL "/2".toList = true := by
  -- each literal is `String.ofList` of its characters: nothing is decoded
  rw [String.toList_ofList, String.toList_ofList, String.toList_ofList]
  decide +kernel

example : dwimURI "/v1.0/loc/facts/add?location=a%20b&fact=%7B%7D" = "/api/loc/facts/add" :=
  (dwimURI_ofList _).trans (congrArg String.ofList (by decide +kernel))

example : Logical exCodec (fun _ => "{}") [("location", .str "here"), ("fact", .obj []), ("inherited", .bool true)] := by
  refine ⟨by decide +kernel, by decide +kernel, ?_⟩
  intro kv hkv
  simp only [List.mem_cons, List.not_mem_nil, or_false] at hkv
  rcases hkv with h | h | h <;> subst h
  · simp only [ArgOK]; decide +kernel
  · simp only [ArgOK]; exact ⟨by decide +kernel, by rfl, ⟨['}'], String.toList_ofList⟩⟩
  · simp only [ArgOK]; exact ⟨by decide +kernel, by decide +kernel⟩

example : exCodec.parseQuery "location=here&fact=%7B%7D&inherited=true"
    = some (wirePairs (fun _ => "{}") [("location", .str "here"), ("fact", .obj []), ("inherited", .bool true)]) := by
  decide +kernel

example : readFails [("uri", .str "/loc/facts/get"), ("location", .str "here")] ⟨"GetStringParam", "id", true, true⟩ = true ∧
    readFails [("uri", .str "/loc/facts/get"), ("id", .num 5)] ⟨"GetStringParam", "id", true, true⟩ = true := by
  decide +kernel

example : caseLabels.contains (dwimURI "/v2/loc/facts/nope?x=1") = false := by
  rw [dwimURI_ofList]
  decide +kernel
