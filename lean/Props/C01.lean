import RulioProofs.ComposeExamples
import RulioProofs.ComposeSys
import RulioProofs.MatchRun

/-! # C01 — event dispatch evaluates exactly the rules whose `when` matches: the rule index

Helper lemmas are in `RulioProofs/PatIndex*.lean`, the vocabulary — `PI.path`, `PI.idsAt`, `PI.Emb`, `IdxOK`, `EvOK`,
`IdxSt` — in `RulioModel/PatIndexSpec.lean`.

The index part of C01 is: *no matching rule is ever skipped because of how rules are indexed*.
It is the composition of

1. `mod_adds_at_path` / `mod_rems_at_path` / `mod_fuel_independent` — what `PatternIndex.mod` does;
2. `search_embeds` — `searchPairs` follows every embedded path, whatever else is in the trie;
3. `match_embeds` — a pattern of the fragment `IdxOK` that lies over an event of the fragment `EvOK` embeds;
4. `index_invariant`, `index_complete` — for all histories of index operations and all events;
   `state_index_invariant`, `state_index_complete` — the same for all histories of the indexed *state*
   model (`St.iAdd`, `St.irem` with its cascade, `iGet`, `isearch`, `iFindRules` with their expiry side effects);
5. negative theorems with concrete witnesses for what lies outside the fragments (recorded findings).
6. end to end, with the matcher of C05 (`RulioProofs/Compose*.lean`): on one location, after any history of
   operations, an event fires exactly the live, enabled rules whose `when` matches (`dispatch_exact_local`,
   `dispatch_no_error`, `location_history_good`, `ancestor_walk_single`).

All statements are about the executable model (`PI.mod`, `PI.search`, `piAdd`, `piRem`, `piSearch`), for every
fuel above the size bound (`searchFuel`), i.e. the fuel is a proof device and not part of the semantics. -/

open PI hiding pmO_nil pmA_nil

/-! ## 1. what `mod` does -/

/-- **`mod` adds the id exactly at the end of the path.** If the pairs have a path `π` (no unsortable array),
then for every fuel `≥ searchFuel pairs` the add succeeds, `id` is on the node at `π` afterwards, and every
other (node, id') membership of the trie is unchanged. -/
theorem mod_adds_at_path (idx : PI) (pairs : List (String × J)) (id : String) (π : List Edge) (fuel : Nat)
    (hπ : path pairs = some π) (hf : searchFuel pairs ≤ fuel) :
    (PI.mod fuel idx pairs id true).2 = none ∧
    id ∈ (PI.mod fuel idx pairs id true).1.idsAt π ∧
    ∀ ρ id', (ρ ≠ π ∨ id' ≠ id) →
      (id' ∈ (PI.mod fuel idx pairs id true).1.idsAt ρ ↔ id' ∈ idx.idsAt ρ) := by
  obtain ⟨h1, h2⟩ := mod_spec id true fuel idx pairs hf
  rw [hπ] at h1 h2
  refine ⟨h1.2 rfl, h2.mem_add.2 (.inr ⟨rfl, rfl⟩), fun ρ id' hne => ?_⟩
  rw [h2.mem_add]
  exact or_iff_left fun ⟨h, hρ⟩ => hne.elim (fun g => g (Option.some.inj hρ).symm) (fun g => g h)

/-- **`mod` removes the id exactly at the end of the path** (id lists duplicate free, as in every trie built
by `mod` from the empty one): afterwards `id` is not on the node at `π`, all other memberships are unchanged. -/
theorem mod_rems_at_path (idx : PI) (pairs : List (String × J)) (id : String) (π : List Edge) (fuel : Nat)
    (hn : NodupIds idx) (hπ : path pairs = some π) (hf : searchFuel pairs ≤ fuel) :
    (PI.mod fuel idx pairs id false).2 = none ∧
    id ∉ (PI.mod fuel idx pairs id false).1.idsAt π ∧
    ∀ ρ id', (ρ ≠ π ∨ id' ≠ id) →
      (id' ∈ (PI.mod fuel idx pairs id false).1.idsAt ρ ↔ id' ∈ idx.idsAt ρ) := by
  obtain ⟨h1, h2⟩ := mod_spec id false fuel idx pairs hf
  rw [hπ] at h1 h2
  refine ⟨h1.2 rfl, fun h => ((h2.mem_rem hn).1 h).2 ⟨rfl, rfl⟩, fun ρ id' hne => ?_⟩
  rw [h2.mem_rem hn]
  exact and_iff_left fun ⟨h, hρ⟩ => hne.elim (fun g => g (Option.some.inj hρ).symm) (fun g => g h)

/-- **a rejected `mod` changes no id list**, and `mod` is rejected exactly when the pairs have no path (some
array is not sortable); duplicate-freeness of the id lists is preserved in every case. -/
theorem mod_failure_harmless (idx : PI) (pairs : List (String × J)) (id : String) (add : Bool) (fuel : Nat)
    (hf : searchFuel pairs ≤ fuel) :
    ((PI.mod fuel idx pairs id add).2 = none ↔ (path pairs).isSome = true) ∧
    (path pairs = none → ∀ ρ, (PI.mod fuel idx pairs id add).1.idsAt ρ = idx.idsAt ρ) ∧
    (NodupIds idx → NodupIds (PI.mod fuel idx pairs id add).1) := by
  obtain ⟨h1, h2⟩ := mod_spec id add fuel idx pairs hf
  refine ⟨h1, ?_, h2.nodup⟩
  intro hnone ρ
  rw [hnone] at h2
  simpa using h2 ρ

/-- **the fuel is a proof device**: any fuel `≥ searchFuel pairs` gives the result of the well-founded
version `PI.modW`, hence the same result as any larger fuel. -/
theorem mod_fuel_independent (idx : PI) (pairs : List (String × J)) (id : String) (add : Bool) (f1 f2 : Nat)
    (h1 : searchFuel pairs ≤ f1) (h2 : f1 ≤ f2) :
    PI.mod f1 idx pairs id add = PI.modW idx pairs id add ∧
    PI.mod f1 idx pairs id add = PI.mod f2 idx pairs id add := by
  have g1 : szO pairs < f1 := Nat.lt_of_lt_of_le (searchFuel_gt pairs) h1
  have g2 : szO pairs < f2 := Nat.lt_of_lt_of_le g1 h2
  have e1 := mod_eq_modW id add f1 idx pairs g1
  exact ⟨e1, e1.trans (mod_eq_modW id add f2 idx pairs g2).symm⟩

/-- non-vacuity: a nested pattern with an array has a path; adding it to a non-empty trie puts the id there -/
example :
    path (mapToPairs [("b", .obj [("c", .str "?x")]), ("a", .arr [.num 2, .num 1])]) =
      some [.str "a", .str "F_1", .str "a", .str "F_2", .str "b", .map, .str "c", .var] := by decide +kernel
example :
    ((piAdd (piAdd PI.empty [("a", .num 1)] "r0").1
        [("b", .obj [("c", .str "?x")]), ("a", .arr [.num 2, .num 1])] "r").1.idsAt
      [.str "a", .str "F_1", .str "a", .str "F_2", .str "b", .map, .str "c", .var]) = ["r"] := by decide +kernel
example : NodupIds PI.empty := nodupIds_empty

/-! ## 2. the search follows every embedded path -/

/-- **`search_embeds`**: if `id` sits on the node at the end of the non-empty path `π` below `idx`, and `π`
embeds in the event pairs `E` (relation `PI.Emb`, which does not mention the trie), then every successful
`PI.search` from `idx` on `E`, with any fuel above the size of `E`, returns `id`.  No assumption on what else
the trie contains. -/
theorem search_embeds (idx : PI) (π : List Edge) (E : List (String × J)) (id : String) (fuel : Nat)
    (ids : List String) (hne : π ≠ []) (hid : id ∈ idx.idsAt π) (hemb : Emb π E) (hf : szO E < fuel)
    (hs : PI.search fuel idx E = .ok ids) : id ∈ ids :=
  found_of_emb hemb idx hne hid fuel ids hf hs

/-- **`search_embeds` for `SearchPatternsMap`**: same for `piSearch` (which also returns the root's ids, so
the empty path is covered). -/
theorem piSearch_embeds (ri : PI) (ev : Obj) (π : List Edge) (id : String) (ids : List String)
    (hid : id ∈ ri.idsAt π) (hemb : Emb π (mapToPairs ev)) (hs : piSearch ri ev = .ok ids) : id ∈ ids :=
  piSearch_of_emb hid hemb hs

/-- **the search never fails on an event of the fragment** (ground, arrays sortable), whatever is indexed -/
theorem piSearch_succeeds (ri : PI) (ev : Obj) (hev : EvOK ev = true) : ∃ ids, piSearch ri ev = .ok ids :=
  piSearch_total ri hev

/-- non-vacuity: an embedding that uses skip, expand, const, mapIn and var -/
example : Emb [.str "a", .str "F_2", .str "b", .map, .str "c", .var]
    (mapToPairs [("b", .obj [("c", .num 7), ("d", .null)]), ("a", .arr [.num 2, .num 1]), ("0", .bool true)]) := by
  have h : mapToPairs [("b", .obj [("c", .num 7), ("d", .null)]), ("a", .arr [.num 2, .num 1]), ("0", .bool true)]
      = [("0", .bool true), ("a", .arr [.num 2, .num 1]), ("b", .obj [("c", .num 7), ("d", .null)])] := by
    rfl
  rw [h]
  refine .skip _ _ _ (.expand "a" _ [.num 1, .num 2] _ _ (by rfl) ?_)
  refine .skip _ _ _ (.const "a" (.num 2) "F_2" _ _ (by rfl) ?_)
  refine .mapIn "b" _ _ _ ?_
  have h2 : mapToPairs [("c", J.num 7), ("d", J.null)] = [("c", .num 7), ("d", .null)] := by rfl
  rw [h2]
  exact .var "c" (.num 7) _ _ [("d", .null)] (by rfl) (.done _)

/-! ## 3. a pattern that lies over an event embeds in it -/

/-- **`match_embeds`**: for a pattern `p` in the fragment `IdxOK` (constant, pairwise distinct keys; no
optional variable; every array is empty, a singleton `[variable]` / `[map]` / `[scalar]`, or consists of
scalar constants of one sortable type) and an event `ev` in the fragment `EvOK` (ground; every array is
empty, a singleton `[map]` / `[scalar]`, or consists of scalars of one sortable type): if some bindings lay
the pattern over the event (`pmv`, the specification C05 relates `matchJ` to), then the pattern has a path
and that path embeds in the event's pairs. -/
theorem match_embeds (σ : Bs) (p ev : Obj) (hp : IdxOK p = true) (hev : EvOK ev = true)
    (hm : pmv σ (.obj p) (.obj ev) = true) :
    ∃ π, path (mapToPairs p) = some π ∧ Emb π (mapToPairs ev) :=
  emb_of_pmv σ hp hev hm

/-- non-vacuity: a pattern and an event of the fragments (nested map, arrays, variable), and they match -/
example : IdxOK [("b", .obj [("c", .str "?x")]), ("a", .arr [.num 2, .num 1]), ("e", .arr [.obj []])] = true := by
  decide +kernel
example : EvOK [("b", .obj [("c", .num 7), ("d", .null)]), ("a", .arr [.num 3, .num 2, .num 1]),
    ("e", .arr [.obj [("z", .bool true)]])] = true := by decide +kernel
example : pmv [("?x", .num 7)]
    (.obj [("b", .obj [("c", .str "?x")]), ("a", .arr [.num 2, .num 1]), ("e", .arr [.obj []])])
    (.obj [("b", .obj [("c", .num 7), ("d", .null)]), ("a", .arr [.num 3, .num 2, .num 1]),
      ("e", .arr [.obj [("z", .bool true)]])]) = true := (pmv_eq_eval _ _ _).trans (by decide +kernel)

/-! ## 4. all histories -/

/-- **the index invariant holds after every history** of index operations as `IndexedState.add` / `rem`
perform them (`IdxSt.add`: unindex the previous pattern stored under the id — an error aborts —, index the
new one, put the previous one back if the new one is rejected; `IdxSt.rem`: unindex the stored pattern):
id lists are duplicate free and every stored `(id, pattern)` has a path with `id` on the node at its end. -/
theorem index_invariant (ops : List IOp) :
    NodupIds (IdxSt.run {} ops).ri ∧ Indexed (IdxSt.run {} ops).ri (IdxSt.run {} ops).rules :=
  hinv_run ops {} hinv_init

/-- **frame**: index operations under an id never disturb another id's entries; an `add` never removes
anything; a `rem` of pattern `q` under `id'` keeps `id` at `π` unless `id' = id` and `π` is the path of `q`. -/
theorem index_ops_frame (ri : PI) (q : Obj) (id id' : String) (π : List Edge) (hn : NodupIds ri)
    (hid : id ∈ ri.idsAt π) :
    id ∈ (piAdd ri q id').1.idsAt π ∧
    (¬ (id' = id ∧ path (mapToPairs q) = some π) → id ∈ (piRem ri q id').1.idsAt π) :=
  ⟨(piAdd_spec ri q id').2.mem_add.2 (.inl hid),
   fun hne => ((piRem_spec ri q id').2.mem_rem hn).2 ⟨hid, fun ⟨h, hp⟩ => hne ⟨h.symm, hp⟩⟩⟩

/-- **`index_complete`** (the for-all-pairs claim): after every history of index operations, for every event
of the fragment `EvOK`, the candidate search succeeds, and every currently indexed `(id, pattern)` with
`IdxOK pattern` whose pattern lies over the event is among the candidates.  No matching rule of the fragment
is ever skipped because of how rules are indexed. -/
theorem index_complete (ops : List IOp) (ev : Obj) (id : String) (p : Obj) (σ : Bs)
    (hstored : amGet (IdxSt.run {} ops).rules id = some p) (hp : IdxOK p = true) (hev : EvOK ev = true)
    (hm : pmv σ (.obj p) (.obj ev) = true) :
    ∃ ids, piSearch (IdxSt.run {} ops).ri ev = .ok ids ∧ id ∈ ids := by
  obtain ⟨π, hπ, hid⟩ := (index_invariant ops).2 id p hstored
  exact piSearch_complete hπ hid hp hev hm

/-- non-vacuity: a history with a replacement and a removal; the surviving rules are stored and found, the
replaced pattern and the removed rule are not -/
example :
    let s := IdxSt.run {} [.add "r1" [("a", .num 1)], .add "r2" [("b", .str "?x")], .add "r1" [("a", .num 2)],
      .rem "r2", .add "r3" [("a", .arr [.num 2])]]
    (amGet s.rules "r1").map (fun p => path (mapToPairs p)) = some (some [.str "a", .str "F_2"]) ∧
    (amGet s.rules "r2").isNone = true ∧
    (foundIn (piSearch s.ri [("a", .arr [.num 1, .num 2]), ("b", .null)]) "r3" = true ∧
    foundIn (piSearch s.ri [("a", .num 2), ("b", .null)]) "r1" = true ∧
    foundIn (piSearch s.ri [("a", .num 1), ("b", .null)]) "r1" = false ∧
    foundIn (piSearch s.ri [("a", .num 2), ("b", .null)]) "r2" = false) := by
  decide +kernel

/-! ## 4b. all histories of the indexed state model -/

/-- **each operation of the indexed state preserves the rule-index invariant** `StIdx` (id lists duplicate
free; every stored non-scheduled rule — `whenOf`, the notion of the dispatch specification — has its id at
the end of its `when` pattern's path): `add` (which unindexes the previous rule stored under the id, and puts
it back when the new one is rejected), `rem` with its `deleteWith` cascade for every recursion budget, and
the reads that expire facts on the way (`get`, `search`, `findRules`). -/
theorem state_index_step (s : St) (h : StIdx s) :
    (∀ given x now, StIdx (s.iadd given x now).1) ∧ (∀ given x now, StIdx (s.iAdd given x now).1) ∧
    (∀ fuel id now, StIdx (St.irem fuel s id now).1) ∧ (∀ id now, StIdx (s.iGet id now).1) ∧
    (∀ fuel p now, StIdx (St.isearch fuel s p now).1) ∧ (∀ ev now, StIdx (s.iFindRules ev now).1) :=
  ⟨fun g x n => stIdx_iadd s g x n h, fun g x n => stIdx_iAdd s g x n h, fun f i n => stIdx_irem f s i n h,
   fun i n => stIdx_iGet s i n h, fun f p n => stIdx_isearch f s p n h, fun e n => stIdx_iFindRules s e n h⟩

/-- **the invariant holds in every reachable indexed state** (induction over the operation history, carried out
together with its converse in `stIdx_idxSound_of_reach`) -/
theorem state_index_invariant (s : St) (h : IReach s) : StIdx s := (stIdx_idxSound_of_reach h).1

/-- **`index_complete` for the state model**: in every indexed state reachable by any history of
`add` / `rem` / `get` / `search` / `findRules` / `clear`, for every event of the fragment `EvOK`, the candidate
search of `doFindRules` succeeds and returns the id of every stored, non-scheduled rule whose `when` pattern
is in the fragment `IdxOK` and lies over the event. -/
theorem state_index_complete (s : St) (h : IReach s) (ev : Obj) (id : String) (fact pat : Obj) (σ : Bs)
    (hstored : amGet s.facts id = some fact) (hwhen : whenOf fact = some pat)
    (hp : IdxOK pat = true) (hev : EvOK ev = true) (hm : pmv σ (.obj pat) (.obj ev) = true) :
    ∃ ids, piSearch s.ri ev = .ok ids ∧ id ∈ ids := by
  obtain ⟨π, hπ, hid⟩ := (state_index_invariant s h).2 id fact pat hstored hwhen
  exact piSearch_complete hπ hid hp hev hm

/-- non-vacuity: a reachable state (rule added, replaced, a second rule added and removed) whose stored rule
has the replaced `when` -/
example :
    let r1 : Obj := [("rule", .obj [("when", .obj [("a", .num 1)]), ("action", .null)])]
    let r1' : Obj := [("rule", .obj [("when", .obj [("a", .arr [.num 2])]), ("action", .null)])]
    let r2 : Obj := [("rule", .obj [("when", .obj [("b", .str "?x")]), ("action", .null)])]
    let s0 : St := { kind := .indexed }
    let s := (St.irem 50 (((s0.iAdd "r1" r1 0).1.iAdd "r2" r2 0).1.iAdd "r1" r1' 0).1 "r2" 0).1
    ((amGet s.facts "r1").bind whenOf).map (fun p => path (mapToPairs p)) = some (some [.str "a", .str "F_2"]) ∧
    (amGet s.facts "r2").isNone = true ∧
    foundIn (piSearch s.ri [("a", .arr [.num 1, .num 2]), ("b", .null)]) "r1" = true ∧
    foundIn (piSearch s.ri [("a", .num 1), ("b", .null)]) "r1" = false ∧
    foundIn (piSearch s.ri [("a", .arr [.num 1, .num 2]), ("b", .null)]) "r2" = false := by
  decide +kernel
example : IReach (St.irem 50 (((({ kind := .indexed } : St).iAdd "r1"
    [("rule", .obj [("when", .obj [("a", .num 1)])])] 0).1.iAdd "r2" [("x", .num 1)] 0).1) "r2" 0).1 :=
  .rem _ _ _ _ (.add _ _ _ _ (.add _ _ _ _ .init))

/-! ## 5. outside the fragments: recorded findings of the real code (concrete witnesses) -/

/-- (a) an array holding a variable and a constant whose sort order separates them:
`when {"a":["?x","1"]}` is found for the event `{"a":["1","2"]}` but **not** for `{"a":["0","1"]}`, although
the pattern lies over both (`?x ↦ "2"`, resp. `?x ↦ "0"`). -/
theorem var_and_const_in_array_missed :
    let p : Obj := [("a", .arr [.str "?x", .str "1"])]
    let ri := (piAdd PI.empty p "r").1
    foundIn (piSearch ri [("a", .arr [.str "1", .str "2"])]) "r" = true ∧
    foundIn (piSearch ri [("a", .arr [.str "0", .str "1"])]) "r" = false ∧
    piSearch ri [("a", .arr [.str "0", .str "1"])] = .ok [] ∧
    pmv [("?x", .str "2")] (.obj p) (.obj [("a", .arr [.str "1", .str "2"])]) = true ∧
    pmv [("?x", .str "0")] (.obj p) (.obj [("a", .arr [.str "0", .str "1"])]) = true ∧
    IdxOK p = false := by
  exact ⟨by decide +kernel, by decide +kernel, by decide +kernel, (pmv_eq_eval _ _ _).trans (by decide +kernel),
    (pmv_eq_eval _ _ _).trans (by decide +kernel), by decide +kernel⟩

/-- (b) a pattern array mixing a variable and a number (`["?x",1]`) is rejected by the index (`notSortable`);
the trie's id lists are left unchanged (`mod_failure_harmless`). -/
theorem var_and_number_in_array_rejected :
    (piAdd PI.empty [("a", .arr [.str "?x", .num 1])] "r").2 = some .notSortable ∧
    path (mapToPairs [("a", .arr [.str "?x", .num 1])]) = none := by
  constructor <;> decide +kernel

/-- (c) a property-variable rule `{"?p":1}` is found for `{"a":1}` in an otherwise empty index, but no longer
once another pattern using the concrete key `a` has been added (the `"?"` child is only consulted when the
concrete key is absent). -/
theorem property_variable_hidden :
    let ri1 := (piAdd PI.empty [("?p", .num 1)] "r").1
    let ri2 := (piAdd ri1 [("a", .num 2)] "r2").1
    foundIn (piSearch ri1 [("a", .num 1)]) "r" = true ∧
    foundIn (piSearch ri2 [("a", .num 1)]) "r" = false ∧
    piSearch ri2 [("a", .num 1)] = .ok [] ∧
    IdxOK [("?p", .num 1)] = false := by
  decide +kernel

/-- (d) an event with a heterogeneous array `{"a":[1,"x"]}` is processed normally as long as no indexed
pattern uses the key `a` (the rule on `b` is found), and makes the whole search fail (`notSortable`) as soon
as one does — hiding the rule on `b` as well. -/
theorem hetero_event_array_fails :
    let ev : Obj := [("a", .arr [.num 1, .str "x"]), ("b", .num 1)]
    let ri1 := (piAdd PI.empty [("b", .num 1)] "r").1
    let ri2 := (piAdd ri1 [("a", .num 2)] "r2").1
    foundIn (piSearch ri1 ev) "r" = true ∧
    failsWith (piSearch ri2 ev) .notSortable = true ∧
    EvOK ev = false := by
  decide +kernel

/-- the repairs of `searchPairs` / `SearchPatternsMap` are visible in the model: a pattern ending with an
empty map is found (ids on Map nodes are collected), the empty pattern and a pattern whose only value is an
empty array sit on the root and are found for every event, and boolean arrays are ordered. -/
theorem repaired_shapes_found :
    foundIn (piSearch (piAdd PI.empty [("a", .obj [])] "r").1 [("a", .obj [("x", .num 1)])]) "r" = true ∧
    foundIn (piSearch (piAdd PI.empty [] "r").1 [("a", .num 1)]) "r" = true ∧
    foundIn (piSearch (piAdd PI.empty [("b", .arr [])] "r").1 [("b", .arr [.num 1])]) "r" = true ∧
    foundIn (piSearch (piAdd PI.empty [("a", .arr [.bool true, .bool false])] "r").1
      [("a", .arr [.bool false, .bool true])]) "r" = true ∧
    foundIn (piSearch (piAdd PI.empty [("a", .arr [.null])] "r").1 [("a", .arr [.null])]) "r" = true := by
  decide +kernel

#print axioms mod_adds_at_path
#print axioms mod_rems_at_path
#print axioms mod_failure_harmless
#print axioms mod_fuel_independent
#print axioms search_embeds
#print axioms piSearch_embeds
#print axioms piSearch_succeeds
#print axioms match_embeds
#print axioms index_invariant
#print axioms index_ops_frame
#print axioms index_complete
#print axioms state_index_step
#print axioms state_index_invariant
#print axioms state_index_complete
#print axioms var_and_const_in_array_missed
#print axioms var_and_number_in_array_rejected
#print axioms property_variable_hidden
#print axioms hetero_event_array_fails
#print axioms repaired_shapes_found

/-! ## 6. end to end (composition with C05): dispatch evaluates exactly the matching rules

The theorems above speak about the index and take a specification witness `pmv σ when ev` as a hypothesis.  Here
they are composed with C05 (`match_sound`, `match_ok`: a non-empty matcher answer yields such a witness, and the
matcher does not fail inside the fragments), with the converse of the index invariant (`state_index_sound`: nothing
stale sits in the trie), with `doFindRules`, `FindCachedRules`, `RuleEnabled` and the re-match of `FindRules.Do`
(`processEvent`), into statements about what an `event` op does on one location (no parents: ancestors are C09's).
Lemmas: `RulioProofs/Compose*.lean`; vocabulary: `RulioModel/ComposeFrag.lean`.

Hypotheses that remain, and why:
* `NoneExpired s now` — an expired candidate is purged (with its `deleteWith` cascade) in the middle of the rule
  search, which changes the set of stored rules the specification speaks about (C07 / C08);
* `whenFrag p` for the stored `when` patterns (indexed kind only) = `IdxOK p` (index fragment, outside: the findings
  of section 5), `patOK (.obj p)` (matcher fragment of C05) and `linearPattern p` (no variable twice: C05's soundness
  needs repeated variables bound to scalars, `scalarRepeatsIn`, which is vacuous for linear patterns);
  `EvOK ev`, `dataOK (.obj ev)` for the event (indexed kind only);
* `RuleShapes s` — a stored rule body with a `when` map keeps the pattern under the key `pattern` and has no
  `schedule` key.  Outside, the model's pieces disagree with each other: `GetRulePatterns` (what is indexed and what
  the linear scan matches) falls back to the `when` map itself, `RuleFromMap` (what the event walk re-matches) to the
  empty pattern; and the linear scan ignores a `schedule` key that the specification and the index honour;
* "no error": the statements are about an `event` op whose work tree carries no error; `dispatch_no_error` says
  when that is the case. -/

/-- **Nothing stale sits in the rule index.**  In every reachable indexed state, an id on a trie node is
currently stored as a non-scheduled rule whose `when` pattern's path ends at that node (`IdxSound`, the converse
of `state_index_invariant`).  So a rule that was removed, overwritten by other data, or whose `when` was replaced
is never found on the strength of its former pattern, and `doFindRules` never meets a lost rule. -/
theorem state_index_sound (s : St) (h : IReach s) : IdxSound s := (stIdx_idxSound_of_reach h).2

/-- the trie walk returns only ids that sit in the trie, and none twice (id lists duplicate free) -/
theorem candidates_sit_in_trie (ri : PI) (ev : Obj) (ids : List String) (h : piSearch ri ev = .ok ids) :
    (∀ id ∈ ids, ∃ π, id ∈ ri.idsAt π) ∧ (NodupIds ri → ids.Nodup) :=
  ⟨fun id hid => piSearch_somewhere h id hid, fun hn => piSearch_nodup hn h⟩

set_option linter.unusedVariables false in
/-- **`dispatch_candidates_complete`.**  For every reachable indexed state without expired facts and every event of
the fragments: whenever the dispatch specification (the brute-force matcher loop over the stored, unexpired,
non-scheduled rules) lists `(id, bindings)` — i.e. the matcher returns a non-empty result for the stored `when` of
`id` — and that `when` is in the fragment, `doFindRules` succeeds, leaves the state unchanged, and `id` is among its
candidates.  No matching rule is skipped because of how rules are indexed; no specification witness is assumed.
(`hdev` is not used: `hspec` already says that the matcher did not fail.) -/
theorem dispatch_candidates_complete (s : St) (h : IReach s) (now : Int) (hne : NoneExpired s now)
    (ev : Obj) (hev : EvOK ev = true) (hdev : dataOK (.obj ev) = true)
    (out : List (String × List Bs)) (hspec : specDispatchLocal s.facts ev now = .ok out)
    (id : String) (bss : List Bs) (hmem : (id, bss) ∈ out)
    (hfrag : ∀ f p, (id, f) ∈ s.facts → whenOf f = some p → whenFrag p = true) :
    ∃ cands, s.iFindRules ev now = (s, .ok cands) ∧ id ∈ cands.map (·.1) := by
  obtain ⟨f, pat, hf, _, hw, hm, hnil⟩ := (LocP.specDispatchLocal_mem hspec id bss).1 hmem
  have hfr := hfrag f pat hf hw
  simp only [whenFrag, Bool.and_eq_true] at hfr
  obtain ⟨σ, _, hσ⟩ := match_nonempty_pmv hfr.1.2 hfr.2 hm hnil
  obtain ⟨hwf, _⟩ := ireach_wf h
  obtain ⟨ids', hs', hin⟩ := state_index_complete s h ev id f pat σ (AM.amGet_of_mem_nodup hwf.keys hf) hw
    hfr.1.1 hev hσ
  obtain ⟨ids, cands, hps, hfr', hfst⟩ := iFindRules_total h hne hev
  rw [hps] at hs'; cases hs'
  exact ⟨cands, hfr', by rw [hfst]; exact hin⟩

/-- **`dispatch_exact_local`.**  One `event` op on a location without parents (`locProcessEvent`: `searchRules` →
`RuleEnabled` for every candidate → `processEvent`, composed as in the driver), for **both state kinds**.
In a well-formed state (`WF`; true after every history, `location_history_good`) without expired facts, whose stored
rule bodies have the documented shape, and — for the indexed kind only — reachable, with the stored `when` patterns
in `whenFrag` and the event in `EvOK` / `dataOK`: if the work tree carries no error, then the location is unchanged,
the dispatch specification filtered by the disabled flags (`specFires`) does not fail, and

* every rule node of the tree is an entry of it — same id, exactly the `when` bindings the matcher yields;
* the rule nodes are a prefix of a permutation of it (a failing condition or serial action aborts the walk, C04);
* if the walk was not aborted, the rule nodes are exactly it, up to order.

So indexed dispatch = linear dispatch = specification, with exactly the `when` bindings. -/
theorem dispatch_exact_local (srch : Srch) (c : Ctx) (ev : Obj) (now : Int) (l l' : Loc) (t : Tree)
    (hwf : WF l.st) (hne : NoneExpired l.st now) (hshape : RuleShapes l.st)
    (hidx : l.st.kind = .indexed → IReach l.st ∧ WhenFrag l.st ∧ EvOK ev = true ∧ dataOK (.obj ev) = true)
    (hrun : locProcessEvent srch c ev now l = (l', t)) (herr : t.err = none) :
    l' = l ∧ ∃ out, specFires l.st.facts ev now = .ok out ∧
      (∃ full, full.Perm out ∧ t.fired <+: full) ∧ (∀ x, x ∈ t.fired → x ∈ out) ∧
      (t.aborted = false → t.fired.Perm out) :=
  locProcessEvent_exact srch hwf.keys hne hshape hidx hrun herr

/-- **when the `event` op reports no error**: the guards of the rule search let the caller through (the location
is enabled and the read key fits), every stored `rule` value is a map accepted by `RuleFromMap` (true of rules
added through `AddRule`), and — linear kind — the specification itself does not fail (no matcher error; for the
indexed kind this follows from the fragments).  Then the location is unchanged and the tree carries no error:
a stale index entry never makes a matching event fail (`Rule body missing`, `lost rule`) nor blocks other rules. -/
theorem dispatch_no_error (srch : Srch) (c : Ctx) (ev : Obj) (now : Int) (l : Loc)
    (hwf : WF l.st) (hne : NoneExpired l.st now) (hshape : RuleShapes l.st)
    (hidx : l.st.kind = .indexed → IReach l.st ∧ WhenFrag l.st ∧ EvOK ev = true ∧ dataOK (.obj ev) = true)
    (hvalid : RulesValid l.st) (hmaps : RuleMaps l.st)
    (hg : LocP.guardsVerdict c now l (guardsOf "searchRules") = .ok ())
    (hspecL : l.st.kind = .linear → ∃ out, specDispatchLocal l.st.facts ev now = .ok out) :
    (locProcessEvent srch c ev now l).1 = l ∧ (locProcessEvent srch c ev now l).2.err = none :=
  locProcessEvent_no_error srch hwf.keys hne hshape hidx hvalid hmaps hg hspecL

/-- **after any history of Location operations** (`AddRule`, `RemRule`, `EnableRule`, `AddFact` — also under the id
of a rule —, `RemFact`, `GetFact`, `SearchFacts`, `SearchRules`, `Clear`, whatever they answer) on a fresh location
the state is well-formed and, if indexed, reachable in the sense of `IReach`: the structural hypotheses of
`dispatch_exact_local` hold after every history. -/
theorem location_history_good (name : String) (k : Kind) (ops : List LocOp) :
    WF ((Loc.fresh name k).run ops).st ∧
    (((Loc.fresh name k).run ops).st.kind = .indexed → IReach ((Loc.fresh name k).run ops).st) :=
  stGood_history name k ops

/-- **the ancestor walk on a location without parents is the location's own rule search.**  In a system, for a
location that stores no `!.parents` property fact, `searchRulesAncestors` (`sysSearchRulesAnc`: `DoAncestors`, then the
duplicate-id test) answers exactly what the location's `searchRules` answers and writes the location back — so the
first step of `locProcessEvent` above is the first step of the driver's `event` op (`sysSearchRulesAnc` → `RuleEnabled`
per candidate → `processEvent` with the post actions hidden, their effects applied afterwards) there.  The duplicate-id
test passes because the candidates of one location carry pairwise distinct ids. -/
theorem ancestor_walk_single (sys : Sys) (c : Ctx) (n : String) (ev : Obj) (now : Int) (l : Loc)
    (hget : sys.get? n = some l) (hname : l.name = n)
    (hnp : amGet l.st.facts (genPropId "" "parents") = none)
    (hwf : WF l.st) (hne : NoneExpired l.st now) (hshape : RuleShapes l.st)
    (hidx : l.st.kind = .indexed → IReach l.st ∧ WhenFrag l.st ∧ EvOK ev = true ∧ dataOK (.obj ev) = true) :
    sysSearchRulesAnc sys c n ev now =
      (((sys.put l).put (locSearchRules c ev now l).1), (locSearchRules c ev now l).2) :=
  sysSearchRulesAnc_single sys c n ev now l hget hname hnp fun rs hrs =>
    ((rulesPure_spec hwf.keys hne hshape hidx).1 rs (by rw [locSearchRules_quiet hwf.keys hne] at hrs; exact hrs)).1

/-- non-vacuity: on the location history `ComposeEx.cxLoc k` (a rule replaced, a rule disabled, a rule id
overwritten by a plain fact; either kind) every hypothesis of `dispatch_no_error` and `dispatch_exact_local` holds
for the event `{"wants":"tacos","likes":["chips","tacos"]}`, so the event reports no error and its rule nodes are
exactly the specification's -/
example (k : Kind) (srch : Srch) :
    (locProcessEvent srch {} ComposeEx.cxEv 7 (ComposeEx.cxLoc k)).2.err = none ∧
    ∃ out, specFires (ComposeEx.cxLoc k).st.facts ComposeEx.cxEv 7 = .ok out ∧
      ∀ x, x ∈ (locProcessEvent srch {} ComposeEx.cxEv 7 (ComposeEx.cxLoc k)).2.fired → x ∈ out := by
  have h1 := dispatch_no_error srch {} ComposeEx.cxEv 7 (ComposeEx.cxLoc k) (ComposeEx.cx_good k).1
    (ComposeEx.cx_noneExpired k) (ComposeEx.cx_shapes k) (ComposeEx.cx_idx k) (ComposeEx.cx_valid k) (ComposeEx.cx_maps k)
    (ComposeEx.cx_guards k) (fun _ => ComposeEx.cx_spec k)
  generalize hrun : locProcessEvent srch {} ComposeEx.cxEv 7 (ComposeEx.cxLoc k) = res at h1 ⊢
  obtain ⟨l', t⟩ := res
  obtain ⟨_, out, ho, _, hsub, _⟩ := dispatch_exact_local srch {} ComposeEx.cxEv 7 (ComposeEx.cxLoc k) l' t
    (ComposeEx.cx_good k).1 (ComposeEx.cx_noneExpired k) (ComposeEx.cx_shapes k) (ComposeEx.cx_idx k) hrun h1.2
  exact ⟨h1.2, out, ho, hsub⟩

/-- non-vacuity of `ancestor_walk_single`: the instance as a one-location system -/
example (k : Kind) : sysSearchRulesAnc [("home", ComposeEx.cxLoc k)] {} "home" ComposeEx.cxEv 7 =
    ((Sys.put (Sys.put [("home", ComposeEx.cxLoc k)] (ComposeEx.cxLoc k))
        (locSearchRules {} ComposeEx.cxEv 7 (ComposeEx.cxLoc k)).1),
      (locSearchRules {} ComposeEx.cxEv 7 (ComposeEx.cxLoc k)).2) :=
  ancestor_walk_single _ {} "home" ComposeEx.cxEv 7 (ComposeEx.cxLoc k) (ComposeEx.cx_sys k).2.2 (ComposeEx.cx_sys k).1
    (ComposeEx.cx_sys k).2.1 (ComposeEx.cx_good k).1 (ComposeEx.cx_noneExpired k) (ComposeEx.cx_shapes k)
    (ComposeEx.cx_idx k)

/-- non-vacuity of `dispatch_candidates_complete`: its hypotheses hold on the indexed instance -/
example : IReach (ComposeEx.cxLoc .indexed).st ∧ NoneExpired (ComposeEx.cxLoc .indexed).st 7 ∧
    EvOK ComposeEx.cxEv = true ∧ dataOK (.obj ComposeEx.cxEv) = true ∧ WhenFrag (ComposeEx.cxLoc .indexed).st ∧
    ∃ out, specDispatchLocal (ComposeEx.cxLoc .indexed).st.facts ComposeEx.cxEv 7 = .ok out :=
  ⟨(ComposeEx.cx_good .indexed).2 (ComposeEx.cx_kind .indexed), ComposeEx.cx_noneExpired _, ComposeEx.cx_ev.1,
   ComposeEx.cx_ev.2, ComposeEx.cx_whenFrag _, ComposeEx.cx_spec _⟩

#print axioms state_index_sound
#print axioms candidates_sit_in_trie
#print axioms dispatch_candidates_complete
#print axioms dispatch_exact_local
#print axioms dispatch_no_error
#print axioms location_history_good
#print axioms ancestor_walk_single
