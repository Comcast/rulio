import RulioModel.Gen.Loc
import RulioProofs.ComposeMatch
import RulioProofs.StateExamples
import RulioProofs.PatIndexState

/-! # C02 — fact search returns exactly the stored facts that match; get; ids

Model: `RulioModel/State.lean` (`ExtractTerms`, `TermIndex`, `IndexedState.search`, `LinearState.search`, `Get`,
`Add`), `RulioModel/Fact.lean` (`PrepareFact`, `GenId`); specification `specSearch` in `RulioModel/Spec.lean`;
invariants, fragments and `St.fuelOK`/`St.searchOK` (the budget `St.fuel = 6·|facts| + 12 + tiWidth` and the public
`St.search` under a second name) in `RulioModel/StateInv.lean`.

Hypotheses used below:
* `WF s` — holds for every reachable state (`reachable_wf` in `Props/C08.lean`): unique ids, term-index completeness;
* `NoneExpired s now` — no stored fact is expired at `now` (an expired candidate is purged by a cascade first);
* `TermOK p` — the pattern has no optional variables and no variable keys (known findings outside);
* `MatcherSoundOn s.facts p` — **explicit hypothesis, provided by C05** (`match_sound`): whenever the matcher
  returns a binding for `p` on a stored fact, some binding lays `p` over that fact (`pmv`). -/

/-! ## the term index is a complete candidate filter -/

/-- **pmv_terms_subset.** If the pattern (without variable keys) lies over the fact, every term extracted from the
pattern is a term of the fact: keys are present, constants equal, array elements are matched injectively; values
under `rule` and under keys ending in `!` are skipped on both sides; variables contribute no term. -/
theorem pmv_terms_subset (σ : Bs) (p f : Obj) (hp : pmv σ (.obj p) (.obj f) = true) (hok : TermOK p = true) :
    ∀ t, t ∈ extractTerms p → t ∈ extractTerms f := by
  intro t ht
  have hnv : noVarKeysO p = true := by simp only [TermOK, Bool.and_eq_true] at hok; exact hok.1
  rw [pmv_obj] at hp
  rw [mem_extractTerms] at ht ⊢
  exact pmv_termsO σ p f f hnv hp t ht

/-- **ti_complete.** Under term-index completeness, `TermIndex.Search` returns every stored id whose fact carries
all the searched terms (stale extra candidates are allowed and re-matched away). -/
theorem ti_complete (s : St) (p : Obj) (htiok : TIOK s) (hne : extractTerms p ≠ []) (id : String) (fact : Obj)
    (hm : (id, fact) ∈ s.facts) (hsub : ∀ t, t ∈ extractTerms p → t ∈ extractTerms fact) :
    ∃ ids, TI.search s.ti (extractTerms p) = .ok ids ∧ id ∈ ids :=
  TI.search_complete hne (fun t ht => htiok id fact hm t (hsub t ht))

/-- the index is kept complete by every history: `WF` contains `TIOK` for indexed states -/
theorem termindex_inv (ops : List StOp) : TIOK (St.run { kind := .indexed } ops) :=
  (run_wf (wf_empty .indexed) ops).tiok (run_kind _ ops)

/-! ## search = specification -/

/-- **Linear search is the specification**, literally: same (id, bindings) pairs in the order of the stored facts,
and the same error when the matcher fails on some fact. (`St.searchOK` and `St.search` are the same function, see
`RulioModel/StateInv.lean`; `search_fuel_irrelevant` covers every larger budget.) -/
theorem search_linear_exact (s : St) (now : Int) (p : Obj) (hk : s.kind = .linear) (hwf : WF s)
    (hne : NoneExpired s now) :
    (∃ r, s.searchOK p now = (s, r) ∧ r.map projRes = specSearch s.facts p now) ∧
    (∃ r, s.search p now = (s, r) ∧ r.map projRes = specSearch s.facts p now) :=
  ⟨searchWith_linear hk hwf.keys hne p (Nat.le_refl _),
   St.search_eq_searchWith s p now ▸ searchWith_linear hk hwf.keys hne p (Nat.le_refl _)⟩

/-- **search_exact_partial (indexed).** For a pattern in `TermOK`, under the C05 hypothesis `MatcherSoundOn`, whenever
the specification does not fail, the indexed search returns exactly the specification's (id, bindings) pairs —
no more, no fewer — up to order, and leaves the state unchanged.
*Partial* because (1) matcher soundness is a hypothesis here, (2) if the matcher fails on a stored fact that is not a
candidate, the specification (and the linear state) report the error while the indexed search may succeed; see
`search_indexed_error`. Full statement intended: the same without `hspec`, with equality of errors. -/
theorem search_exact_partial (s : St) (now : Int) (p : Obj) (R : List (String × List Bs))
    (hk : s.kind = .indexed) (hwf : WF s) (hne : NoneExpired s now) (hterm : TermOK p = true)
    (hsound : MatcherSoundOn s.facts p) (hspec : specSearch s.facts p now = .ok R) :
    ∃ R', s.searchOK p now = (s, .ok R') ∧ (projRes R').Perm R :=
  searchWith_indexed hk hwf hne hterm hsound hspec (Nat.le_refl _)

/-- an error of the indexed search is an error of the specification (not conversely) -/
theorem search_indexed_error (s : St) (now : Int) (p : Obj) (e : LErr)
    (hk : s.kind = .indexed) (hwf : WF s) (hne : NoneExpired s now) (hterm : TermOK p = true)
    (hsound : MatcherSoundOn s.facts p) (herr : (s.searchOK p now).2 = .error e) :
    ∃ e', specSearch s.facts p now = .error e' :=
  searchWith_indexed_err hk hwf hne hterm hsound (Nat.le_refl _) herr

/-- **The two state kinds agree**: on the same stored facts, an indexed and a linear state return the same
(id, bindings) pairs up to order (inside the fragment, when the matcher does not fail). -/
theorem search_kinds_agree (si sl : St) (now : Int) (p : Obj) (R : List (String × List Bs))
    (hki : si.kind = .indexed) (hkl : sl.kind = .linear) (hfacts : si.facts = sl.facts)
    (hwi : WF si) (hwl : WF sl) (hni : NoneExpired si now) (hterm : TermOK p = true)
    (hsound : MatcherSoundOn si.facts p) (hspec : specSearch si.facts p now = .ok R) :
    ∃ Ri Rl, si.searchOK p now = (si, .ok Ri) ∧ sl.searchOK p now = (sl, .ok Rl) ∧ (projRes Ri).Perm (projRes Rl) := by
  obtain ⟨Ri, h1, h2⟩ := search_exact_partial si now p R hki hwi hni hterm hsound hspec
  obtain ⟨Rl, h3, h4⟩ := searchWith_linear_ok hkl hwl.keys (fun e he => hni e (hfacts ▸ he)) (hfacts ▸ hspec) (Nat.le_refl _)
  exact ⟨Ri, Rl, h1, h3, h4 ▸ h2⟩

/-- the budget is irrelevant for `search` too: any budget ≥ `St.fuelOK s` gives the result of `searchOK` -/
theorem search_fuel_irrelevant (s : St) (now : Int) (p : Obj) (hne : NoneExpired s now) (g : Nat) (hg : s.fuelOK ≤ g) :
    s.searchWith g p now = s.searchOK p now := by
  simp only [St.searchWith, St.searchOK]
  cases s.kind with
  | indexed => simp only; rw [isearch_eq_ispec hne p hg, isearch_eq_ispec hne p (Nat.le_refl _)]
  | linear => simp only; rw [lsearch_eq_lspec hne p hg, lsearch_eq_lspec hne p (Nat.le_refl _)]

/-! ## get returns the last write -/

/-- **get_last_write (1).** After a successful `add`, the id holds the prepared fact (for the indexed state: with the
rule body as `ExtractRule` leaves it), and `get` returns it as long as it has not expired. -/
theorem get_after_add (s : St) (given : String) (x : Obj) (now now' : Int) (id : String)
    (h : (s.add given x now).2 = .ok id) :
    ∃ fact, amGet (s.add given x now).1.facts id = some fact ∧
      (∃ m x', prepareFact given s.freshId x now = .ok (id, m, x') ∧
        (fact = m ∨ ∃ rule, extractRule m false = .ok (rule, fact))) ∧
      (checkExpiration fact now' = .ok false → (s.add given x now).1.get id now' = ((s.add given x now).1, .ok fact)) := by
  obtain ⟨fact, ha⟩ := add_shape_of_eq (Prod.ext rfl h : s.add given x now = (_, .ok id))
  have hg : amGet (s.add given x now).1.facts id = some (memForm s.kind fact) := by
    rw [ha.facts, AM.amGet_amSet_self]
  obtain ⟨x', hp⟩ := ha.prep
  exact ⟨_, hg, ⟨fact, x', hp, memForm_cases s.kind fact⟩, fun hx => St.get_live hg hx⟩

/-- **get_last_write (2).** An `add` (successful or not) does not change what any other id holds;
a failed `add` changes no fact at all. -/
theorem get_other_after_add (s : St) (given : String) (x : Obj) (now : Int) :
    (∀ id, (s.add given x now).2 = .ok id → ∀ id', id' ≠ id →
      amGet (s.add given x now).1.facts id' = amGet s.facts id') ∧
    (∀ e, (s.add given x now).2 = .error e → (s.add given x now).1.facts = s.facts) := by
  rcases add_shape s given x now with ⟨e, he, hf⟩ | ⟨id', fact, hok, ha⟩
  · exact ⟨fun id h => (by rw [he] at h; cases h), fun _ _ => hf.facts⟩
  · refine ⟨fun id h id' hne => ?_, fun e h => (by rw [hok] at h; cases h)⟩
    rw [hok] at h; injection h with h; subst h
    rw [ha.facts, AM.amGet_amSet, if_neg hne]

/-- **get_last_write (3).** After a `rem id` that returned without error (`St.remOK` and `St.rem` are the same
function) the id is gone:
`get` answers not-found. -/
theorem get_after_rem (s s' : St) (id : String) (now now' : Int) (b : Bool)
    (h : s.remOK id now = (s', .ok b) ∨ s.rem id now = (s', .ok b)) :
    s'.get id now' = (s', .error "notFound") := by
  rcases h with h | h
  · exact St.get_absent (St.remWith_ok_gone (g := s.fuelOK) h).1
  · exact St.get_absent (St.rem_ok_gone h).1

/-- **get_last_write (4).** `get` on a stored, unexpired fact returns it and changes nothing; on an absent id it
answers not-found (both kinds). -/
theorem get_reads (s : St) (id : String) (now : Int) :
    (∀ fact, amGet s.facts id = some fact → checkExpiration fact now = .ok false → s.get id now = (s, .ok fact)) ∧
    (amGet s.facts id = none → s.get id now = (s, .error "notFound")) :=
  ⟨fun _ hg hx => St.get_live hg hx, fun hg => St.get_absent hg⟩

/-! ## ids -/

/-- **ids_kept_or_fresh (GenId).** A property fact gets the canonical id `!id.prop`; otherwise a caller-supplied
non-empty id that is not variable-looking is kept; otherwise the fresh id is used; a variable-looking id is rejected. -/
theorem genId_cases (x : Obj) (given fresh : String) :
    (∀ pid prop v, parseProp x = .ok (some (pid, prop, v)) → genId x given fresh = .ok ("!" ++ pid ++ "." ++ prop)) ∧
    (parseProp x = .ok none → given ≠ "" → isVar given = false → genId x given fresh = .ok given) ∧
    (parseProp x = .ok none → isVar fresh = false → genId x "" fresh = .ok fresh) ∧
    (parseProp x = .ok none → given ≠ "" → isVar given = true → genId x given fresh = .error "badIdVar") := by
  refine ⟨?_, ?_, ?_, ?_⟩
  · intro pid prop v h; rw [genId_eq, h]; rfl
  · intro h hg hv; simp [genId_eq, h, hg, hv]
  · intro h hv; simp [genId_eq, h, hv]
  · intro h hg hv; simp [genId_eq, h, hg, hv]

/-- **ids_kept_or_fresh (Add).** The id under which a successful `add` stores the fact is: the canonical property id
for a property fact; the caller's id when one was given; the state's fresh id when none was given — then the fresh
counter advances, and for a state satisfying `FreshOK` (every reachable state, `reachable_fresh`) that id was not in
use. It is never variable-looking. -/
theorem ids_kept_or_fresh (s : St) (given : String) (x : Obj) (now : Int) (id : String)
    (h : (s.add given x now).2 = .ok id) :
    isVar id = false ∧
    (∀ pid prop v, parseProp x = .ok (some (pid, prop, v)) → id = "!" ++ pid ++ "." ++ prop) ∧
    (parseProp x = .ok none → given ≠ "" → id = given) ∧
    (parseProp x = .ok none → given = "" →
      id = s.freshId ∧ (s.add given x now).1.fresh = s.fresh + 1 ∧ (FreshOK s → amGet s.facts id = none)) := by
  have hgen := add_id_genId h
  refine ⟨genId_isVar hgen, ?_, ?_, ?_⟩
  · intro pid prop v hp
    rcases genId_ok hgen with ⟨pid', prop', v', hp', rfl⟩ | ⟨hp', _, _⟩
    · rw [hp] at hp'; injection hp' with hp'; injection hp' with hp'
      injection hp' with h1 h2; injection h2 with h2 h3
      subst h1; subst h2; simp [genPropId]
    · rw [hp] at hp'; cases hp'
  · intro hp hg
    rcases genId_ok hgen with ⟨pid', prop', v', hp', _⟩ | ⟨_, hid, _⟩
    · rw [hp] at hp'; cases hp'
    · simpa [hg] using hid
  · intro hp hg
    subst hg
    have hid : id = s.freshId := by
      rcases genId_ok hgen with ⟨pid', prop', v', hp', _⟩ | ⟨_, hid, _⟩
      · rw [hp] at hp'; cases hp'
      · simpa using hid
    refine ⟨hid, ?_, fun hf => hid ▸ freshId_not_stored hf⟩
    obtain ⟨m, ha⟩ := add_shape_of_eq (Prod.ext rfl h : s.add "" x now = (_, .ok id))
    rw [ha.fresh, hid]; simp

/-- **Generated ids stay fresh.** In every state reachable by a history whose caller-supplied ids never have the
shape `fresh#n` of a generated id, no stored id is `fresh#n` with `n ≥` the fresh counter — so a generated id never
overwrites a stored fact. (The real code draws a UUID; the model's counter needs the side condition.) -/
theorem reachable_fresh (k : Kind) (ops : List StOp) (hu : ∀ op, op ∈ ops → op.userIds) :
    FreshOK (St.run { kind := k } ops) :=
  run_freshOK (fun e he => by simp at he) ops hu

/-! ## non-vacuity -/

/-- the hypotheses of the search theorems hold on a non-trivial reachable state of each kind for the pattern
`{"deleteWith":["b"]}` (here the C05 hypothesis is *proved*, `matcherSound_depPat`), so the searches of both kinds
return the specification's answer; the history overwrites `a`, generates an id and stores a property fact -/
example (k : Kind) :
    WF (St.run { kind := k } searchOps) ∧ NoneExpired (St.run { kind := k } searchOps) 0 ∧
    TermOK (depPat "b") = true ∧ MatcherSoundOn (St.run { kind := k } searchOps).facts (depPat "b") ∧
    (St.run { kind := k } searchOps).facts.map (·.1) = ["a", "b", "fresh#0", "!b.color"] ∧
    FreshOK (St.run { kind := k } searchOps) ∧
    (∃ R, specSearch (St.run { kind := k } searchOps).facts (depPat "b") 0 = .ok R) := by
  obtain ⟨hne, hids, _, huser, ⟨hterm, hb⟩, _⟩ := searchOps_facts k
  exact ⟨run_wf (wf_empty k) _, noneExpired_of_check hne, hterm, (matcherSound_depPat "b" hb).on _, hids,
    reachable_fresh k _ fun op hop => StOp.userIds_of_check (List.all_eq_true.1 huser op hop),
    specSearch_depPat_ok _ "b" hb 0⟩

/-- the hypotheses of `pmv_terms_subset` are satisfiable: the cascade pattern lies over a fact naming `b` -/
example : ∃ σ, pmv σ (.obj (depPat "b")) (.obj [("deleteWith", J.arr [.str "b", .str "zz"])]) = true ∧
    TermOK (depPat "b") = true := by
  obtain ⟨σ, hσ⟩ := matcherSound_depPat "b" (by decide +kernel) [("deleteWith", J.arr [.str "b", .str "zz"])] [[]]
    (by rw [matchesJ_depPat "b" (by decide +kernel)]; rfl) (by simp)
  exact ⟨σ, hσ, by decide +kernel⟩

/-! ## search = specification, the matcher hypothesis discharged by C05 (composition)

`search_exact_partial` above takes matcher soundness (`MatcherSoundOn`) and "the specification does not fail" as
hypotheses.  Both follow from C05 (`match_sound`, `match_ok`; `RulioProofs/ComposeMatch.lean`) for
* a pattern of the matcher fragment, `patOK (.obj p)` (constant keys, no optional variable, at most one variable
  and pairwise distinct scalar constants per array) — this implies `TermOK p` (`patOK_termOK`);
* a **linear** pattern, `linearPattern p` (no variable occurs twice): C05's soundness needs every variable that
  occurs more than once to be bound to a scalar (`scalarRepeatsIn`; outside, `repeated_var_structured_counterexample`
  of C05 applies), and for a linear pattern with empty incoming bindings there is no such variable;
* stored facts of the data fragment, `FactsOK s` (ground, scalars of one array pairwise distinct — facts come from
  decoded JSON), or the weaker `FactsOKFor s.facts p` which also tolerates stored facts that are not ground data
  (rules whose `when` holds variables) as long as the matcher plainly answers "no match" on them.

Hypotheses that remain: `WF s` (true of every reachable state: `reachable_wf`, `search_exact_reachable`),
`NoneExpired s now` (an expired candidate is purged first, with its cascade: C07/C08), and the three fragment
hypotheses above. -/

/-- **search_exact (indexed).** For a linear pattern of the matcher fragment and stored facts of the data fragment,
in a well-formed indexed state without expired facts: the specification does not fail, and the indexed search
returns exactly its (id, bindings) pairs — no more, no fewer — up to order, leaving the state unchanged. -/
theorem search_exact (s : St) (now : Int) (p : Obj)
    (hk : s.kind = .indexed) (hwf : WF s) (hne : NoneExpired s now)
    (hp : patOK (.obj p) = true) (hlin : linearPattern p = true) (hF : FactsOKFor s.facts p) :
    ∃ R R', specSearch s.facts p now = .ok R ∧ s.searchOK p now = (s, .ok R') ∧ (projRes R').Perm R := by
  obtain ⟨R, hR⟩ := specSearch_total hp hF now
  obtain ⟨R', h1, h2⟩ := search_exact_partial s now p R hk hwf hne (patOK_termOK hp)
    ((matcherSound_of_frag hp hlin).on _) hR
  exact ⟨R, R', hR, h1, h2⟩

/-- **search_exact for every reachable indexed state**: after any history of `add` / `rem` (with its cascade) /
`get` / `search` / `findRules` / `clear` on the indexed state (`IReach`; well-formedness is derived, `ireach_wf`),
with the public recursion budget `St.search` uses. -/
theorem search_exact_reachable (s : St) (h : IReach s) (now : Int) (p : Obj) (hne : NoneExpired s now)
    (hp : patOK (.obj p) = true) (hlin : linearPattern p = true) (hF : FactsOK s) :
    ∃ R R', specSearch s.facts p now = .ok R ∧ s.search p now = (s, .ok R') ∧ (projRes R').Perm R := by
  obtain ⟨hwf, hk⟩ := ireach_wf h
  exact search_exact s now p hk hwf hne hp hlin (hF.for p)

/-- **indexed = linear = specification.** On the same stored facts, an indexed and a linear state both answer the
specification: the linear one literally, the indexed one up to order.  No matcher hypothesis. -/
theorem search_exact_both_kinds (si sl : St) (now : Int) (p : Obj)
    (hki : si.kind = .indexed) (hkl : sl.kind = .linear) (hfacts : si.facts = sl.facts)
    (hwi : WF si) (hwl : WF sl) (hni : NoneExpired si now)
    (hp : patOK (.obj p) = true) (hlin : linearPattern p = true) (hF : FactsOKFor si.facts p) :
    ∃ R Ri Rl, specSearch si.facts p now = .ok R ∧ si.searchOK p now = (si, .ok Ri) ∧
      sl.searchOK p now = (sl, .ok Rl) ∧ projRes Rl = R ∧ (projRes Ri).Perm R := by
  obtain ⟨R, Ri, hR, h1, h2⟩ := search_exact si now p hki hwi hni hp hlin hF
  obtain ⟨Rl, h3, h4⟩ := searchWith_linear_ok hkl hwl.keys (fun e he => hni e (hfacts ▸ he)) (hfacts ▸ hR) (Nat.le_refl _)
  exact ⟨R, Ri, Rl, hR, h1, h3, h4, h2⟩

/-- non-vacuity: the hypotheses of `search_exact` hold for the reachable indexed state of `searchOps` (an overwrite,
a generated id, a property fact) and a pattern with a variable next to a constant in an array; so its conclusion
holds there: the indexed search answers the specification -/
example :
    (WF (St.run { kind := .indexed } searchOps) ∧ NoneExpired (St.run { kind := .indexed } searchOps) 0 ∧
     patOK (.obj searchPatVar) = true ∧ linearPattern searchPatVar = true ∧
     FactsOK (St.run { kind := .indexed } searchOps)) ∧
    ∃ R R', specSearch (St.run { kind := .indexed } searchOps).facts searchPatVar 0 = .ok R ∧
      (St.run { kind := .indexed } searchOps).searchOK searchPatVar 0 = (St.run { kind := .indexed } searchOps, .ok R') ∧
      (projRes R').Perm R := by
  have hyps : WF (St.run { kind := .indexed } searchOps) ∧ NoneExpired (St.run { kind := .indexed } searchOps) 0 ∧
      patOK (.obj searchPatVar) = true ∧ linearPattern searchPatVar = true ∧
      FactsOK (St.run { kind := .indexed } searchOps) := by
    obtain ⟨hne, _, hdata, _, _, hpat, hlin⟩ := searchOps_facts .indexed
    exact ⟨run_wf (wf_empty _) _, noneExpired_of_check hne, hpat, hlin, fun e he => List.all_eq_true.1 hdata e he⟩
  exact ⟨hyps, search_exact _ 0 searchPatVar (run_kind _ _) hyps.1 hyps.2.1 hyps.2.2.1 hyps.2.2.2.1
    (hyps.2.2.2.2.for _)⟩

/-! ## Which Go types the term extractor understands

`extractTerms` of the model sees JSON. The real `extractTermsAux` sees Go values: JSON decoding yields `[]interface{}` and
`map[string]interface{}`, the Javascript runtime (facts written by rule actions) also `[]string` and
`[]map[string]interface{}`. A value of a type without a case is silently not indexed, and the fact is then not found by
the indexed state until it is reloaded. The table is regenerated from `core/state_indexed.go` on every run. -/

/-- the term extractor has a case for every shape in which strings, maps and arrays reach it -/
theorem term_extractor_types :
    Gen.termTypes = [["string", "map[string]interface{}", "[]interface{}", "[]string", "[]map[string]interface{}", "default"]] := rfl
