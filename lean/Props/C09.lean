import RulioProofs.CloseDiverge
import RulioProofs.FirstVisits
import RulioModel.Gen.Loc

open AM

/-! # C09 — locations are isolated except through declared parents

Model: `RulioModel/Loc.lean` (`Sys`, `Sys.at`, `doAncestors`, `sysSearchFacts`, …), validated against
`core/location.go` by the differential runs of the C09 check. Vocabulary: `RulioModel/SysInv.lean`. -/

/-- **frame** — an operation addressed to location `n` (any name-preserving single-location computation;
every model method is one: `loc*_via … .keepsId.keepsName`, `RulioProofs/LocVia.lean`) changes only the component `n` of a well-formed system. -/
theorem frame {α} {sys : Sys} (wf : SysWF sys) (n : String) {m : LM α} (hm : m.KeepsName)
    {n' : String} (hne : n' ≠ n) : (sys.at n m).1.get? n' = sys.get? n' :=
  Sys.at_frame wf n hm hne

/-- well-formedness (unique names, every location filed under its own name) is an invariant of `Sys.at` -/
theorem frame_wf {α} {sys : Sys} (wf : SysWF sys) (n : String) (m : LM α) : SysWF (sys.at n m).1 :=
  Sys.at_wf wf n m

/-- … and of `Sys.put` -/
theorem frame_wf_put {sys : Sys} (wf : SysWF sys) (l : Loc) : SysWF (sys.put l) := wf.put l

/-- every exported method of the location model is name-preserving, so `frame` applies to all of them
(shown here for the mutating ones and the two searches; the others are in `RulioProofs/SysBasic.lean`) -/
theorem frame_applies (c : Ctx) (id : String) (x : Obj) (ps : List String) (b : Bool) (now : Int) :
    (locAddFact c id x now).KeepsName ∧ (locRemFact c id now).KeepsName ∧ (locAddRule c id x now).KeepsName ∧
    (locRemRule c id now).KeepsName ∧ (locEnableRule c id b now).KeepsName ∧ (locSetParents c ps now).KeepsName ∧
    (locClear c now).KeepsName ∧ (locSearchFacts c x now).KeepsName ∧ (locSearchRules c x now).KeepsName :=
  ⟨(locAddFact_via c id x now).keepsId.keepsName, (locRemFact_via c id now).keepsId.keepsName,
   (locAddRule_via c id x now).keepsId.keepsName, (locRemRule_via c id now).keepsId.keepsName,
   (locEnableRule_via c id b now).keepsId.keepsName, (locSetParents_via c ps now).keepsId.keepsName,
   (locClear_via c now).keepsId.keepsName, (locSearchFacts_via c x now).keepsId.keepsName,
   (locSearchRules_via c x now).keepsId.keepsName⟩

example : SysWF (Sys.fresh .indexed ["a", "b", "c"]) := Sys.fresh_wf _ (by decide)

/-- **ancestors_fuel_suffices** — the names on the current path are pairwise distinct known locations and
every recursive call extends the path, so once `fuel + path.length > sys.length` the walk never reaches its
`diverge` branch: any larger fuel gives the very same result (state and value). -/
theorem ancestors_fuel_suffices {α} {now : Int} {fn : String → LM α} (hfn : ∀ n, (fn n).KeepsName)
    {sys : Sys} (wf : SysWF sys) {path : List String} (hp : PathOK sys path) (n : String) (acc : List α)
    {fuel fuel' : Nat} (hb : sys.length + 1 ≤ fuel + path.length) (hle : fuel ≤ fuel') :
    doAncestors fuel' sys n now fn acc path = doAncestors fuel sys n now fn acc path :=
  (doAncestors_fits hfn wf hp hb hle n acc).1

/-- in particular the model's `ancestorFuel sys = sys.length + 2` always suffices -/
theorem ancestorFuel_suffices {α} {now : Int} {fn : String → LM α} (hfn : ∀ n, (fn n).KeepsName)
    {sys : Sys} (wf : SysWF sys) (n : String) (acc : List α) {fuel' : Nat} (hle : ancestorFuel sys ≤ fuel') :
    doAncestors fuel' sys n now fn acc = doAncestors (ancestorFuel sys) sys n now fn acc :=
  (doAncestors_fits_own hfn wf hle n acc).1

/-- **ancestors_never_diverge_partial** — under the same fuel bound the walk never answers `diverge`, provided `fn` and
the parent read do not produce that very string themselves. (Partial: that the state model's `Get` never fails with
the literal "diverge" — its errors are `notFound`, `badExpires`, `fuel`, index and matcher errors — is a hypothesis
here; `ancestors_fuel_suffices` above needs no such hypothesis and already says the fuel-exhausted branch is
irrelevant.) -/
theorem ancestors_never_diverge_partial {α} {now : Int} {fn : String → LM α} (hfn : ∀ n, (fn n).KeepsName)
    (hfnd : ∀ m l, (fn m l).2 ≠ .error "diverge") (hrd : ∀ l, (locGetParentsRaw now l).2 ≠ .error "diverge")
    {sys : Sys} (wf : SysWF sys) (n : String) (acc : List α) :
    (doAncestors (ancestorFuel sys) sys n now fn acc).2 ≠ .error "diverge" :=
  (doAncestors_fits_own hfn wf (Nat.le_refl _) n acc).2 hfnd hrd

/-- **loop_reported** — if the chain of first declared parents `n → m₁ → … → mₖ → last` comes back to `n`,
to an earlier member of the chain or to a name on the current path, the walk answers the `AncestorLoop`
error (it neither recurses forever nor runs out of fuel), whatever `fn` is. -/
theorem loop_reported {α} {now : Int} (fn : String → LM α) {sys : Sys} (wf : SysWF sys) {n last : String}
    {mid path : List String} (hc : chainFP sys now n mid last = true) (hnd : (n :: mid).Nodup)
    (hnp : ∀ x ∈ n :: mid, x ∉ path) (hlast : last ∈ n :: mid ∨ last ∈ path) (hpk : ∀ p ∈ path, p ∈ sys.keys)
    {fuel : Nat} (hf : mid.length + 2 ≤ fuel) (acc : List α) :
    (doAncestors fuel sys n now fn acc path).2 = .error "loop" :=
  doAncestors_loop fn mid sys n last path fuel acc wf hc hnd hnp hlast hpk hf

/-- self loop `a → a`, built with the model's `SetParents`: inherited search answers `loop` -/
example (k : Kind) (c : Ctx) (p : Obj) :
    (sysSearchFacts (exSelfLoop k) c "a" p true 7).2 = .error "loop" :=
  sysSearchFacts_loop (Sys.at_wf (sysFresh_ab_wf k) _ _) (mid := []) (by cases k <;> decide +kernel) (by decide) c p

/-- indirect loop `a → b → a` (the case that used to overflow the Go stack): reported as `loop` -/
example (k : Kind) (c : Ctx) (p : Obj) :
    (sysSearchFacts (exIndirectLoop k) c "a" p true 7).2 = .error "loop" :=
  sysSearchFacts_loop (Sys.at_wf (Sys.at_wf (sysFresh_ab_wf k) _ _) _ _) (mid := ["b"]) (by cases k <;> decide +kernel)
    (by decide) c p

/-- **parents_immediate** — after a successful `SetParents ps` at `n`, the very next parent read that
`DoAncestors` performs at `n` (at any time) returns exactly `ps` and leaves the system unchanged: the
`!parents` property fact is stored under the id `!.parents`, which is what `getParents` reads. -/
theorem parents_immediate {sys sys' : Sys} (wf : SysWF sys) {c : Ctx} {n : String} {ps : List String}
    {now : Int} {r : String} (h : sys.at n (locSetParents c ps now) = (sys', .ok r)) (now' : Int) :
    sys'.at n (locGetParentsRaw now') = (sys', .ok ps) := by
  obtain ⟨l, hg, _⟩ := Sys.at_ok_get? h
  rw [Sys.at_some _ hg] at h
  cases hs : locSetParents c ps now l with
  | mk l' r' =>
    rw [hs] at h
    cases h
    have hg' : (sys.put l').get? n = some l' := by
      have := Sys.at_self wf (locSetParents_via c ps now).keepsId.keepsName hg
      rwa [Sys.at_some _ hg, hs] at this
    rw [Sys.at_some _ hg', setParents_then_get hs now']
    simp only [Sys.put_same (wf.put l') hg']

/-- hence the next walk from `n` iterates over the new list (one unfolding of `DoAncestors`) -/
theorem parents_immediate_walk {α} {sys sys' : Sys} (wf : SysWF sys) {c : Ctx} {n : String} {ps : List String}
    {now : Int} {r : String} (h : sys.at n (locSetParents c ps now) = (sys', .ok r)) (now' : Int)
    (fn : String → LM α) (acc : List α) (fuel : Nat) :
    doAncestors (fuel + 1) sys' n now' fn acc [] =
      if noProv sys' n ps then (sys', .error "noProvider") else
      match walkList (fun s p a => doAncestors fuel s p now' fn a [n]) n sys' ps acc with
      | (sys2, .error e) => (sys2, .error e)
      | (sys2, .ok acc2) =>
        match sys2.at n (fn n) with
        | (sys3, .error e) => (sys3, .error e)
        | (sys3, .ok a) => (sys3, .ok (acc2 ++ [a])) :=
  doAncestors_succ_of_read (parents_immediate wf h now') rfl fuel fn acc

example (k : Kind) : isOk ((Sys.fresh k ["a", "b"]).at "a" (locSetParents {} ["b"] 0)).2 = true := by
  cases k <;> decide +kernel

/-- **noninterference** (general form) — let `S` be any set of names that contains `n` and is closed under the
declared-parent relation of `sys1` (every parent list readable from a member's `!parents` fact lies in `S`).
If two well-formed systems have the same components on `S`, then `SearchFacts` at `n` (inherited or not)
returns the same outcome in both — same matches or same error — and the two systems still agree on `S`
(and `S` is still closed) afterwards, so the statement chains over histories. -/
theorem noninterference {S : String → Prop} {now : Int} {sys1 sys2 : Sys} (wf1 : SysWF sys1) (wf2 : SysWF sys2)
    (hag : AgreeOn S sys1 sys2) (hcl : Closed S sys1 now) {n : String} (hn : S n) (c : Ctx) (p : Obj) (inh : Bool) :
    (sysSearchFacts sys1 c n p inh now).2 = (sysSearchFacts sys2 c n p inh now).2 ∧
      AgreeOn S (sysSearchFacts sys1 c n p inh now).1 (sysSearchFacts sys2 c n p inh now).1 ∧
      Closed S (sysSearchFacts sys1 c n p inh now).1 now :=
  have h := sysSearchFacts_sim ⟨wf1, wf2, hag, hcl⟩ hn c p inh
  ⟨h.out, h.rel.2.2.1, h.rel.2.2.2⟩

/-- the same for the rule candidates of event dispatch (`searchRulesAncestors`) -/
theorem noninterference_rules {S : String → Prop} {now : Int} {sys1 sys2 : Sys} (wf1 : SysWF sys1)
    (wf2 : SysWF sys2) (hag : AgreeOn S sys1 sys2) (hcl : Closed S sys1 now) {n : String} (hn : S n)
    (c : Ctx) (ev : Obj) :
    (sysSearchRulesAnc sys1 c n ev now).2 = (sysSearchRulesAnc sys2 c n ev now).2 ∧
      AgreeOn S (sysSearchRulesAnc sys1 c n ev now).1 (sysSearchRulesAnc sys2 c n ev now).1 ∧
      Closed S (sysSearchRulesAnc sys1 c n ev now).1 now :=
  have h := sysSearchRulesAnc_sim ⟨wf1, wf2, hag, hcl⟩ hn c ev
  ⟨h.out, h.rel.2.2.1, h.rel.2.2.2⟩

/-- `n` with its transitive declared parents (`Anc sys now n`) is such a closed set -/
theorem ancestors_closed (sys : Sys) (now : Int) (n : String) : Closed (Anc sys now n) sys now ∧ Anc sys now n n :=
  ⟨anc_closed sys now n, .refl n⟩

/-- **isolation** — any operation `m` (name-preserving, i.e. any model method) addressed to a location `d`
that is *not* `n` or a transitive parent of `n` never changes what `n` returns: inherited fact search and
inherited rule search give the same outcome before and after. -/
theorem op_elsewhere_invisible {α} {sys : Sys} (wf : SysWF sys) {now : Int} {n d : String}
    (hd : ¬ Anc sys now n d) {m : LM α} (hm : m.KeepsName) (c : Ctx) (p ev : Obj) (inh : Bool) :
    (sysSearchFacts (sys.at d m).1 c n p inh now).2 = (sysSearchFacts sys c n p inh now).2 ∧
    (sysSearchRulesAnc (sys.at d m).1 c n ev now).2 = (sysSearchRulesAnc sys c n ev now).2 :=
  have hR := agree_after_op_elsewhere wf hd hm
  ⟨(sysSearchFacts_sim hR (.refl n) c p inh).out.symm, (sysSearchRulesAnc_sim hR (.refl n) c ev).out.symm⟩

/-- the same for the exported `SearchRules` and `ListRules` (guards at `n`, then the inherited walk) -/
theorem op_elsewhere_invisible_api {α} {sys : Sys} (wf : SysWF sys) {now : Int} {n d : String}
    (hd : ¬ Anc sys now n d) {m : LM α} (hm : m.KeepsName) (c : Ctx) (ev : Obj) (inh : Bool) :
    (sysSearchRules (sys.at d m).1 c n ev inh now).2 = (sysSearchRules sys c n ev inh now).2 ∧
    (sysListRules (sys.at d m).1 c n inh now).2 = (sysListRules sys c n inh now).2 :=
  have hR := agree_after_op_elsewhere wf hd hm
  ⟨(sysSearchRules_sim hR (.refl n) c ev inh).out.symm, (sysListRules_sim hR (.refl n) c inh).out.symm⟩

/-- **no_downward_delivery / visits only ancestors** — tag each value with the location that produced it: every
value the walk from `n` returns was produced by `fn` at `n` or at a transitive declared parent of `n`; `fn` is never
applied to a child (or any other non-ancestor). Holds for every `fn` whose only state effect is purging
(`ParentMono`; true of `locSearchFacts`/`locSearchRules`). Order: `doAncestors_succ` — for each declared parent in
declaration order its whole walk (depth first, once per path: a diamond's top is visited once per path), then `n`. -/
theorem no_downward_delivery {α} {sys : Sys} (wf : SysWF sys) {now : Int} {fn : String → LM α}
    (hfnk : ∀ n, (fn n).KeepsName) (hfnm : ∀ n, (fn n).ParentMono now) (n : String) (fuel : Nat)
    {ls : List (String × α)} (h : (doAncestors fuel sys n now (tagged fn) []).2 = .ok ls) :
    ∀ x ∈ ls, Anc sys now n x.1 :=
  (doAncestors_lockstep (S := Anc sys now n) (fun x => Anc sys now n x.1) (tagged_keeps hfnk)
    (tagged_parentMono hfnm) (fun m hm l a ha => by rw [tagged_ok ha]; exact hm) fuel sys sys n [] []
    ⟨wf, wf, fun _ _ => rfl, anc_closed sys now n⟩ (.refl n) (by simp)).ok ls h

/-- the search functions used by inherited search and dispatch qualify -/
theorem search_fns_qualify (c : Ctx) (p : Obj) (now : Int) :
    (locSearchFacts c p now).KeepsName ∧ (locSearchFacts c p now).ParentMono now ∧
    (locSearchRules c p now).KeepsName ∧ (locSearchRules c p now).ParentMono now :=
  ⟨(locSearchFacts_via c p now).keepsId.keepsName, (locSearchFacts_via c p now).shr.parentMono now,
   (locSearchRules_via c p now).keepsId.keepsName, (locSearchRules_via c p now).shr.parentMono now⟩

/-- non-vacuity: in the diamond `d → b, c`, `b → a`, `c → a` with a child `z → d`, the set `{d,b,c,a}` is
parent-closed, so `z` is not an ancestor of `d`: whatever is done at `z` is invisible at `d` -/
example (k : Kind) : ¬ Anc (exDiamond k) 3 "d" "z" := by
  have hc : Closed (· ∈ ["d", "b", "c", "a"]) (exDiamond k) 3 := closedB_sound (exDiamond_eval k).1
  intro h
  have := anc_subset_closed hc (by simp) h
  simp at this

/-- … while `a` is one (through `b`) -/
example (k : Kind) : Anc (exDiamond k) 3 "d" "a" := by
  have h := (exDiamond_eval k).2
  exact .step ⟨_, h.1, by simp⟩ (.step ⟨_, h.2.1, by simp⟩ (.refl _))

/-- **visits_exactly_ancestors (quiet case)** — when neither `fn` nor the parent reads change the locations of `sys`
at time `now` (nothing to purge: `QuietWalk`), a successful walk from `n` returns a value from `n` and from *every*
transitive declared parent of `n`; together with `no_downward_delivery` the set of locations consulted is exactly
`Anc sys now n`. Without quietness the purge of an expired fact may cascade-delete a `!parents` fact between two visits
of the same location (a diamond's top is re-read on every path), so only the inclusion `⊆` holds in general. -/
theorem visits_exactly_ancestors_quiet {α} {now : Int} {fn : String → LM α} {sys : Sys}
    (hq : QuietWalk sys now fn) (wf : SysWF sys) (hfnk : ∀ n, (fn n).KeepsName) (hfnm : ∀ n, (fn n).ParentMono now)
    (n : String) (fuel : Nat) {ls : List (String × α)} (h : (doAncestors fuel sys n now (tagged fn) []).2 = .ok ls)
    (x : String) : x ∈ ls.map (·.1) ↔ Anc sys now n x := by
  constructor
  · intro hx
    obtain ⟨p, hp, rfl⟩ := List.mem_map.1 hx
    exact no_downward_delivery wf hfnk hfnm n fuel h p hp
  · exact (doAncestors_cover hq wf fuel n [] [] ls h).2 x

/-- **ancestor_walk_shape** (tie, regenerated from `core/location.go` on every run) — the decisive statements of
`Location.doAncestors` in source order: the loop test on the current path comes first (`loop_reported`), then the test for a
location that was visited already (`each_ancestor_once`; after the loop test, so that a chain that comes back is still a
loop), the path is marked and un-marked by `defer` (a *path*, not a visited set: diamonds are no loops), the parents are
walked before the location itself is visited (`doAncestors`' order), the location is marked done before its visit, and the
visit `fn(loc)` is the last statement. Dropping the `defer delete`, visiting the location before its parents, testing `done`
before `path`, or any new statement, changes the regenerated list and breaks this. -/
theorem ancestor_walk_shape :
    Gen.doAncestorsShape =
      ["pathCheck", "doneCheck", "pathMark", "pathUnmarkDeferred", "parentsRead", "errReturn", "ifParents{", "providerCheck",
       "forParents{", "selfParentCheck", "parentGet", "errReturn", "recurse:p.doAncestors(ctx, fn, path, done)", "}", "}",
       "doneMark", "visit"] := rfl

/-- **each_ancestor_once** — of the visits the walk makes, inherited search and dispatch keep the first per location
(`firstVisits`, the model of the `done` set of Go's `doAncestors`): the kept visits are visits of the walk in walk order, no
location has two of them, and (quiet case) the locations that have one are exactly `n` and its transitive declared
parents. So a location reached along two chains of parents — the top of a diamond — contributes its facts and its
rules once: an inherited search does not return them twice and event dispatch does not fail with `duplicate id`. -/
theorem each_ancestor_once {α} {now : Int} {fn : String → LM α} {sys : Sys}
    (hq : QuietWalk sys now fn) (wf : SysWF sys) (hfnk : ∀ n, (fn n).KeepsName) (hfnm : ∀ n, (fn n).ParentMono now)
    (n : String) (fuel : Nat) {ls : List (String × α)} (h : (doAncestors fuel sys n now (tagged fn) []).2 = .ok ls) :
    (firstVisitsT ls []).Sublist ls ∧ ((firstVisitsT ls []).map (·.1)).Nodup ∧
      (∀ x, x ∈ (firstVisitsT ls []).map (·.1) ↔ Anc sys now n x) ∧
      firstVisits ls [] = (firstVisitsT ls []).map (·.2) := by
  refine ⟨firstVisitsT_sublist ls [], firstVisitsT_nodup ls [], ?_, firstVisits_eq_map ls []⟩
  intro x
  rw [← visits_exactly_ancestors_quiet hq wf hfnk hfnm n fuel h x]
  constructor
  · intro hx
    obtain ⟨y, hy, rfl⟩ := List.mem_map.1 hx
    exact List.mem_map.2 ⟨y, (firstVisitsT_sublist ls []).subset hy, rfl⟩
  · intro hx
    obtain ⟨y, hy, rfl⟩ := List.mem_map.1 hx
    obtain ⟨z, hz, hzy⟩ := firstVisitsT_covers ls [] y hy (by simp)
    exact List.mem_map.2 ⟨z, hz, hzy⟩

/-- **inherited_search_once_per_location** — the answer of an inherited `SearchFacts` is the concatenation, in walk order,
of the answers of the kept visits: one local search per location visited. -/
theorem inherited_search_once_per_location (sys : Sys) (c : Ctx) (n : String) (p : Obj) (now : Int)
    {s : Sys} {ls : List (String × List (String × Obj × List Bs))}
    (h : doAncestors (ancestorFuel sys) sys n now (tagged (fun _ => locSearchFacts c p now)) [] = (s, .ok ls)) :
    sysSearchFacts sys c n p true now = (s, .ok ((firstVisitsT ls []).map (·.2)).flatten) := by
  unfold sysSearchFacts
  simp only [if_true, h, firstVisits_eq_map]

/-- a walk that meets no location twice (a tree of parents) is kept whole: nothing changes for it -/
theorem tree_walk_kept_whole {β} (ls : List (String × β)) (hnd : (ls.map (·.1)).Nodup) :
    firstVisits ls [] = ls.map (·.2) := by
  rw [firstVisits_eq_map, firstVisitsT_of_nodup ls [] hnd (by simp)]

/-- the shape of the diamond: the walk from `d` visits `a` twice (`a b a c d`), the kept visits are `a b c d` -/
example : firstVisits [("a", 1), ("b", 2), ("a", 1), ("c", 3), ("d", 4)] [] = [1, 2, 3, 4] := by decide

/-- non-vacuity: the diamond system is quiet for a state-preserving `fn` (no `!parents` fact is expired) -/
example (k : Kind) : QuietWalk (exDiamond k) 3 (fun _ => (LM.pure () : LM Unit)) :=
  ⟨fun _ _ _ => rfl, quietReadB_sound (exDiamond_eval k).2.2.2⟩

/-! ## closing `ancestors_never_diverge_partial` (composition with the error-class induction: the State functions in
`RulioProofs/StateND.lean`, the Location methods in `RulioProofs/LocVia.lean`, Systems in `RulioProofs/CloseDiverge.lean`) -/

/-- **no_state_or_location_function_diverges** — the error-class induction: no operation of either `State`
implementation (`Add`, `Rem`, `Get`, `Search`, `FindRules`, `reload`; all their errors are literals such as
`notFound`, `badExpires`, `fuel`, `noTerms`, `lostRule`, `expired`, …, or mapped index / matcher errors) and no
single-location method used by the ancestor walk (`getParents`, `searchFacts`, `searchRules`, and the guards they run)
ever answers the literal error `"diverge"` — in any state whatsoever, reachable or not. The State recursion budget
error is the distinct literal `"fuel"`; it is excluded for reachable states by C08 `cascade_terminates`, and is
irrelevant here. `"diverge"` is produced by `doAncestors` on fuel exhaustion only. -/
theorem no_state_or_location_function_diverges (s : St) (l : Loc) (c : Ctx) (id : String) (x p : Obj) (now : Int) :
    (s.add id x now).2 ≠ .error "diverge" ∧ (s.rem id now).2 ≠ .error "diverge" ∧
    (s.get id now).2 ≠ .error "diverge" ∧ (s.search p now).2 ≠ .error "diverge" ∧
    (s.findRules p now).2 ≠ .error "diverge" ∧ s.reload now ≠ .error "diverge" ∧
    (locGetParentsRaw now l).2 ≠ .error "diverge" ∧ (locSearchFacts c p now l).2 ≠ .error "diverge" ∧
    (locSearchRules c p now l).2 ≠ .error "diverge" :=
  ⟨(St.add_nd s id x now).ne, (St.rem_nd s id now).ne, (St.get_nd s id now).ne, (St.search_nd s p now).ne,
   (St.findRules_nd s p now).ne, (St.reload_nd s now).ne, ((locGetParentsRaw_via now).noDiv l).ne,
   ((locSearchFacts_via c p now).noDiv l).ne, ((locSearchRules_via c p now).noDiv l).ne⟩

/-- **ancestors_never_diverge** — `ancestors_never_diverge_partial` without its hypothesis on the parent read: for
every well-formed system (unique names; the locations' states are arbitrary), every start `n`, and every
name-preserving `fn` that does not itself answer `"diverge"` (`LM.NoDiv`; true of every model method: `loc*_via … .noDiv`,
`RulioProofs/LocVia.lean`), the ancestor walk at the model's own budget `ancestorFuel sys` never answers
`"diverge"`: a parent chain that loops back is reported as `loop` (`loop_reported`), never by exhausting the stack. -/
theorem ancestors_never_diverge {α} {now : Int} {fn : String → LM α} (hfn : ∀ n, (fn n).KeepsName)
    (hnd : ∀ n, (fn n).NoDiv) {sys : Sys} (wf : SysWF sys) (n : String) (acc : List α) :
    (doAncestors (ancestorFuel sys) sys n now fn acc).2 ≠ .error "diverge" :=
  (doAncestors_nd hfn hnd wf n acc).ne

/-- **inherited_searches_never_diverge** — hence, for every well-formed system and every caller, location, pattern /
event, flag and time, none of the four system-level entry points built on the walk — `SearchFacts` (inherited or not),
`searchRulesAncestors`, `SearchRules`, `ListRules` — returns `"diverge"`. No hypothesis is left. -/
theorem inherited_searches_never_diverge {sys : Sys} (wf : SysWF sys) (c : Ctx) (n : String) (p : Obj) (inh : Bool)
    (now : Int) :
    (sysSearchFacts sys c n p inh now).2 ≠ .error "diverge" ∧
    (sysSearchRulesAnc sys c n p now).2 ≠ .error "diverge" ∧
    (sysSearchRules sys c n p inh now).2 ≠ .error "diverge" ∧
    (sysListRules sys c n inh now).2 ≠ .error "diverge" :=
  ⟨(sysSearchFacts_nd wf c n p inh now).ne, (sysSearchRulesAnc_nd wf c n p now).ne,
   (sysSearchRules_nd wf c n p inh now).ne, (sysListRules_nd sys c n inh now).ne⟩

/-- non-vacuity: the looping system `a → b → a` is well-formed, so the theorem applies to it (its inherited search
answers `loop`, see above) … -/
example (k : Kind) : SysWF (exIndirectLoop k) ∧
    (sysSearchFacts (exIndirectLoop k) {} "a" [("x", .str "?v")] true 7).2 ≠ .error "diverge" :=
  have wf : SysWF (exIndirectLoop k) := Sys.at_wf (Sys.at_wf (sysFresh_ab_wf k) _ _) _ _
  ⟨wf, (inherited_searches_never_diverge wf {} "a" _ true 7).1⟩

/-- … and so is the loop-free diamond with the extra child `z`: all four entry points, at any location of it -/
example (k : Kind) (n : String) (p : Obj) (inh : Bool) : SysWF (exDiamond k) ∧
    (sysSearchRules (exDiamond k) {} n p inh 3).2 ≠ .error "diverge" ∧
    (sysListRules (exDiamond k) {} n inh 3).2 ≠ .error "diverge" :=
  have wf0 : SysWF (Sys.fresh k ["a", "b", "c", "d", "z"]) := Sys.fresh_wf k (by decide)
  have wf : SysWF (exDiamond k) := Sys.at_wf (Sys.at_wf (Sys.at_wf (Sys.at_wf wf0 _ _) _ _) _ _) _ _
  have h := inherited_searches_never_diverge wf {} n p inh 3
  ⟨wf, h.2.2.1, h.2.2.2⟩
