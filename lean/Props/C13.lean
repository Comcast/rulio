import RulioProofs.C13Repair

/-! # C13 — no input can crash, hang or poison a location

The model (`RulioModel/C13.lean`) wraps the sequential State/Location model with the state's RW lock. Its functions are
total by construction; what is proved here is (1) that the places where the Go source can panic are exactly the ones the
model accounts for (tables regenerated from the source on every run), (2) that no public operation can leave the state
lock behind, whatever panics inside a State method (every lock region with code able to panic releases by `defer`), so a
serving location answers every operation and keeps serving, (3) that away from the enumerated sites nothing panics,
(4) what the repaired source does with the inputs of the five repaired defects (non-map `when` / `when.pattern`,
scheduled rules carrying one, non-map `rule` in the linear state): errors and ordinary answers, (5) that the service
and HTTP front ends answer every request, and the one defect that remains. -/

open C13

/-! ## The tie: tables regenerated from the Go source -/

/-- Every unchecked type assertion, explicit `panic`, constant index and condition-less loop of the non-test files of
core, sys and service is a row the model accounts for (classified `safe`, `modelled`, `unreachable` or `outOfScope`
in `C13.accounted`), and there is no other. A new or removed row changes the regenerated table and breaks this. -/
theorem asserts_accounted : C13Gen.sites = accounted.map (·.1) := by rfl

/-- The lock acquisitions of the two State implementations and of Location, and whether each release is deferred, are
the ones the model assumes. Removing or adding a `defer`, or a lock call, breaks this. -/
theorem locks_accounted : C13Gen.lockUses = lockTable := by rfl

/-- every site the table calls `modelled` is one of the model's panic results, and every panic result of the model is
a `modelled` row of the table, the nil dereference of ListRules (which is no assertion and has no row) or the
hypothetical panic of the fault oracle (which stands for the places that are no row) -/
theorem modelled_sites_are_the_models :
    (∀ s : PanicSite, s ≠ .listRulesNil → s ≠ .unlisted → ∃ row ∈ accounted, row.1.func = s.name ∧ row.2.isModelled = true) ∧
    (∀ row ∈ accounted, row.2.isModelled = true → ∃ s : PanicSite, row.1.func = s.name) := by
  constructor
  · intro s hs hu
    cases s
    · exact absurd rfl hu
    · exact absurd rfl hs
  · have key : (accounted.all (fun row => !row.2.isModelled ||
        [PanicSite.unlisted, .listRulesNil].any (fun s => row.1.func == s.name))) = true := by
      decide +kernel
    intro row hmem hm
    have := List.all_eq_true.1 key row hmem
    simp only [hm, Bool.not_true, Bool.false_or, List.any_eq_true, beq_iff_eq] at this
    exact this.imp fun s hs => hs.2

/-- No row of the table is `modelled`: no unchecked assertion, explicit panic or constant index of
core, sys and service is reachable from public input (the `u.(string)` of `Service.ProcessRequest` is checked). A new unchecked assertion is a new row of the regenerated table and breaks `asserts_accounted`. -/
theorem no_row_is_modelled : ∀ row ∈ accounted, row.2.isModelled = false := by
  have key : (accounted.all (fun row => !row.2.isModelled)) = true := by decide +kernel
  intro row hmem
  rw [List.all_eq_true] at key
  simpa using key row hmem

/-! ## Lock discipline read from the extracted table -/

/-- In BOTH states no method can leave its lock behind, whatever panics inside it: every lock
region that contains code able to panic releases by `defer` (second clause), and each of the twelve Go functions does
occur in the extracted table, so that clause is not vacuous (third clause). -/
theorem no_method_leaks_its_lock :
    (∀ (kind : Kind) (m : Meth), leakOf kind m = none) ∧
    (∀ (kind : Kind) (m : Meth), panicUnderLock kind m = true → deferredIn C13Gen.lockUses (methName kind m) = true) ∧
    (∀ (kind : Kind) (m : Meth), (C13Gen.lockUses.any (fun u => u.func == methName kind m)) = true) :=
  ⟨leakIn_source_none, fun kind m => (source_locks kind m).1, fun kind m => (source_locks kind m).2⟩

/-! ## Totality with the location invariant -/

/-- For every public operation, every argument and every state: started on a
serving location (nobody dead holds the state lock) the operation answers — it never blocks — and unless it ends in a
panic the location is still serving afterwards. (Holds under ANY lock discipline `k.locks`; see `no_operation_poisons`
for the discipline of the source, where the proviso about panics disappears.) -/
theorem total_and_serving (op : PubOp) (k : KLoc) (h : Serving k) :
    (run op k).2.isHang = false ∧ ((run op k).2.isPanic = false → Serving (run op k).1) :=
  have post := sat_run servingSpec op (Or.inl rfl) k h
  ⟨post.1, fun hp => post.2.2 (Or.inl hp)⟩

/-- ... and over whole histories: as long as no operation panics, no operation of the history blocks and the location
serves after each of them. -/
theorem history_serving (ops : List PubOp) (k : KLoc) (h : Serving k)
    (hp : ∀ r ∈ (runAll ops k).2, r.2.isPanic = false) :
    (∀ r ∈ (runAll ops k).2, r.2.isHang = false) ∧ Serving (runAll ops k).1 :=
  sat_runAll servingSpec (Or.inl rfl) ops k h (Or.inr hp)

/-- A linear location is never poisoned: it serves after every operation, panics included. -/
theorem linear_always_serving (op : PubOp) (k : KLoc) (hk : k.loc.st.kind = .linear) (hl : k.locks = C13Gen.lockUses) (h : Serving k) :
    Serving (run op k).1 :=
  -- the kind plays no part: `no_operation_poisons` says the same of both
  have _ := hk
  ((sat_run poisonSpec op (Or.inl rfl) k ⟨h, hl⟩).2.2 (Or.inr rfl)).1

/-- Strengthens `total_and_serving` and `linear_always_serving` (and fails for an indexed state whose `Add` releases
without `defer`: the example with the fault oracle below). Under the lock discipline of the source, for BOTH state kinds, every public operation with every
argument, and EVERY fault oracle — i.e. whichever State method bodies panic, on whatever memory, leaving whatever
memory behind: started on a serving location the operation answers (it never blocks) and the location is still serving
afterwards, panic or not. No input, and no panic at a place the tables do not list, can poison a location. -/
theorem no_operation_poisons (op : PubOp) (k : KLoc) (hl : k.locks = C13Gen.lockUses) (h : Serving k) :
    (run op k).2.isHang = false ∧ Serving (run op k).1 ∧ (run op k).1.locks = C13Gen.lockUses :=
  have post := sat_run poisonSpec op (Or.inl rfl) k ⟨h, hl⟩
  ⟨post.1, post.2.2 (Or.inr rfl)⟩

/-- ... and over whole histories, without any proviso: no operation of any history blocks, whatever panicked before it,
and the location serves at the end. -/
theorem no_history_poisons (ops : List PubOp) (k : KLoc) (hl : k.locks = C13Gen.lockUses) (h : Serving k) :
    (∀ r ∈ (runAll ops k).2, r.2.isHang = false) ∧ Serving (runAll ops k).1 :=
  have post := sat_runAll poisonSpec (Or.inl rfl) ops k ⟨h, hl⟩ (Or.inl rfl)
  ⟨post.1, post.2.1⟩

/-! ## Away from the enumerated sites -/

/-- For EVERY public operation (queries and event processing with their nested searches included),
both state kinds, every argument and every store, with no hypothesis on the stored facts: on a serving location whose
State method bodies do not panic (`FaultFree`: the model's reading of "away from the sites"; no input is known to make
one panic on the repaired source, and the malformed stream of the check searches for one) the operation answers, the
location stays such a location, and the only panic it can end in is the nil dereference of the non-inherited `ListRules`
after a failed search (`listRulesNil`, outside every lock). -/
theorem no_panic_off_sites (op : PubOp) (k : KLoc) (h : Serving k) (hf : FaultFree k) :
    (run op k).2.isHang = false ∧ Serving (run op k).1 ∧ FaultFree (run op k).1 ∧
    (∀ site, (run op k).2 = .panic site → site = .listRulesNil ∧ op.localList = true) :=
  -- the only panic allowed: `listRulesNil`, and only to an operation that is a non-inherited `ListRules`
  have post := sat_run (cleanSpec fun s => s = .listRulesNil ∧ op.localList = true) op
    (by cases op.localList <;> simp [cleanSpec]) k ⟨h, hf⟩
  ⟨post.1, (post.2.2 (Or.inr rfl)).1, (post.2.2 (Or.inr rfl)).2, post.2.1 rfl⟩

/-! ## Validated paths -/

/-- `AddRule` with ANY rule document — validated by `RuleFromMap` or refused by it, `null`s included — on a serving
location whose State method bodies do not panic: an answer or an error, never a panic, never a hang, and the location
keeps serving. -/
theorem validated_paths_safe (c : Ctx) (id : String) (rule : Obj) (now : Int) (k : KLoc) (h : Serving k) (hf : FaultFree k) :
    (run (.addRule c id rule now) k).2.isPanic = false ∧ (run (.addRule c id rule now) k).2.isHang = false ∧
    Serving (run (.addRule c id rule now) k).1 ∧ FaultFree (run (.addRule c id rule now) k).1 :=
  have post := no_panic_off_sites (.addRule c id rule now) k h hf
  have noPanic : (run (.addRule c id rule now) k).2.isPanic = false := by
    cases hr : (run (.addRule c id rule now) k).2 with
    | panic site => cases (post.2.2.2 site hr).2
    | _ => rfl
  ⟨noPanic, post.1, post.2.1, post.2.2.1⟩

/-- what `RuleFromMap` does guarantee: `when` is absent, `null`, or a map whose `pattern` is absent, `null` or a map -/
theorem ruleFromMap_checks_when (r : Obj) (rm : RuleM) (h : ruleFromMap r = .ok rm) :
    r.get? "when" = none ∨ r.get? "when" = some .null ∨
    ∃ w, r.get? "when" = some (.obj w) ∧
      (Obj.get? w "pattern" = none ∨ Obj.get? w "pattern" = some .null ∨ ∃ p, Obj.get? w "pattern" = some (.obj p)) := by
  -- the first step of `ruleFromMap` is the check of `when`; the rest plays no part
  unfold ruleFromMap at h
  obtain ⟨v, hw, -⟩ := Except.bind_eq_ok.1 h
  clear h
  split at hw
  · exact Or.inl (by assumption)
  · exact Or.inr (Or.inl (by assumption))
  · refine Or.inr (Or.inr ⟨_, by assumption, ?_⟩)
    split at hw
    · exact Or.inl (by assumption)
    · exact Or.inr (Or.inl (by assumption))
    · exact Or.inr (Or.inr ⟨_, by assumption⟩)
    · cases hw
  · cases hw

/-! ## The repaired paths: what the inputs of the five repaired defects do now -/

/-- a fresh location over the indexed / the linear state -/
def fresh (kind : Kind) : KLoc := { loc := { name := "a", st := { kind := kind } } }

/-- The repaired `GetRulePatterns` against the shared sequential model (`RulioModel/Fact.lean`, which keeps an explicit
panic for the unrepaired source): wherever that one answers, the repaired one answers the same; where that one panics
(exactly the documents `badWhen`) the repaired one reports "no patterns". -/
theorem repair_is_conservative (r : Obj) :
    (∀ p, getRulePattern r = .ok p → getRulePatternR r = p) ∧
    (∀ e, getRulePattern r = .error e → getRulePatternR r = none ∧ badWhen r = true) ∧
    (badWhen r = true → noPattern r = true) := by
  rw [getRulePattern_eq]
  refine ⟨fun p h => ?_, fun e h => ?_, badWhen_noPattern r⟩
  · split at h
    · cases h
    · exact Except.ok.inj h
  · split at h
    · next hb => exact ⟨Option.isNone_iff_eq_none.1 (badWhen_noPattern r hb), hb⟩
    · cases h

/-- For EVERY indexed location
that serves (with or without the cron hooks of a System), every id, time and fact whose rule body has no `schedule` and a
`when` (or `when.pattern`) that is not a map — where a `GetRulePatterns` without type checks panics under the write lock:
the State call of AddFact/AddRule answers with an error, the location still serves, and facts, storage and term index are
exactly as before (first clause). Concretely (second clause): `AddFact {"rule":{"when":5}}` on a fresh location is an
error, nothing is stored, and the canary requests after it answer. -/
theorem indexed_add_bad_when_rejected :
    (∀ (k : KLoc) (id : String) (x : Obj) (now : Int) (r : Obj),
      k.loc.st.kind = .indexed → Serving k → k.fault .add k.loc.st = none →
      x.get? "rule" = some (.obj r) → Obj.has r "schedule" = false → badWhen r = true →
      (∃ e, (kAdd id x now k).2 = .err e) ∧ Serving (kAdd id x now k).1 ∧
      (kAdd id x now k).1.loc.st.facts = k.loc.st.facts ∧ (kAdd id x now k).1.loc.st.store = k.loc.st.store ∧
      (kAdd id x now k).1.loc.st.ti = k.loc.st.ti) ∧
    (let bad : Obj := [("rule", .obj [("when", .num 5)])]
     let k1 := (kAddFact {} "m" bad 100 (fresh .indexed)).1
     (kAddFact {} "m" bad 100 (fresh .indexed)).2.cls = "err" ∧
     k1.lock = .free ∧ k1.loc.st.facts = [] ∧ k1.loc.st.store = [] ∧
     (kGetFact {} "m" 100 k1).2.cls = "err" ∧
     (kAddFact {} "cnry" [("cnryKey", .num 42)] 100 k1).2.cls = "ok" ∧
     (kGetFact {} "cnry" 100 (kAddFact {} "cnry" [("cnryKey", .num 42)] 100 k1).1).2.cls = "ok" ∧
     (kProcessEvent {} [("cnryEv", .num 7)] 100 k1).2.cls = "ok" ∧
     (kRemFact {} "cnry" 100 (kAddFact {} "cnry" [("cnryKey", .num 42)] 100 k1).1).2.cls = "ok") :=
  ⟨fun k id x now r hk hs hf hx hsch hb => kAdd_rejects k id x now r hk hs hf hx hsch (badWhen_noPattern r hb),
   by decide +kernel⟩

/-- The same through a `when.pattern` that is not a map, over a rule that is already stored under the id:
the new document is refused, the stored rule stays, and the pattern index still dispatches the event `{"a":1}` to it. -/
theorem indexed_add_bad_pattern_rejected :
    let good : Obj := [("rule", .obj [("when", .obj [("pattern", .obj [("a", .num 1)])])])]
    let bad : Obj := [("rule", .obj [("when", .obj [("pattern", .arr [])])])]
    let k1 := (kAddFact {} "m" good 100 (fresh .indexed)).1
    (kAddFact {} "m" good 100 (fresh .indexed)).2.cls = "ok" ∧
    (kAddFact {} "m" bad 100 k1).2.cls = "err" ∧ (kAddFact {} "m" bad 100 k1).1.lock = .free ∧
    (kAddFact {} "m" bad 100 k1).1.loc.st.facts.map (·.1) = ["m"] ∧
    (kGetRule {} "m" 100 (kAddFact {} "m" bad 100 k1).1).2.cls = "ok" ∧
    (match piSearch (kAddFact {} "m" bad 100 k1).1.loc.st.ri [("a", .num 1)] with | .ok ids => ids == ["m"] | _ => false) = true := by
  decide +kernel

/-- The validated path: for every rule that passes `RuleFromMap`
and `setExpires`, has no `schedule` and no pattern (`"when":{"pattern":null}` is the one shape `RuleFromMap` lets
through), the State call of `AddRule` on a serving indexed location is refused and changes nothing (first clause).
Concretely: `AddRule {"when":{"pattern":null},"action":…}` passes `RuleFromMap` and is answered with the syntax error of
`indexRule`, the location serves; `{"when":null,"schedule":…}` is accepted and stored, and removing that rule works. -/
theorem addRule_null_pattern_rejected :
    (∀ (k : KLoc) (id : String) (rule rule' : Obj) (now : Int) (rm : RuleM) (expiring : Bool) (expires : Int),
      k.loc.st.kind = .indexed → Serving k → k.fault .add k.loc.st = none →
      ruleFromMap rule = .ok rm → setExpires rule now = .ok (rule', expiring, expires) →
      Obj.has rule' "schedule" = false → noPattern rule' = true →
      (∃ e, (kAdd id (ruleWrapper rule' expiring expires) now k).2 = .err e) ∧
      Serving (kAdd id (ruleWrapper rule' expiring expires) now k).1 ∧
      (kAdd id (ruleWrapper rule' expiring expires) now k).1.loc.st.facts = k.loc.st.facts) ∧
    (let act : J := .obj [("code", .str "(1)")]
     let r1 : Obj := [("when", .obj [("pattern", .null)]), ("action", act)]
     let r2 : Obj := [("when", .null), ("schedule", .str "0 0 1 1 *"), ("action", act)]
     let k1 := (kAddRule {} "m" r1 100 (fresh .indexed)).1
     let k2 := (kAddRule {} "m" r2 100 (fresh .indexed)).1
     (ruleFromMap r1).isOk = true ∧
     (match (kAddRule {} "m" r1 100 (fresh .indexed)).2 with | .err e => e == "syntax" | _ => false) = true ∧
     k1.lock = .free ∧ k1.loc.st.facts = [] ∧
     (kAddFact {} "cnry" [("cnryKey", .num 42)] 100 k1).2.cls = "ok" ∧
     (kAddRule {} "m" r2 100 (fresh .indexed)).2.cls = "ok" ∧
     (kGetRule {} "m" 100 k2).2.cls = "ok" ∧
     (kRemRule {} "m" 100 k2).2.cls = "ok" ∧ (kRemRule {} "m" 100 k2).1.lock = .free ∧
     (kGetRule {} "m" 100 (kRemRule {} "m" 100 k2).1).2.cls = "err") :=
  ⟨fun k id rule rule' now rm expiring expires hk hs hf _ _ hsch hp =>
     let h := kAdd_rejects k id (ruleWrapper rule' expiring expires) now rule' hk hs hf (wrapper_rule rule' expiring expires) hsch hp
     ⟨h.1, h.2.1, h.2.2.1⟩,
   by decide +kernel⟩

/-- A scheduled rule body is stored without a look at its
`when`. For every state, id and stored fact whose rule body has no pattern (or is no map), the rule part of `rem` —
which also runs when the fact is overwritten or purged — has nothing to do and cannot fail (first clause). Concretely:
the fact is stored, overwriting it works, removing it works and it is gone. -/
theorem scheduled_bad_when_handled :
    (∀ (s : St) (id : String) (fact : Obj), (∀ r, fact.get? "rule" = some (.obj r) → noPattern r = true) →
      unindexOfR s id fact = .ok s) ∧
    (let bad : Obj := [("rule", .obj [("schedule", .str "x"), ("when", .num 5)])]
     let k1 := (kAddFact {} "m" bad 100 (fresh .indexed)).1
     let k2 := (kAddFact {} "m" [("z", .num 1)] 100 k1).1
     (kAddFact {} "m" bad 100 (fresh .indexed)).2.cls = "ok" ∧
     (kAddFact {} "m" [("z", .num 1)] 100 k1).2.cls = "ok" ∧ k2.lock = .free ∧
     (kGetFact {} "m" 100 k2).2.cls = "ok" ∧
     (kRemFact {} "m" 100 k1).2.cls = "ok" ∧ (kRemFact {} "m" 100 k1).1.lock = .free ∧
     (kRemFact {} "m" 100 k1).1.loc.st.facts = [] ∧
     (kGetFact {} "m" 100 (kRemFact {} "m" 100 k1).1).2.cls = "err") :=
  ⟨unindexOfR_noop, by decide +kernel⟩

/-- When such a fact expires, the purge goes through: for
every fuel, state and stored fact of that kind, `rem` is the deletion followed by the cascade, like for any other fact
(first clause). Concretely: the search that finds the expired fact purges it and answers (no result), the lock is free,
the fact, its storage entry and its index entries are gone, writers and readers keep being served; the same through
`GetFact`. -/
theorem expiry_of_bad_rule_purges :
    (∀ (f : Nat) (s : St) (id : String) (now : Int) (fact : Obj), amGet s.facts id = some fact →
      (∀ r, fact.get? "rule" = some (.obj r) → noPattern r = true) →
      iremR (f + 1) s id now =
        ((idepsR f (idelR s id fact) id now).1, (idepsR f (idelR s id fact) id now).2.map (fun _ => true))) ∧
    (let bad : Obj := [("zz", .num 1), ("ttl", .num 1), ("rule", .obj [("schedule", .str "x"), ("when", .num 5)])]
     let k1 := (kAddFact {} "m" bad 100 (fresh .indexed)).1
     let k2 := (kSearchFacts {} [("zz", .str "?x")] false 102 k1).1
     (kAddFact {} "m" bad 100 (fresh .indexed)).2.cls = "ok" ∧
     (match (kSearchFacts {} [("zz", .str "?x")] false 102 k1).2 with | .ok found => found.isEmpty | _ => false) = true ∧
     k2.lock = .free ∧ k2.loc.st.facts = [] ∧ k2.loc.st.store = [] ∧ k2.loc.st.ti = [] ∧
     (kAddFact {} "cnry" [("cnryKey", .num 42)] 102 k2).2.cls = "ok" ∧
     (kGetFact {} "cnry" 102 (kAddFact {} "cnry" [("cnryKey", .num 42)] 102 k2).1).2.cls = "ok" ∧
     (kGetFact {} "m" 102 k1).2.cls = "err" ∧ (kGetFact {} "m" 102 k1).1.lock = .free ∧
     (kGetFact {} "m" 102 k1).1.loc.st.facts = []) :=
  ⟨fun f s id now fact hg h => by
    rw [iremR]
    simp only [hg, unindexOfR_noop s id fact h]
    rcases idepsR f (idelR s id fact) id now with ⟨s3, r | r⟩ <;> rfl,
   by decide +kernel⟩

/-- The linear state accepts `{"rule":5}`. The rule
scan steps over a live fact whose `rule` value is not a map — no error, no candidate (first clause, every state, event,
time and position in the scan); a store that holds only such facts answers EVERY event at ANY time with "no rules"
(second clause); concretely the event, the other requests and `GetFact` of the odd fact all answer (third clause). -/
theorem linear_bad_rule_ignored :
    (∀ (ev : Obj) (now : Int) (f : Nat) (s : St) (id : String) (rest : List String) (acc : List (String × Obj)) (fact : Obj),
      amGet s.facts id = some fact → ruleNotMap fact = true → checkExpiration fact now = .ok false →
      lfindLoopR ev now (f + 1) s (id :: rest) acc = lfindLoopR ev now f s rest acc) ∧
    (∀ (ev : Obj) (now : Int),
      lFindRulesR (kAddFact {} "m" [("rule", .num 5)] 100 (fresh .linear)).1.loc.st ev now =
        ((kAddFact {} "m" [("rule", .num 5)] 100 (fresh .linear)).1.loc.st, .ok [])) ∧
    (let k1 := (kAddFact {} "m" [("rule", .num 5)] 100 (fresh .linear)).1
     (kAddFact {} "m" [("rule", .num 5)] 100 (fresh .linear)).2.cls = "ok" ∧
     (match (kProcessEvent {} [("cnryEv", .num 7)] 100 k1).2 with | .ok t => t.err.isNone && t.rules.isEmpty | _ => false) = true ∧
     (kProcessEvent {} [("cnryEv", .num 7)] 100 k1).1.lock = .free ∧
     (kSearchRules {} [("a", .num 1)] false 100 k1).2.cls = "ok" ∧
     (kAddFact {} "cnry" [("cnryKey", .num 42)] 100 k1).2.cls = "ok" ∧
     (kGetFact {} "m" 100 k1).2.cls = "ok" ∧
     (kGetRule {} "m" 100 k1).2.cls = "err") :=
  ⟨lfindLoopR_skip, fun ev now => lFindRulesR_onlyBad _ (by decide +kernel) ev now, by decide +kernel⟩

/-! ## The front ends, and the defect that remains (an unvalidated `rule` fact makes every later rule search fail) -/

/-- (finding C13-service-uri-not-string) `Service.ProcessRequest` called as a library function answers every
request map with a result or an error: a "uri" of any type other than string is an error. -/
theorem service_front_total (m : Obj) : (serviceFront m).isPanic = false ∧ (serviceFront m).isHang = false := by
  unfold serviceFront
  split <;> exact ⟨rfl, rfl⟩

example : (serviceFront [("uri", .num 5)]).cls = "err" ∧ (serviceFront [("uri", .str "/api/version")]).cls = "ok" := by decide +kernel

/-- Confirmed (C13-unvalidated-rule-fact; no panic): `AddFact` stores a fact whose `rule` is not a valid rule — here
`{"rule":{"when":{}}}`, indexed at the root of the pattern index — and from then on the rule search of EVERY event of the
location fails as a whole with that rule's error (no action): the other rules of the location are not evaluated. The
location keeps serving. -/
theorem unvalidated_rule_fact_fails_events :
    let k1 := (kAddFact {} "m" [("rule", .obj [("when", .obj [])])] 100 (fresh .indexed)).1
    (kAddFact {} "m" [("rule", .obj [("when", .obj [])])] 100 (fresh .indexed)).2.cls = "ok" ∧
    (match (kProcessEvent {} [("cnryEv", .num 7)] 100 k1).2 with | .ok t => t.err.isSome | _ => false) = true ∧
    (kSearchRules {} [("cnryEv", .num 7)] false 100 k1).2.cls = "err" ∧
    (kProcessEvent {} [("cnryEv", .num 7)] 100 k1).1.lock = .free ∧
    (kGetFact {} "m" 100 k1).2.cls = "ok" := by
  decide +kernel

/-- The HTTP front end (after repository commit a93a288, which repaired the three panics found there: empty POST body,
non-string "uri" in the body, empty json-typed query parameter) answers every request with a request map or an error. -/
theorem http_front_total (r : HttpReq) : (httpFront r).isPanic = false ∧ (httpFront r).isHang = false := by
  unfold httpFront
  repeat' split
  all_goals exact ⟨rfl, rfl⟩

/-! ## Non-trivial instances of the hypotheses -/

/-- an ordinary history on a fresh indexed location: every operation answers `ok`, the location serves at the end -/
example :
    let ops : List PubOp := [
      .addFact {} "cnry" [("cnryKey", .num 42)] 100,
      .addRule {} "r" [("when", .obj [("pattern", .obj [("cnryEv", .str "?x")])]), ("action", .obj [("code", .str "(1)")])] 100,
      .getFact {} "cnry" 100,
      .getRule {} "r" 100,
      .remRule {} "r" 100,
      .remFact {} "cnry" 100]
    ((runAll ops (fresh .indexed)).2.map (fun r => r.2.cls) = ["ok", "ok", "ok", "ok", "ok", "ok"]) ∧
    (runAll ops (fresh .indexed)).1.lock = .free := by
  decide +kernel

/-- the hypotheses of `no_operation_poisons` / `no_panic_off_sites` hold of a fresh location of either kind -/
example (kind : Kind) : (fresh kind).locks = C13Gen.lockUses ∧ Serving (fresh kind) ∧ FaultFree (fresh kind) :=
  ⟨rfl, rfl, fun _ _ => rfl⟩

/-- `no_operation_poisons` is about something: with a fault oracle that makes every `Add` body panic, `AddFact` does end
in a panic — and the location serves the next request all the same. Under the lock discipline of the unrepaired source
(`IndexedState.Add` released its lock without `defer`) the same panic blocks the location. -/
example :
    let faulty : KLoc := { fresh .indexed with fault := fun m s => if m == .add then some s else none }
    let old : List C13Gen.LockUse := C13Gen.lockUses.map (fun u => if u.func == "IndexedState.Add" then { u with deferred := false } else u)
    (kAddFact {} "m" [("a", .num 1)] 100 faulty).2.cls = "panic" ∧
    (kAddFact {} "m" [("a", .num 1)] 100 faulty).1.lock = .free ∧
    (kGetFact {} "m" 100 (kAddFact {} "m" [("a", .num 1)] 100 faulty).1).2.cls = "err" ∧
    (kAddFact {} "m" [("a", .num 1)] 100 { faulty with locks := old }).1.lock = .wdead ∧
    (kGetFact {} "m" 100 (kAddFact {} "m" [("a", .num 1)] 100 { faulty with locks := old }).1).2.isHang = true := by
  decide +kernel

/-- a `when` or `when.pattern` that is not a map is `badWhen`, an ordinary rule body is not -/
example : badWhen [("when", .num 5)] = true ∧ badWhen [("when", .obj [("pattern", .null)])] = true ∧
    badWhen [("when", .null), ("schedule", .str "x")] = true ∧
    badWhen [("when", .obj [("pattern", .obj [("a", .str "?x")])])] = false ∧ badWhen [("action", .null)] = false := by
  decide +kernel

/-- `validated_paths_safe` applies to an ordinary rule -/
example : (ruleFromMap [("when", .obj [("pattern", .obj [("a", .str "?x")])]), ("action", .obj [("code", .str "(1)")])]).isOk = true ∧
    (setExpires [("when", .obj [("pattern", .obj [("a", .str "?x")])]), ("action", .obj [("code", .str "(1)")])] 100).isOk = true := by
  decide +kernel
