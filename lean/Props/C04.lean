import RulioProofs.EventsExamples
import RulioModel.Subst

/-! # C04 — an event runs each action exactly once per rule, `when` binding and condition binding

`processEvent srch loc ev cands` is the model of `ProcessEvent` (events.go: FindRules → EvalRule →
EvalRuleCondition → ExecRuleAction, `WorkWalk` with `steps = 0`) for the candidate list `cands`
(id, rule, enabled — as found by the rule search, C01) and the fact search `srch` used by conditions (C03).
All theorems hold for every `srch`, every event, every candidate list (any number of rules, actions,
`when` bindings, condition bindings). Vocabulary (`RulioModel/QuerySpec.lean`): `dispatch` (enabled and matching
candidates with their `when` bindings), `condEnv` (binding + `?event`/`?location`/`?ruleId`), `condResult`
(the condition's result on an environment), `actNodeOf b a` (the leaf of action `a` on binding `b`),
`actsOf r out` (one leaf per result binding × action), `okValues`, `treeValues`, `actCount`.
Section 5 is about the body an action with an HTTP endpoint POSTs (`substD`, `RulioModel/Subst.lean`). -/

open QSpec QueryProofs EventsProofs

/-! ## 0. accumulator-free form of the walk -/

/-- `ProcessEvent` = dispatch, then one `ruleStep` per dispatched rule until a step aborts; a dispatch error
(matcher error in a `when`) gives an empty, aborted tree -/
theorem process_event_spec (srch : Srch) (loc : String) (ev : Obj) (cands : List (String × RuleM × Bool)) :
    processEvent srch loc ev cands =
      (match dispatch ev cands with
       | .error e => { err := some e, rules := [], values := [], aborted := true }
       | .ok disp =>
         { err := none, rules := (runUntil (ruleStep srch loc ev) disp).1,
           values := (runUntil (ruleStep srch loc ev) disp).2.1,
           aborted := (runUntil (ruleStep srch loc ev) disp).2.2 }) :=
  processEvent_eq srch loc ev cands

/-- the dispatched rules are, in visiting order, exactly the candidates that are enabled and whose `when` has
at least one binding against the event -/
theorem dispatch_selects (ev : Obj) (cands : List (String × RuleM × Bool)) (disp : List (String × RuleM × List Bs))
    (h : dispatch ev cands = .ok disp) :
    disp = cands.filterMap (fun c => match dispatchOne ev c with | .ok o => o | .error _ => none) :=
  dispatch_ok ev cands disp h

/-- `err = none` means the dispatch succeeded (no matcher error in any enabled candidate's `when`) -/
theorem no_err_dispatch (srch : Srch) (loc : String) (ev : Obj) (cands : List (String × RuleM × Bool))
    (h : (processEvent srch loc ev cands).err = none) : ∃ disp, dispatch ev cands = .ok disp :=
  EventsProofs.no_err_dispatch srch loc ev cands h

/-! ## 1. `exec_count` -/

/-- the tree of a run in which nothing aborts: one rule node per dispatched rule, in order; under it exactly one
condition node per `when` binding, in order; under it one leaf per condition result binding (outer) and action
(inner) — and every condition evaluation succeeded -/
theorem tree_shape (srch : Srch) (loc : String) (ev : Obj) (cands : List (String × RuleM × Bool))
    (disp : List (String × RuleM × List Bs)) (hd : dispatch ev cands = .ok disp)
    (h : (processEvent srch loc ev cands).aborted = false) :
    (processEvent srch loc ev cands).err = none ∧
    (processEvent srch loc ev cands).rules = disp.map (ruleNodeSpec srch loc ev) ∧
    ∀ d ∈ disp, ∀ b ∈ d.2.2, ∃ out, condResult srch d.2.1 (condEnv loc ev d.1 b) = .ok out :=
  ⟨by rw [processEvent_eq, hd], tree_not_aborted srch loc ev cands disp hd h⟩

/-- `exec_count`: when nothing aborts, the number of action executions (leaves) is
Σ over dispatched rules Σ over `when` bindings Σ over condition result bindings of the number of actions -/
theorem exec_count (srch : Srch) (loc : String) (ev : Obj) (cands : List (String × RuleM × Bool))
    (disp : List (String × RuleM × List Bs)) (hd : dispatch ev cands = .ok disp)
    (h : (processEvent srch loc ev cands).aborted = false) :
    actCount (processEvent srch loc ev cands) =
      (disp.map fun d => (d.2.2.map fun b =>
        (condOut srch d.2.1 (condEnv loc ev d.1 b)).length * d.2.1.actions.length).sum).sum := by
  unfold actCount
  rw [(tree_not_aborted srch loc ev cands disp hd h).1, List.map_map]
  congr 1
  apply List.map_congr_left
  intro d _
  simp only [Function.comp, ruleNodeSpec, List.map_map]
  congr 1
  apply List.map_congr_left
  intro b _
  exact actsOf_length _ _

/-- each dispatched rule has exactly one condition node per `when` binding, carrying that binding's environment -/
theorem one_cond_per_when_binding (srch : Srch) (loc : String) (ev : Obj) (cands : List (String × RuleM × Bool))
    (disp : List (String × RuleM × List Bs)) (hd : dispatch ev cands = .ok disp)
    (h : (processEvent srch loc ev cands).aborted = false) :
    (processEvent srch loc ev cands).rules.map (fun rn => (rn.id, rn.bss, rn.conds.map (·.bs))) =
      disp.map (fun d => (d.1, d.2.2, d.2.2.map (condEnv loc ev d.1))) := by
  rw [(tree_not_aborted srch loc ev cands disp hd h).1, List.map_map]
  apply List.map_congr_left
  intro d _
  simp only [Function.comp, ruleNodeSpec, List.map_map]
  rfl

/-! ## 2. the environment of a condition and what an action sees (`exec_env` in DESIGN.md) -/

/-- the condition's environment: the `when` binding, extended by `?event`, `?location`, `?ruleId` only where
the binding does not already bind them -/
theorem cond_env_get (loc : String) (ev : Obj) (id : String) (bs : Bs) (k : String) :
    Bs.get? (condEnv loc ev id bs) k =
      (Bs.get? bs k).or (Bs.get? [("?event", .obj ev), ("?location", .str loc), ("?ruleId", .str id)] k) :=
  condEnv_get loc ev id bs k

/-- the `when` binding itself is kept as is (the defaults are appended) -/
theorem cond_env_keeps (loc : String) (ev : Obj) (id : String) (bs : Bs) : bs <+: condEnv loc ev id bs :=
  (addDefault_prefix _ _ _).trans ((addDefault_prefix _ _ _).trans (addDefault_prefix _ _ _))

/-- in EVERY tree (aborted or not) the condition nodes of a rule node carry, in order, the environments of a
prefix of its `when` bindings -/
theorem cond_nodes_env (srch : Srch) (loc : String) (ev : Obj) (cands : List (String × RuleM × Bool))
    (rn : RuleNode) (hrn : rn ∈ (processEvent srch loc ev cands).rules) :
    ∃ n, rn.conds.map (·.bs) = (rn.bss.take n).map (condEnv loc ev rn.id) := by
  obtain ⟨_, _, d, _, rfl⟩ := tree_nodes srch loc ev cands rn hrn
  obtain ⟨m, hm⟩ := runUntil_prefix (evalCond srch loc ev d.1 d.2.1) d.2.2
  refine ⟨m, ?_⟩
  change (runUntil _ _).1.map _ = (d.2.2.take m).map (condEnv loc ev d.1)
  rw [hm, List.map_map]
  apply List.map_congr_left
  intro b _
  exact evalCond_bs srch loc ev d.1 d.2.1 b

/-- a rule without condition: the "result" is the environment itself, once -/
theorem cond_absent (srch : Srch) (r : RuleM) (env : Bs) (h : r.condition = none) :
    condResult srch r env = .ok [env] := by
  unfold condResult; rw [h]

/-- a rule with a condition `q`: parsed (dispatch order of C03) and run by `execQ` on the singleton `[env]` -/
theorem cond_present (srch : Srch) (r : RuleM) (env : Bs) (q : J) (h : r.condition = some q) :
    condResult srch r env = (do let q' ← parseQuery (4 * sz q + 4) q; execQ srch q' [env]) := by
  unfold condResult; rw [h]

/-- a failing condition (evaluated on exactly `[condEnv …]`): error node, no action runs, the walk aborts -/
theorem eval_cond_error (srch : Srch) (loc : String) (ev : Obj) (id : String) (r : RuleM) (bs : Bs) (e : LErr)
    (h : condResult srch r (condEnv loc ev id bs) = .error e) :
    evalCond srch loc ev id r bs = ({ bs := condEnv loc ev id bs, err := some e, acts := [] }, [], true) :=
  evalCond_err srch loc ev id r bs e h

/-- a rule without `serialActions`: the condition is evaluated on exactly `[condEnv …]`; every
action runs once on every result binding `b` (leaf `actNodeOf b a`), the values are those of the completed leaves -/
theorem eval_cond_concurrent (srch : Srch) (loc : String) (ev : Obj) (id : String) (r : RuleM) (bs : Bs)
    (out : List Bs) (h : condResult srch r (condEnv loc ev id bs) = .ok out) (hs : r.serial = false) :
    evalCond srch loc ev id r bs =
      ({ bs := condEnv loc ev id bs, err := none, acts := actsOf r out }, okValues (actsOf r out), false) :=
  evalCond_nonserial srch loc ev id r bs out h hs

/-- an action sees exactly `StripQuestionMarks` of the condition's result binding -/
theorem action_sees_stripped (o : Obj) (b : Bs) :
    execAction (.obj o) b = evalTmpl ((Obj.get? o "verif_tmpl").getD .null) (stripQ b) :=
  execAction_obj o b

/-- in particular an action of the `echo` family returns its visible variables: `.obj (stripQ b)` -/
theorem action_echo (a : J) (b : Bs) (h : isEcho a) :
    execAction a b = .ok (.obj (stripQ b)) ∧ actNodeOf b a = { ok := true, value := .obj (stripQ b) } :=
  ⟨execAction_echo a b h, actNodeOf_ok b a _ (execAction_echo a b h)⟩

/-- with `echo` actions every leaf reports the stripped condition result binding it ran on -/
theorem acts_echo (r : RuleM) (out : List Bs) (h : ∀ a ∈ r.actions, isEcho a) :
    actsOf r out =
      out.flatMap (fun b => r.actions.map (fun _ => ({ ok := true, value := .obj (stripQ b) } : ActNode))) := by
  unfold actsOf
  congr 1; funext b
  apply List.map_congr_left
  intro a ha
  exact actNodeOf_ok b a _ (execAction_echo a b (h a ha))

/-! ## 3. `tree_values_agree`, `failure_isolated`, serial rules -/

/-- `values` is exactly the list of `value`s of the completed (`ok`) action leaves, in walk order — for every
run, aborted or not -/
theorem tree_values_agree (srch : Srch) (loc : String) (ev : Obj) (cands : List (String × RuleM × Bool)) :
    (processEvent srch loc ev cands).values = treeValues (processEvent srch loc ev cands) := by
  rw [processEvent_eq]
  cases dispatch ev cands with
  | error e => rfl
  | ok disp =>
    exact runUntil_values _ (fun (rn : RuleNode) => rn.conds.flatMap (fun c => okValues c.acts)) disp
      (fun d _ => ruleStep_values srch loc ev d)

/-- `failure_isolated`: replacing the action list of one rule without `serialActions` (same `when`, same
condition) leaves `err` and `aborted` unchanged and every other rule node identical; the rule's own node keeps its
id, bindings, condition nodes' environments and errors, and its leaves are rebuilt from the SAME condition results -/
theorem failure_isolated (srch : Srch) (loc : String) (ev : Obj) (pre post : List (String × RuleM × Bool))
    (id : String) (r r' : RuleM) (en : Bool)
    (hw : r'.when? = r.when?) (hc : r'.condition = r.condition) (hs : r.serial = false) (hs' : r'.serial = false) :
    (processEvent srch loc ev (pre ++ (id, r, en) :: post)).err =
      (processEvent srch loc ev (pre ++ (id, r', en) :: post)).err ∧
    (processEvent srch loc ev (pre ++ (id, r, en) :: post)).aborted =
      (processEvent srch loc ev (pre ++ (id, r', en) :: post)).aborted ∧
    Pointwise (NodeRel id r r') (processEvent srch loc ev (pre ++ (id, r, en) :: post)).rules
      (processEvent srch loc ev (pre ++ (id, r', en) :: post)).rules := by
  rw [processEvent_eq, processEvent_eq]
  rcases dispatch_change ev id r r' en post hw pre with ⟨e, he1, he2⟩ | ⟨disp, disp', hd1, hd2, hp⟩
  · rw [he1, he2]; exact ⟨rfl, rfl, .nil⟩
  · rw [hd1, hd2]
    obtain ⟨h1, h2⟩ := runUntil_rel (ruleStep srch loc ev) (ruleStep srch loc ev) (DRel id r r') (NodeRel id r r')
      (fun d d' h => by
        rcases h with rfl | ⟨bss, rfl, rfl⟩
        · exact ⟨rfl, Or.inl rfl⟩
        · exact ruleStep_rel srch loc ev id r r' bss hc hs hs')
      disp disp' hp
    exact ⟨rfl, h1, h2⟩

/-- … and when the change is "action `a` replaced by an always-failing `a'`": only `a`'s leaf changes (to the failed
leaf), the leaves of the other actions `p`, `q` are the same on every result binding, and exactly `a`'s values
disappear from the values -/
theorem failure_isolated_leaves (r r' : RuleM) (p q : List J) (a a' : J) (out : List Bs)
    (h : r.actions = p ++ a :: q) (h' : r'.actions = p ++ a' :: q) (hf : ∀ b, ∃ e, execAction a' b = .error e) :
    actsOf r out = out.flatMap (fun b => p.map (actNodeOf b) ++ actNodeOf b a :: q.map (actNodeOf b)) ∧
    actsOf r' out = out.flatMap (fun b => p.map (actNodeOf b) ++ failedNode :: q.map (actNodeOf b)) ∧
    okValues (actsOf r out) = out.flatMap (fun b =>
      okValues (p.map (actNodeOf b)) ++ okValues [actNodeOf b a] ++ okValues (q.map (actNodeOf b))) ∧
    okValues (actsOf r' out) = out.flatMap (fun b => okValues (p.map (actNodeOf b)) ++ okValues (q.map (actNodeOf b))) := by
  have e1 := actsOf_split r p q a h out
  have e2 : actsOf r' out = out.flatMap (fun b => p.map (actNodeOf b) ++ failedNode :: q.map (actNodeOf b)) := by
    rw [actsOf_split r' p q a' h' out]
    congr 1; funext b
    obtain ⟨e, he⟩ := hf b
    rw [actNodeOf_err b a' e he]
  refine ⟨e1, e2, ?_, ?_⟩
  · rw [e1, okValues_flatMap]
    congr 1; funext b
    rw [okValues_append, List.append_assoc]
    congr 1
    exact okValues_append [actNodeOf b a] _
  · rw [e2, okValues_flatMap]
    congr 1; funext b
    rw [okValues_append, okValues_cons_failed]

/-- a rule with `serialActions` whose actions all succeed behaves like a concurrent one -/
theorem serial_all_ok (srch : Srch) (loc : String) (ev : Obj) (id : String) (r : RuleM) (bs : Bs)
    (out : List Bs) (h : condResult srch r (condEnv loc ev id bs) = .ok out) (hs : r.serial = true)
    (hok : ∀ p ∈ pairsOf r out, ∃ v, execAction p.2 p.1 = .ok v) :
    evalCond srch loc ev id r bs =
      ({ bs := condEnv loc ev id bs, err := none, acts := actsOf r out }, okValues (actsOf r out), false) :=
  evalCond_all srch loc ev id r bs out h (by rw [hs]; exact fun p hp => (condStep_go p).2 (hok p hp))

/-- a rule with `serialActions` stops at the first failing action: the earlier (binding, action) pairs have their
completed leaves, the failing one has a failed leaf, the later pairs `post` are NOT executed, and the walk aborts -/
theorem serial_stops (srch : Srch) (loc : String) (ev : Obj) (id : String) (r : RuleM) (bs : Bs)
    (out : List Bs) (h : condResult srch r (condEnv loc ev id bs) = .ok out) (hs : r.serial = true)
    (pre post : List (Bs × J)) (b : Bs) (a : J) (e : LErr) (hp : pairsOf r out = pre ++ (b, a) :: post)
    (hpre : ∀ p ∈ pre, ∃ v, execAction p.2 p.1 = .ok v) (hf : execAction a b = .error e) :
    evalCond srch loc ev id r bs =
      ({ bs := condEnv loc ev id bs, err := none, acts := pre.map (fun p => actNodeOf p.1 p.2) ++ [failedNode] },
        okValues (pre.map (fun p => actNodeOf p.1 p.2)), true) := by
  rw [evalCond_ok srch loc ev id r bs out h, hs, hp,
    runUntil_stops (condStep true) pre post (b, a) (fun p hp => (condStep_go p).2 (hpre p hp))
      (by rw [condStep_err true hf]),
    List.map_append, List.flatMap_append, okValues_map]
  simp only [List.map_cons, List.map_nil, List.flatMap_cons, List.flatMap_nil, condStep_err true hf, List.append_nil]
  rfl

/-- an aborting step (failed condition, or failed action of a serial rule) ends the whole walk: the rules
dispatched after it get no node -/
theorem abort_stops_walk (srch : Srch) (loc : String) (ev : Obj) (cands : List (String × RuleM × Bool))
    (dpre dpost : List (String × RuleM × List Bs)) (d : String × RuleM × List Bs)
    (hd : dispatch ev cands = .ok (dpre ++ d :: dpost))
    (hpre : ∀ x ∈ dpre, (ruleStep srch loc ev x).2.2 = false) (hx : (ruleStep srch loc ev d).2.2 = true) :
    (processEvent srch loc ev cands).rules = (dpre ++ [d]).map (fun x => (ruleStep srch loc ev x).1) ∧
    (processEvent srch loc ev cands).aborted = true := by
  rw [processEvent_eq, hd]
  simp only []
  rw [runUntil_stops _ dpre dpost d hpre hx]
  exact ⟨rfl, rfl⟩

/-! ## 4. disabled and non-matching candidates are not run -/

/-- a disabled candidate contributes nothing: the result is that of the candidate list without it -/
theorem disabled_not_run (srch : Srch) (loc : String) (ev : Obj) (pre post : List (String × RuleM × Bool))
    (id : String) (r : RuleM) :
    processEvent srch loc ev (pre ++ (id, r, false) :: post) = processEvent srch loc ev (pre ++ post) := by
  rw [processEvent_eq, processEvent_eq, dispatch_drop ev _ post (dispatchOne_disabled ev id r) pre]

/-- a candidate whose `when` does not match the event contributes nothing -/
theorem nonmatching_not_run (srch : Srch) (loc : String) (ev : Obj) (pre post : List (String × RuleM × Bool))
    (id : String) (r : RuleM) (en : Bool) (h : whenBindings ev r = .ok []) :
    processEvent srch loc ev (pre ++ (id, r, en) :: post) = processEvent srch loc ev (pre ++ post) := by
  rw [processEvent_eq, processEvent_eq, dispatch_drop ev _ post (dispatchOne_nomatch ev id r en h) pre]

/-- conversely every rule node of every tree stems from an enabled candidate whose `when` matched the event
with exactly the node's (≥ 1) bindings -/
theorem nodes_are_dispatched (srch : Srch) (loc : String) (ev : Obj) (cands : List (String × RuleM × Bool))
    (rn : RuleNode) (hrn : rn ∈ (processEvent srch loc ev cands).rules) :
    ∃ r, (rn.id, r, true) ∈ cands ∧ whenBindings ev r = .ok rn.bss ∧ rn.bss ≠ [] := by
  obtain ⟨disp, hd, d, hdm, rfl⟩ := tree_nodes srch loc ev cands rn hrn
  exact ⟨d.2.1, dispatch_mem ev cands disp hd d hdm⟩

/-! ## Non-vacuity: a concrete rule set — event `{"a":[1,2]}`; rule `r1` with the array `when` `{"a":["?x"]}` (two
bindings `w1`, `w2`), condition `{"pattern":{"a":"?y"}}` (two bindings over the facts of `QueryEx.exSrch`),
actions `[aEcho, aThrow]` (the second always fails); a disabled copy `r0` and a non-matching rule `r2` -/

section Examples
open EventsEx QueryEx

/-- multi-binding `when`: the array pattern with a variable yields one binding per array element -/
example : whenBindings exEv exR = .ok [w1, w2] := ex_when

/-- hypothesis `hd`: the disabled copy and the non-matching rule are not dispatched -/
example : dispatch exEv exCands = .ok [("r1", exR, [w1, w2])] := ex_dispatch

/-- the condition yields two bindings on the environment of either `when` binding -/
example : condResult exSrch exR (condEnv "loc" exEv "r1" w2) =
    .ok [("?y", .num 1) :: condEnv "loc" exEv "r1" w2, ("?y", .num 2) :: condEnv "loc" exEv "r1" w2] :=
  ex_cond exR rfl "r1" w2 (Or.inr rfl)

/-- the environment: `?event`, `?location`, `?ruleId` added to the `when` binding -/
example : condEnv "loc" exEv "r1" w1 =
    [("?x", .num 1), ("?event", .obj exEv), ("?location", .str "loc"), ("?ruleId", .str "r1")] :=
  ex_env

/-- hypothesis `h`: nothing aborts although one of the two actions fails every time -/
example : (processEvent exSrch "loc" exEv exCands).aborted = false := ex_not_aborted

/-- `exec_count` on the instance: 1 rule × 2 `when` bindings × 2 condition bindings × 2 actions = 8 executions -/
example : actCount (processEvent exSrch "loc" exEv exCands) = 8 := by
  rw [exec_count _ _ _ _ _ ex_dispatch ex_not_aborted]
  simp only [List.map_cons, List.map_nil, List.sum_cons, List.sum_nil,
    ex_condOut w1 (Or.inl rfl), ex_condOut w2 (Or.inr rfl)]
  rfl

/-- `tree_shape` on the instance: one rule node, two condition nodes, under each: echo, failed, echo, failed -/
example : (processEvent exSrch "loc" exEv exCands).rules =
    [{ id := "r1", bss := [w1, w2],
       conds := [w1, w2].map fun w =>
         { bs := condEnv "loc" exEv "r1" w, err := none,
           acts := [{ ok := true, value := .obj (stripQ (("?y", .num 1) :: condEnv "loc" exEv "r1" w)) }, failedNode,
                    { ok := true, value := .obj (stripQ (("?y", .num 2) :: condEnv "loc" exEv "r1" w)) }, failedNode] } }] := by
  rw [(tree_shape _ _ _ _ _ ex_dispatch ex_not_aborted).2.1]
  simp [ruleNodeSpec, condNodeSpec, ex_condOut, ex_acts exR rfl]

/-- `tree_values_agree` on the instance: the four values of the completed leaves, in walk order -/
example : (processEvent exSrch "loc" exEv exCands).values =
    [.obj (stripQ (("?y", .num 1) :: condEnv "loc" exEv "r1" w1)), .obj (stripQ (("?y", .num 2) :: condEnv "loc" exEv "r1" w1)),
     .obj (stripQ (("?y", .num 1) :: condEnv "loc" exEv "r1" w2)), .obj (stripQ (("?y", .num 2) :: condEnv "loc" exEv "r1" w2))] := by
  rw [tree_values_agree, treeValues, (tree_shape _ _ _ _ _ ex_dispatch ex_not_aborted).2.1]
  simp [ruleNodeSpec, condNodeSpec, ex_condOut, ex_acts exR rfl, okValues, failedNode]

/-- what an `echo` action sees: the stripped binding (`x`, `y`, `event`, `location`, `ruleId` — no `?`) -/
example : stripQ (("?y", .num 1) :: condEnv "loc" exEv "r1" w1) =
    [("y", .num 1), ("x", .num 1), ("event", .obj exEv), ("location", .str "loc"), ("ruleId", .str "r1")] :=
  ex_strip

/-- `failure_isolated` applies: replace `aEcho` by the failing `aThrow` in `r1` -/
example :
    let r' : RuleM := { exR with actions := [aThrow, aThrow] }
    Pointwise (NodeRel "r1" exR r') (processEvent exSrch "loc" exEv exCands).rules
      (processEvent exSrch "loc" exEv [("r0", exR, false), ("r1", r', true), ("r2", exRz, true)]).rules :=
  (failure_isolated exSrch "loc" exEv [("r0", exR, false)] [("r2", exRz, true)] "r1" exR
    { exR with actions := [aThrow, aThrow] } true rfl rfl rfl rfl).2.2

/-- … and `failure_isolated_leaves` with `p = []`, `a = aEcho`, `q = [aThrow]` -/
example (out : List Bs) :
    okValues (actsOf { exR with actions := [aThrow, aThrow] } out) =
      out.flatMap (fun b => okValues ([].map (actNodeOf b)) ++ okValues ([aThrow].map (actNodeOf b))) :=
  (failure_isolated_leaves exR { exR with actions := [aThrow, aThrow] } [] [aThrow] aEcho aThrow out rfl rfl
    (fun b => ⟨_, throw_fails b⟩)).2.2.2

/-- `serial_stops` on the instance: with `serialActions` the first failing action (2nd of 4 pairs) is the last leaf -/
example : evalCond exSrch "loc" exEv "r1" exRs w1 =
    ({ bs := condEnv "loc" exEv "r1" w1, err := none,
       acts := [(("?y", .num 1) :: condEnv "loc" exEv "r1" w1, aEcho)].map (fun p => actNodeOf p.1 p.2) ++ [failedNode] },
      okValues ([(("?y", .num 1) :: condEnv "loc" exEv "r1" w1, aEcho)].map (fun p => actNodeOf p.1 p.2)), true) :=
  serial_stops exSrch "loc" exEv "r1" exRs w1 _ (ex_cond exRs rfl "r1" w1 (Or.inl rfl)) rfl
    [(("?y", .num 1) :: condEnv "loc" exEv "r1" w1, aEcho)]
    [(("?y", .num 2) :: condEnv "loc" exEv "r1" w1, aEcho), (("?y", .num 2) :: condEnv "loc" exEv "r1" w1, aThrow)]
    (("?y", .num 1) :: condEnv "loc" exEv "r1" w1) aThrow "script"
    (by rw [ex_pairs exRs rfl]; rfl)
    (by intro p hp; rw [List.mem_singleton] at hp; subst hp; exact ⟨_, execAction_echo aEcho _ echo_isEcho⟩)
    (throw_fails _)

/-- `abort_stops_walk` on the instance: the serial rule aborts, the second `when` binding and the rule `r3`
dispatched after it are never evaluated -/
example : (processEvent exSrch "loc" exEv [("r1", exRs, true), ("r3", exR, true)]).rules =
      [{ id := "r1", bss := [w1, w2], conds := [(evalCond exSrch "loc" exEv "r1" exRs w1).1] }] ∧
    (processEvent exSrch "loc" exEv [("r1", exRs, true), ("r3", exR, true)]).aborted = true := by
  have h := abort_stops_walk exSrch "loc" exEv _ [] [("r3", exR, [w1, w2])] ("r1", exRs, [w1, w2]) ex_dispatch_s
    (fun _ hx => by cases hx) (by rw [ex_serial_ruleStep])
  rw [h.1, h.2]
  simp [ex_serial_ruleStep]

/-- `disabled_not_run` / `nonmatching_not_run` on the instance -/
example : processEvent exSrch "loc" exEv exCands = processEvent exSrch "loc" exEv [("r1", exR, true)] := by
  exact (disabled_not_run exSrch "loc" exEv [] [("r1", exR, true), ("r2", exRz, true)] "r0" exR).trans
    (nonmatching_not_run exSrch "loc" exEv [("r1", exR, true)] [] "r2" exRz true ex_when_z)

end Examples

/-! ## 5. actions with an HTTP endpoint: what is POSTed (`SubstituteBindings`, actions.go)

An action whose endpoint is an `http(s):` URL POSTs `{"bindings": bs, "opts": opts, "code": C}` once per execution
(the counting theorems above are about executions, whatever the endpoint). With `subvars` (the default of a rule's action)
`C = substD d bs code`: `RulioModel/Subst.lean`, the model of `substituteInterface` on the fragment `substFrag` (every
string of the template is a naked variable `?name` or has no `?`, no map key has a `?`); `d` is the control's
`DefaultVariableValue` when `UseDefaultVariableValue` is set (`DefaultControl()`: `some "undefined"`), `substJ = substD none`.
`VarKeys bs`: every binding key contains a `?` (keys are variables). The correspondence run of `checks/c04.py` compares
the bodies a recording server receives with these definitions. -/

open SubstLemmas

/-- `subst_ground`: a template without any `?` (in strings and keys) is sent as it is, whatever the bindings -/
theorem subst_ground (d : Option J) (bs : Bs) (hk : VarKeys bs) (t : J) (h : qfree t = true) :
    substD d bs t = .ok t :=
  ground_J d hk t h

/-- `subst_exact`: a template that is exactly one bound variable yields the bound value itself, of whatever JSON type
(a number stays a number, a map stays a map) — also when the variable is an element of an array or a value of a map -/
theorem subst_exact (d : Option J) (bs : Bs) (x : String) (v : J) (h : bs.get? x = some v) :
    substD d bs (.str x) = .ok v ∧
    substD d bs (.arr [.str x]) = .ok (.arr [v]) ∧
    ∀ k, hasQ k = false → substD d bs (.obj [(k, .str x)]) = .ok (.obj [(k, v)]) := by
  have hs : substStr d bs x = .ok v := by simp [substStr, h]
  refine ⟨by simp [substD, hs], ?_, ?_⟩
  · simp [substD, substDL, hs]
  · intro k hq; simp [substD, substDO, hq, hs]

/-- `subst_unbound_errors`: without `UseDefaultVariableValue`, a naked variable that nothing binds — anywhere in the
template (array element or map value, at any depth) — makes the substitution fail: the action fails and nothing is sent.
At the top it is the error `naked variable '?x' unbound`. -/
theorem subst_unbound_errors (bs : Bs) (x : String) (hn : isNaked x = true) (hu : bs.get? x = none) :
    substJ bs (.str x) = .error ("naked variable '" ++ x ++ "' unbound") ∧
    ∀ t : J, x ∈ strLeaves t → ∃ e, substJ bs t = .error e :=
  ⟨by simpa [substJ, substD] using substStr_unbound hn hu, fun t h => err_J hn hu t h⟩

/-- `subst_unbound_default`: with `UseDefaultVariableValue` an unbound naked variable is replaced by the default value
(`"undefined"` under `DefaultControl()`), and on the fragment the substitution cannot fail at all -/
theorem subst_unbound_default (v : J) (bs : Bs) :
    (∀ x, isNaked x = true → bs.get? x = none → substD (some v) bs (.str x) = .ok v) ∧
    ∀ t : J, substFrag t = true → ∃ r, substD (some v) bs t = .ok r :=
  ⟨fun x hn hu => by simp [substD, substStr, hu, hn], fun t hf => ok_J t hf (fun _ _ _ _ => rfl)⟩

/-- `subst_succeeds_iff_bound` (fragment, no default value): the substitution succeeds exactly when every naked variable
of the template is bound -/
theorem subst_succeeds_iff_bound (bs : Bs) (t : J) (hf : substFrag t = true) :
    (∃ r, substJ bs t = .ok r) ↔ ∀ x ∈ strLeaves t, isNaked x = true → (bs.get? x).isSome = true := by
  constructor
  · rintro ⟨r, hr⟩ x hx hn
    cases hg : bs.get? x with
    | some _ => rfl
    | none =>
      obtain ⟨e, he⟩ := err_J hn hg t hx
      rw [substJ] at hr; rw [hr] at he; cases he
  · intro h
    exact ok_J t hf (fun x hx hn hg => by have := h x hx hn; rw [hg] at this; cases this)

/-- `subst_compositional`: substitution distributes over arrays, and over maps whose keys have no `?` (keys unchanged,
order kept); scalars other than strings are untouched -/
theorem subst_compositional (d : Option J) (bs : Bs) :
    (∀ xs : List J, substD d bs (.arr xs) = (xs.mapM (substD d bs)).map J.arr) ∧
    (∀ kvs : List (String × J), (∀ kv ∈ kvs, hasQ kv.1 = false) →
      substD d bs (.obj kvs) = (kvs.mapM (fun kv => (substD d bs kv.2).map (fun v => (kv.1, v)))).map J.obj) ∧
    substD d bs .null = .ok .null ∧ (∀ b, substD d bs (.bool b) = .ok (.bool b)) ∧ (∀ n, substD d bs (.num n) = .ok (.num n)) := by
  refine ⟨fun xs => ?_, fun kvs h => ?_, rfl, fun _ => rfl, fun _ => rfl⟩
  · rw [substD_arr, substDL_eq_mapM]
  · rw [substD_obj, substDO_eq_mapM d bs kvs h]

/-- `subst_result_ground`: when the bound values (and the default value) contain no `?`, whatever is sent contains no `?`
either: no unresolved variable reaches the endpoint -/
theorem subst_result_ground (d : Option J) (bs : Bs) (hv : QfreeVals bs) (hd : ∀ v, d = some v → qfree v = true)
    (t r : J) (h : substD d bs t = .ok r) : qfree r = true :=
  result_J hv hd t r h

/-- `subst_idempotent_on_ground_bindings`: if all bound values (and the default value) are free of `?`, substituting
the result again changes nothing -/
theorem subst_idempotent_on_ground_bindings (d : Option J) (bs : Bs) (hk : VarKeys bs) (hv : QfreeVals bs)
    (hd : ∀ v, d = some v → qfree v = true) (t r : J) (h : substD d bs t = .ok r) :
    substD d bs r = .ok r :=
  ground_J d hk r (result_J hv hd t r h)

/-- `subst_depends_on_own_variables`: the result depends only on what the bindings give to the strings of the template
— extra bindings (`?event`, `?location`, `?ruleId`, variables of other rules) and the order of the bindings do not matter -/
theorem subst_depends_on_own_variables (d : Option J) (bs bs' : Bs) (t : J)
    (h : ∀ x ∈ strLeaves t, bs.get? x = bs'.get? x) : substD d bs t = substD d bs' t :=
  agree_J d bs bs' t h

namespace PostExamples

/-- bindings of an action execution: `when` bound `?w`, the condition `?l` and `?n`; the event and names are added -/
def exBs : Bs := [("?n", .num 3), ("?l", .str "tacos"), ("?w", .str "homer"),
  ("?event", .obj [("who", .str "homer")]), ("?location", .str "a"), ("?ruleId", .str "r1")]

def exTmpl : J := .obj [("a", .str "?w"), ("b", .arr [.str "?l", .num 1, .str "const", .obj [("c", .str "?n")]]), ("e", .str "?event")]

/-- the hypotheses of the theorems hold for the instance -/
example : VarKeys exBs ∧ QfreeVals exBs ∧ substFrag exTmpl = true := by
  unfold VarKeys QfreeVals; decide +kernel

/-- what is sent as `code`: values keep their JSON type, constants stay -/
example : substJ exBs exTmpl = .ok (.obj [("a", .str "homer"),
    ("b", .arr [.str "tacos", .num 1, .str "const", .obj [("c", .num 3)]]), ("e", .obj [("who", .str "homer")])]) := by rfl

/-- an unbound variable: an error without a default value, `"undefined"` with `DefaultControl()`'s -/
example : substJ exBs (.arr [.str "?w", .str "?zz"]) = .error "naked variable '?zz' unbound" ∧
    substD (some (.str "undefined")) exBs (.arr [.str "?w", .str "?zz"]) = .ok (.arr [.str "homer", .str "undefined"]) := ⟨by rfl, by rfl⟩

/-- outside the fragment: a string that mixes text and a variable is not modelled -/
example : substFrag (.str "id-?w") = false ∧ isNaked "?w" = true ∧ isNaked "?9" = false ∧ isNaked "??w" = false := by decide

/-- `subst_idempotent_on_ground_bindings` needs the hypothesis on the values: a value that is itself a variable name is
substituted again by a second pass -/
example : substJ [("?a", .str "?b"), ("?b", .num 1)] (.str "?a") = .ok (.str "?b") ∧
    substJ [("?a", .str "?b"), ("?b", .num 1)] (.str "?b") = .ok (.num 1) := ⟨by rfl, by rfl⟩

end PostExamples

/-- **subst_mixed_conservative** — the driver evaluates `substDX`, which also answers strings that mix text and variables
(`substMixed`: whole tokens `?` + word characters that name a bound scalar are replaced by its text). Wherever the model of the
fragment (`substD`) answers with a value, the extension answers the same: what the theorems above say of successful
substitutions holds of what the driver computes. -/
theorem subst_mixed_conservative {d : Option J} {bs : Bs} (t r : J) (h : substD d bs t = .ok r) : substDX d bs t = .ok r :=
  substDX_of_ok t r h

/-- whole tokens only: `?w` is not replaced inside `?w2` or `?wx`; numbers, booleans and null are inserted as JSON text; an
unbound token stays; a token glued to the next one, a structured value and a value with `$` or `?` are not modelled -/
example :
    (match substMixed [("?w", .str "homer"), ("?n", .num 7), ("?z", .null)] "id-?w <?w2> ?wx ?n/?z ?u." with
      | .ok (.str s) => s == "id-homer <?w2> ?wx 7/null ?u." | _ => false) = true ∧
    (match substMixed [("?w", .str "homer"), ("?l", .str "chips")] "?w?l" with | .error _ => true | .ok _ => false) = true ∧
    (match substMixed [("?e", .obj [])] "x ?e" with | .error _ => true | .ok _ => false) = true ∧
    (match substMixed [("?w", .str "a$1")] "x ?w" with | .error _ => true | .ok _ => false) = true := by
  decide +kernel
