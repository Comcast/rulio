import RulioProofs.LocExpiry
import Props.C19
import Props.C08
import RulioProofs.CloseExpiry
import RulioProofs.LocState

open LocP

/-! # C07 — expiry is absolute and expired items are never observable

Time is the explicit parameter `now` / `t` (UNIX seconds).  `prepareFact` is `PrepareFact` (what both State
implementations run on every write, and what is stored), `checkExpiration` is what `Get` / `Search` /
`FindRules` consult.  The comparison used is the one regenerated from `notAfter` in `core/state.go`
(`Gen.notAfterCmp`, tied to the model by `gen_defs_match_model`). -/

/-- The expiry instant per encoding: `ttl` number → `now + n`; `ttl` duration string → `now + d`;
numeric `expires` → that number; RFC3339 `expires` → its UNIX time (a `ttl` wins over an `expires`). -/
theorem expiry_encodings (x : Obj) (now : Int) :
    (∀ n, x.get? "ttl" = some (.num n) → expiryOf x now = some (now + n)) ∧
    (∀ s d, x.get? "ttl" = some (.str s) → parseDurationSecs s = some d → expiryOf x now = some (now + d)) ∧
    (∀ n, x.get? "ttl" = none → x.get? "expires" = some (.num n) → expiryOf x now = some n) ∧
    (∀ s t, x.get? "ttl" = none → x.get? "expires" = some (.str s) → parseRFC3339 s = some t →
      expiryOf x now = some t) := by
  refine ⟨fun n h => ?_, fun s d h hp => ?_, fun n h1 h2 => ?_, fun s t h1 h2 hp => ?_⟩ <;>
    simp [expiryOf, *]

/-- **The expiry instant is fixed when the item is written.**  A successful `prepareFact` at `now` yields the
stored fact `m`: without `ttl`; if `x` carried an expiry, `m.expires` is the number `expiryOf x now` (now + ttl,
or the given instant); every later expiry test reads just that stored number (so no read can move it); and
preparing the *stored* fact again at any other time `now'` — what a reload does — finds the same instant.
A fact without expiry is stored as it is and stays without. -/
theorem expiry_fixed_at_write {given fresh id : String} {x m x' : Obj} {now : Int}
    (h : prepareFact given fresh x now = .ok (id, m, x')) :
    m.get? "ttl" = none ∧
    (Expiring x → ∃ e, expiryOf x now = some e ∧ m.get? "expires" = some (.num e) ∧
        (∀ t, checkExpiration m t = .ok (notAfter e t)) ∧
        (∀ now', ∃ m', setExpires m now' = .ok (m', true, e) ∧ m'.get? "expires" = some (.num e) ∧
          m'.get? "ttl" = none)) ∧
    (¬ Expiring x → m = x ∧ ∀ now', setExpires m now' = .ok (m, false, 0)) := by
  obtain ⟨_, b, e, hs, _⟩ := prepareFact_parts h
  have p := setExpires_post hs
  refine ⟨p.noTtl, ?_⟩
  cases b with
  | false =>
    obtain ⟨_, rfl, ht, he⟩ := p.plain rfl
    exact ⟨fun hE => hE.elim (absurd ht) (absurd he), fun _ => ⟨rfl, fun now' => setExpires_none now' ht he⟩⟩
  | true =>
    have hm := p.exp rfl
    refine ⟨fun _ => ⟨e, p.read rfl, hm, checkExpiration_num hm,
      fun now' => setExpires_again p.noTtl hm p.rule_shape now'⟩, fun hN => ?_⟩
    -- a fact that carries no expiry has none to read
    have := p.read rfl
    simp only [expiryOf, (not_expiring hN).1, (not_expiring hN).2] at this
    cases this

/-- Reads never move or rewrite a stored item: after `Get`, `Search`, `FindRules` (or `Rem`) at any time, a
fact that is still stored is the identical fact — with the identical `expires`. -/
theorem reads_never_move_expiry (s : St) (op : SOp) (t : Int) (hop : ∀ g x, op ≠ .add g x)
    (id : String) (f : Obj) (h : amGet (op.step s t).facts id = some f) : amGet s.facts id = some f :=
  (SOp.step_shrinks t hop).facts_sub h

/-- **Visible strictly before the expiry instant.**  For a stored fact with `expires = e ≠ 0` the expiry test
at `t` is the regenerated comparison `e <= t`: the item is unexpired iff `t < e`.  Accordingly `Get` (both
implementations) returns the fact, and leaves the state alone, at every `t < e`, and refuses from `t = e` on. -/
theorem visible_iff_before {m : Obj} {e : Int} (hm : m.get? "expires" = some (.num e)) (he : e ≠ 0) (t : Int) :
    checkExpiration m t = .ok (Gen.notAfterCmp e t) ∧
    (checkExpiration m t = .ok false ↔ t < e) ∧
    (∀ (s : St) (id : String), amGet s.facts id = some m →
      (t < e → s.get id t = (s, .ok m)) ∧ (e ≤ t → ∃ err, (s.get id t).2 = .error err)) := by
  have hc : checkExpiration m t = .ok (Gen.notAfterCmp e t) := by
    rw [checkExpiration_num hm, gen_defs_match_model.2.1 e t he]
  have hiff : checkExpiration m t = .ok false ↔ t < e := by
    rw [hc]; simp [Gen.notAfterCmp, Int.not_le]
  refine ⟨hc, hiff, fun s id hg => ⟨fun hlt => ?_, fun hle => ?_⟩⟩
  · exact St.get_live hg (hiff.2 hlt)
  · have htrue : checkExpiration m t = .ok true := by
      rw [hc]; simp [Gen.notAfterCmp, hle]
    exact (St.get_expired hg htrue).1

/-- Items without an expiry never expire: no `expires` key, or `expires = 0` ("no expiration"). -/
theorem no_expiry_never_expires (m : Obj) :
    (m.get? "expires" = none → ∀ t, checkExpiration m t = .ok false) ∧
    (m.get? "expires" = some (.num 0) → ∀ t, checkExpiration m t = .ok false) ∧
    (∀ (given fresh id : String) (x x' : Obj) (now : Int), prepareFact given fresh x now = .ok (id, m, x') →
      ¬ Expiring x → ∀ t, checkExpiration m t = .ok false) := by
  refine ⟨checkExpiration_none, fun h t => by rw [checkExpiration_num h]; rfl, ?_⟩
  intro given fresh id x x' now hp hN t
  obtain ⟨hm, _⟩ := (expiry_fixed_at_write hp).2.2 hN
  subst hm
  exact checkExpiration_none (not_expiring hN).2 t

/-- **Writing an already expired item is rejected.**  `prepareFact` answers "expired" exactly when the item
carries an expiry `e` (`≠ 0`) with `e ≤ now` (the regenerated comparison); both State implementations then
refuse the `Add` and keep memory and storage as they were. -/
theorem already_expired_rejected (given fresh : String) (x : Obj) (now : Int) :
    (prepareFact given fresh x now = .error "expired" ↔
      (∃ id, genId x given fresh = .ok id) ∧
        ∃ m e, setExpires x now = .ok (m, true, e) ∧ e ≠ 0 ∧ Gen.notAfterCmp e now = true) ∧
    (∀ s : St, prepareFact given s.freshId x now = .error "expired" →
      s.add given x now = (s, .error "expired")) := by
  constructor
  · rw [prepareFact_expired_iff]
    constructor
    · rintro ⟨hid, m, e, hs, hn⟩
      have he : e ≠ 0 := by intro h0; subst h0; simp [notAfter] at hn
      exact ⟨hid, m, e, hs, he, by rw [← gen_defs_match_model.2.1 e now he]; exact hn⟩
    · rintro ⟨hid, m, e, hs, he, hn⟩
      exact ⟨hid, m, e, hs, by rw [gen_defs_match_model.2.1 e now he]; exact hn⟩
  · intro s hp
    unfold St.add
    cases s.kind
    · simp [St.iAdd, St.iadd, hp]
    · simp [St.lAdd, hp]

/-- **From the expiry instant on the item is never returned again, and it is purged once observed.**
For a stored fact `f` expired at `t` (`t ≥ e`), in either State implementation:
* `Get` answers an error, never the fact; afterwards the fact is gone from memory *and* storage — always in
  the linear state, and in the indexed state whenever the removal itself (un-indexing a rule body, the
  deleteWith cascade) does not fail;
* `Search` never returns a fact that is expired at `t` (whatever the pattern), and every returned fact is
  the stored one; a completed linear `Search` has purged every expired fact from memory and storage;
* once absent from memory and storage, the id stays absent at every later time, through any history of
  `Get` / `Search` / `FindRules` / `Rem` / `Add`s of other ids, until an `Add` returns this id again. -/
theorem never_again :
    (∀ (s : St) (id : String) (f : Obj) (t : Int), amGet s.facts id = some f → checkExpiration f t = .ok true →
      (∃ err, (s.get id t).2 = .error err) ∧
      (s.kind = .linear → amGet (s.get id t).1.facts id = none ∧ amGet (s.get id t).1.store id = none) ∧
      ((∀ err, (St.irem s.fuel s id t).2 ≠ .error err) →
        amGet (s.get id t).1.facts id = none ∧ amGet (s.get id t).1.store id = none)) ∧
    (∀ (s s' : St) (p : Obj) (t : Int) (out : List (String × Obj × List Bs)), s.search p t = (s', .ok out) →
      (∀ r ∈ out, amGet s.facts r.1 = some r.2.1 ∧ checkExpiration r.2.1 t ≠ .ok true) ∧
      (s.kind = .linear → ∀ id f, amGet s.facts id = some f → checkExpiration f t = .ok true →
        amGet s'.facts id = none ∧ amGet s'.store id = none)) ∧
    (∀ (s : St) (id : String) (ops : List (SOp × Int)),
      amGet s.facts id = none ∧ amGet s.store id = none → NeverAdds id s ops →
      amGet (runSOps s ops).facts id = none ∧ amGet (runSOps s ops).store id = none) := by
  refine ⟨fun s id f t hg hx => ?_, fun s s' p t out h => ?_, fun s id ops habs hna => runSOps_absent ops s habs hna⟩
  · obtain ⟨h1, h2, h3⟩ := St.get_expired hg hx
    exact ⟨h1, h3, h2⟩
  · exact ⟨St.search_results h, fun hk id f hg hx => St.search_purges_linear hk h hg hx⟩

/-- The parsers on concrete inputs: RFC3339 (the epoch; 2026-09-29 05:00 UTC; malformed inputs rejected), durations,
and the day count across month / year / leap-day boundaries. -/
theorem parsers_sane :
    parseRFC3339 "1970-01-01T00:00:00Z" = some 0 ∧
    parseRFC3339 "2026-09-29T05:00:00Z" = some 1790658000 ∧
    parseRFC3339 "2026-09-29 05:00:00Z" = none ∧ parseRFC3339 "2026-13-01T00:00:00Z" = none ∧
    parseDurationSecs "90m" = some 5400 ∧ parseDurationSecs "2s" = some 2 ∧ parseDurationSecs "1h" = some 3600 ∧
    parseDurationSecs "-5s" = some (-5) ∧ parseDurationSecs "5ms" = none ∧ parseDurationSecs "soon" = none ∧
    daysFromCivil 1970 1 1 = 0 ∧
    daysFromCivil 2026 10 1 = daysFromCivil 2026 9 30 + 1 ∧
    daysFromCivil 2027 1 1 = daysFromCivil 2026 12 31 + 1 ∧
    daysFromCivil 2024 3 1 = daysFromCivil 2024 2 28 + 2 ∧
    daysFromCivil 2026 3 1 = daysFromCivil 2026 2 28 + 1 :=
  ⟨parseRFC3339_epoch, parseRFC3339_sample, parseRFC3339_rejects.1, parseRFC3339_rejects.2,
   parseDurationSecs_examples.1, parseDurationSecs_examples.2.1, parseDurationSecs_examples.2.2.1,
   parseDurationSecs_examples.2.2.2.1, parseDurationSecs_examples.2.2.2.2.1, parseDurationSecs_examples.2.2.2.2.2,
   by decide +kernel, by decide +kernel, by decide +kernel, by decide +kernel, by decide +kernel⟩

/-! ## the hypotheses are satisfiable -/

/-- a fact written with `ttl: 60` at time 1000 is stored with `expires: 1060` and without `ttl` -/
example : setExpires [("likes", .str "tacos"), ("ttl", .num 60)] 1000 =
    .ok ([("likes", .str "tacos"), ("expires", .num 1060)], true, 1060) := by rfl
/-- … an RFC3339 `expires` becomes its UNIX time, also inside a rule body -/
example : ∃ m, setExpires [("rule", .obj [("when", .obj [])]), ("expires", .str "2026-09-29T05:00:00Z")] 5 =
    .ok (m, true, 1790658000) ∧ m.get? "expires" = some (.num 1790658000) :=
  ⟨_, (setExpires_rfc3339 rfl rfl parseRFC3339_sample 5).trans rfl, rfl⟩
/-- `Expiring` and the boundary: expired at 1060 and later, not at 1059 -/
example : Expiring [("likes", .str "tacos"), ("ttl", .num 60)] ∧
    checkExpiration [("likes", .str "tacos"), ("expires", .num 1060)] 1059 = .ok false ∧
    checkExpiration [("likes", .str "tacos"), ("expires", .num 1060)] 1060 = .ok true := by
  refine ⟨Or.inl (by decide), by decide, by decide⟩
/-- a linear state holding that fact: `Get` at 1059 returns it, at 1060 it is refused and purged -/
example :
    let s : St := { kind := .linear, facts := [("f1", [("likes", .str "tacos"), ("expires", .num 1060)])],
                    store := [("f1", .obj [("likes", .str "tacos"), ("expires", .num 1060)])] }
    (s.get "f1" 1059).2 = .ok [("likes", .str "tacos"), ("expires", .num 1060)] ∧
    (∃ err, (s.get "f1" 1060).2 = .error err) ∧
    amGet (s.get "f1" 1060).1.facts "f1" = none ∧ amGet (s.get "f1" 1060).1.store "f1" = none := by
  intro s
  have hg : amGet s.facts "f1" = some [("likes", .str "tacos"), ("expires", .num 1060)] := rfl
  have v := (visible_iff_before (m := [("likes", .str "tacos"), ("expires", .num 1060)]) (e := 1060)
    rfl (by decide) 1059).2.2 s "f1" hg
  have n := never_again.1 s "f1" _ 1060 hg (by decide)
  exact ⟨by rw [v.1 (by decide)], n.1, n.2.1 rfl⟩

/-! ## the indexed state: `never_again` without its hypotheses on the removal (with C08's vocabulary)

`IndexedState.rem` can fail *before* it touches memory in exactly one way: the stored rule's `when` pattern cannot be
removed from the pattern index (`unindexErr id fact`, decidable on the fact alone; `UnindexOK s` says no stored fact
is like that; see C08 `cascade_aborts_on_unindex_error` for a reachable state that is). Every other failure
(deleteWith cascade, recursion budget) happens after the fact has been erased from memory and storage. The indexed
`Search` / `FindRules` ignore the result of that removal and only visit *candidates* (term index resp. pattern index). -/

/-- **never_again_indexed_get** — the indexed `Get` clause of `never_again` without its hypothesis "when `irem` does not
fail". For a stored fact `f` expired at `t` in an indexed state (any state, reachable or not):
* if the fact's rule can leave the pattern index (`unindexErr id f = false`; in particular every fact that is not a
  rule), then after `Get` the fact is gone from memory *and* storage — even if the deleteWith cascade behind it fails;
* otherwise `Get` answers an error and the state is *unchanged* (the expired fact stays stored, but is still never
  returned: `never_again`, first clause);
* (C08 `cascade_ok` / `cascade_terminates`) in a well-formed state — every reachable one, `reachable_wf` — where no
  *other* stored fact is expired and `UnindexOK` holds, `Get` answers exactly `notFound`, never the budget error,
  and what is left is `specRem s.facts id`: the fact and its `deleteWith` closure are gone, nothing else. -/
theorem never_again_indexed_get (s : St) (hk : s.kind = .indexed) (id : String) (f : Obj) (t : Int)
    (hg : amGet s.facts id = some f) (hx : checkExpiration f t = .ok true) :
    (unindexErr id f = false →
      amGet (s.get id t).1.facts id = none ∧ amGet (s.get id t).1.store id = none) ∧
    (unindexErr id f = true → ∃ e, s.get id t = (s, .error e)) ∧
    (WF s → NoneExpiredBut s id t → UnindexOK s →
      ∃ s', s.get id t = (s', .error "notFound") ∧ s'.facts = specRem s.facts id ∧
        amGet s'.facts id = none ∧ amGet s'.store id = none) := by
  obtain ⟨h1, h2⟩ := St.get_expired_indexed hk hg hx
  refine ⟨h1, h2, fun hwf hne hun => ?_⟩
  obtain ⟨s', hget, hfacts, _, _, _⟩ := cascade_by_expiry s t id f hwf hg hx hne (fun _ => hun)
  rw [← St.get_eq_getOK] at hget
  have hgone := h1 (hun (id, f) (AM.amGet_mem hg))
  rw [hget] at hgone
  exact ⟨s', hget, hfacts, hgone⟩

/-- **never_again_indexed_search** — `Search` and `FindRules` of the indexed state at time `t`:
1. `FindRules` (both implementations) returns only rule bodies of stored facts that are not expired at `t` (for `Search`
   this is `never_again`, second clause): an item with `0 ≠ expires ≤ t` is never dispatched;
2. a completed indexed `Search` has purged from memory and storage every expired *candidate* whose rule can leave the
   pattern index — the candidates `St.cands s p` being all stored ids when the pattern has no terms, and otherwise
   the ids listed in the term index under *every* term of the pattern (`TI.mem_search`);
3. in a well-formed state (every reachable one) the candidates include every stored fact that carries all the terms of
   the pattern — so each such expired fact is purged; a fact lacking one of the pattern's terms is not a candidate of this search and,
   if expired, may stay stored until a `Get`/`Search`/`FindRules` reaches it (it is still never returned);
4. a completed indexed `FindRules` has purged every expired candidate of the pattern index (`piSearch s.ri ev`) whose
   rule can leave the pattern index. -/
theorem never_again_indexed_search :
    (∀ (s s' : St) (ev : Obj) (t : Int) (out : List (String × Obj)), s.findRules ev t = (s', .ok out) →
      ∀ r ∈ out, ∃ f, amGet s.facts r.1 = some f ∧ checkExpiration f t ≠ .ok true ∧
        ((∃ f', extractRule f true = .ok (some r.2, f')) ∨ f.get? "rule" = some (.obj r.2))) ∧
    (∀ (s s' : St) (p : Obj) (t : Int) (out : List (String × Obj × List Bs)), s.kind = .indexed →
      s.search p t = (s', .ok out) → ∀ ids, s.cands p = .ok ids → ∀ id ∈ ids, ∀ f, amGet s.facts id = some f →
        checkExpiration f t = .ok true → unindexErr id f = false →
        amGet s'.facts id = none ∧ amGet s'.store id = none) ∧
    (∀ (s : St) (p : Obj), s.kind = .indexed → WF s → ∀ id f, amGet s.facts id = some f →
      (∀ term, term ∈ extractTerms p → term ∈ extractTerms f) → ∃ ids, s.cands p = .ok ids ∧ id ∈ ids) ∧
    (∀ (s s' : St) (ev : Obj) (t : Int) (out : List (String × Obj)), s.kind = .indexed →
      s.findRules ev t = (s', .ok out) → ∀ ids, piSearch s.ri ev = .ok ids → ∀ id ∈ ids, ∀ f,
        amGet s.facts id = some f → checkExpiration f t = .ok true → unindexErr id f = false →
        amGet s'.facts id = none ∧ amGet s'.store id = none) :=
  ⟨fun _ _ _ _ _ h => St.findRules_results h,
   fun _ _ _ _ _ hk h _ hc _ hid _ hg hx hu => St.search_purges_indexed hk h hc hid hg hx hu,
   fun _ _ hk hwf _ _ hg hsub => cands_of_terms (hwf.tiok hk) (AM.amGet_mem hg) hsub,
   fun _ _ _ _ _ hk h _ hc _ hid _ hg hx hu => St.findRules_purges_indexed hk h hc hid hg hx hu⟩

/-- **never_again_indexed_reachable** — the second clause of `never_again` and the second and third of
`never_again_indexed_search` combined for every reachable indexed state (any history of `Add`/`Rem` from the empty
state): a completed `Search p` at time `t` returns no expired fact, and every stored fact
that is expired at `t`, carries all the terms of `p` (every stored fact, if `p` has none), and can leave the pattern
index, is gone from memory and storage afterwards. -/
theorem never_again_indexed_reachable (ops : List StOp) (p : Obj) (t : Int) (s' : St)
    (out : List (String × Obj × List Bs)) (h : (St.run { kind := .indexed } ops).search p t = (s', .ok out)) :
    (∀ r ∈ out, amGet (St.run { kind := .indexed } ops).facts r.1 = some r.2.1 ∧
      checkExpiration r.2.1 t ≠ .ok true) ∧
    (∀ id f, amGet (St.run { kind := .indexed } ops).facts id = some f → checkExpiration f t = .ok true →
      unindexErr id f = false → (∀ term, term ∈ extractTerms p → term ∈ extractTerms f) →
      amGet s'.facts id = none ∧ amGet s'.store id = none) := by
  have hk : (St.run { kind := .indexed } ops).kind = .indexed := run_kind _ ops
  refine ⟨(never_again.2.1 _ s' p t out h).1, fun id f hg hx hu hsub => ?_⟩
  obtain ⟨ids, hc, hid⟩ := never_again_indexed_search.2.2.1 _ p hk (reachable_wf .indexed ops) id f hg hsub
  exact never_again_indexed_search.2.1 _ s' p t out hk h ids hc id hid f hg hx hu

/-- non-vacuity: in the reachable state `expirySearchOps` (`t` expires at 5 and carries the term `k`; `v` lives; `w`
expires at 6 but has no term `k`) the search for `{"k":1}` at time 10 completes (with no result); `t` is a candidate
that can leave the pattern index, so it is purged; `w` is not a candidate of this search and stays stored -/
example :
    okIds ((St.run { kind := .indexed } expirySearchOps).search [("k", .num 1)] 10).2 = some [] ∧
    ((St.run { kind := .indexed } expirySearchOps).search [("k", .num 1)] 10).1.facts.map (·.1) = ["v", "w"] ∧
    (∀ s' out, (St.run { kind := .indexed } expirySearchOps).search [("k", .num 1)] 10 = (s', .ok out) →
      amGet s'.facts "t" = none ∧ amGet s'.store "t" = none) := by
  -- one evaluation of the search, shared by the three checks
  have hc : (okIds ((St.run { kind := .indexed } expirySearchOps).search [("k", .num 1)] 10).2 = some [] ∧
      ((St.run { kind := .indexed } expirySearchOps).search [("k", .num 1)] 10).1.facts.map (·.1) = ["v", "w"]) ∧
      purgeCandB (St.run { kind := .indexed } expirySearchOps) [("k", .num 1)] "t" 10 = true := by decide +kernel
  refine ⟨hc.1.1, hc.1.2, fun s' out h => ?_⟩
  obtain ⟨f, hg, hx, hu, hsub⟩ := purgeCand_of_check hc.2
  exact (never_again_indexed_reachable expirySearchOps _ 10 s' out h).2 "t" f hg hx hu hsub

/-- … and `Get "t"` at 10 in the same state: purged (the third clause of `never_again_indexed_get` needs "no other fact
expired", which fails here because of `w`; the first clause does not) -/
example : amGet ((St.run { kind := .indexed } expirySearchOps).get "t" 10).1.facts "t" = none ∧
    amGet ((St.run { kind := .indexed } expirySearchOps).get "t" 10).1.store "t" = none := by
  obtain ⟨f, hg, hx, hu, _⟩ := purgeCand_of_check
    (s := St.run { kind := .indexed } expirySearchOps) (p := []) (id := "t") (now := 10) (by decide +kernel)
  exact (never_again_indexed_get _ (run_kind _ _) "t" f 10 hg hx).1 hu

/-- with C08's `expiryOps` (only `t` is expired at 10) all hypotheses of the third clause hold: `notFound`, `t` and its
dependent `u` are gone, `v` is left -/
example : ∃ s', (St.run { kind := .indexed } expiryOps).get "t" 10 = (s', .error "notFound") ∧
    s'.facts.map (·.1) = ["v"] := by
  have hc := expiryOps_facts .indexed
  obtain ⟨fact, hg, hx⟩ := expired_of_check hc.1
  obtain ⟨s', h1, h2, _⟩ := (never_again_indexed_get _ (run_kind _ _) "t" fact 10 hg hx).2.2
    (reachable_wf .indexed expiryOps) (noneExpiredBut_of_check hc.2.1) (unindexOK_of_check hc.2.2.1)
  exact ⟨s', h1, by rw [h2]; exact hc.2.2.2⟩

/-- an expired rule (`expiryRuleOps`: `r` expires at 5, `q` does not) is not dispatched at 10 and is purged -/
example :
    okIds ((St.run { kind := .indexed } expiryRuleOps).findRules [("a", .num 1)] 10).2 = some ["q"] ∧
    ((St.run { kind := .indexed } expiryRuleOps).findRules [("a", .num 1)] 10).1.facts.map (·.1) = ["q"] := by
  decide +kernel

/-! ## The clock reading and the state lock

The model gives every operation one time `t`.  A real read has two instants: the moment `tg` at which it is granted
the state lock (its linearisation point: what it sees is the state at `tg`) and the moment `tc` at which it read the
clock it compares `expires` with.  The model's single `t` is sound for the real read exactly when `tg ≤ tc`: the clock
is read after the lock was granted.  `Gen.clockReads` is regenerated from `core/state_indexed.go` and
`core/state_linear.go` on every run and records, for every method that reads the clock into `now`, where that reading
sits relative to the method's own `slock`. -/

/-- **No state method reads the expiry clock before it takes the lock** (regenerated table; a method without a lock
call of its own is a callee of locked sections). -/
theorem clock_read_under_lock : ∀ r ∈ Gen.clockReads, r.2.2 ≠ "beforeLock" := by decide +kernel

/-- the table covers both lookups of both implementations -/
theorem clock_read_table_covers :
    (Gen.clockReads.map (fun r => (r.1, r.2.1))) = [("indexed", "doFindRules"), ("indexed", "search"), ("linear", "doFindRules"), ("linear", "search")] := by
  decide +kernel

/-- **A read granted the lock at or after the expiry instant does not serve the item**, whenever its clock reading
is not older than the grant: for `expires = e ≠ 0`, `e ≤ tg ≤ tc` makes the expiry test at `tc` say "expired". -/
theorem read_after_grant_excludes_expired {m : Obj} {e : Int} (hm : m.get? "expires" = some (.num e)) (he : e ≠ 0)
    (tg tc : Int) (hgrant : e ≤ tg) (hclock : tg ≤ tc) : checkExpiration m tc = .ok true := by
  have h := (visible_iff_before hm he tc).1
  rw [h]; simp [Gen.notAfterCmp]; omega

/-- … and the hypothesis `tg ≤ tc` is needed: with a clock reading older than the grant (`tc < e ≤ tg`, the shape of a
reading taken before waiting for the lock) the test says "not expired" and the item is served after its instant. -/
theorem stale_clock_serves_expired :
    ∃ (m : Obj) (e tc tg : Int), m.get? "expires" = some (.num e) ∧ e ≠ 0 ∧ tc < e ∧ e ≤ tg ∧ checkExpiration m tc = .ok false :=
  ⟨[("k", .num 1), ("expires", .num 10)], 10, 9, 11, rfl, by decide, by decide, by decide, by decide⟩

/-! ## Go types of `ttl` and `expires`

`setExpires` of the model sees JSON numbers and strings. The real one switches on the Go type: `float64` (decoded JSON),
`int64` (what the Javascript runtime exports for an integer, and Go callers), `string`. The table is regenerated from
`core/state.go` on every run; that both numeric cases of the `ttl` switch are *relative* is what the differential runs
with documents written by rule actions check. -/

/-- both switches of `setExpires` (first `ttl`, then `expires`) know float64, int64 and string -/
theorem expiry_types :
    Gen.expiryTypes = [["float64", "int64", "string", "default"], ["float64", "int64", "string", "default"]] := by decide +kernel
