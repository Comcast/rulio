import RulioProofs.CronTimer
import RulioProofs.Crolt

/-! # C16 — cron services fire each job when due, once, and never after removal

In-memory cron: `CronM` (RulioModel/CronTimeline.lean), a state machine over `Op` = advance / add / rem / tick / done /
suspend / resume / pauseBegin / pauseEnd. All theorems quantify over *arbitrary* operation lists (ticks may come at
any time, `Fn`s may return in any order, commands at any point) from the initial state `init limit`.
Bolt-backed cron: `Crolt` (RulioModel/Crolt.lean), operations = the service's Bolt transactions; the life of one recurring
job with jitter is `Crolt.RState`.

The comparison operators (`readyTest`, `searchTest`, `limitTest`, `dueCmp`), the jitter offset (`jitterSub`) and the presence of
the decisive statements (`scheduleRemsFirst`, `remErases`, `popDropsHead`, `rescheduleOnce`, `resumeRearms`, `tickRearmsAlways`,
`popTracksRunning`, `remCancelsRunning`, `rescheduleViaRunning`, `addClearsTid`, `updateDeletesOld`, `deleteRemovesTime`, …)
are regenerated from the Go source into `RulioModel/Gen/C16.lean` on every run; the proofs below depend on their values.
The theorems `timer_armed`, `early_delivery_rearms`, `no_starvation`, `removed_never_fires`, `rem_during_fn_removes`,
`replace_during_fn_wins`, `unique_pending_per_id`, `crolt_tid_is_servers`, `crolt_not_before_due` and
`crolt_one_run_per_occurrence` rest on the repairs of the findings C16-rem-head-disarms, C16-rem-in-flight,
C16-crolt-tid-injection and C16-crolt-jitter-double-fire in /repo. -/

open CronM in
/-- After every sequence of Add / Rem / replace / pop (tick) / re-schedule (done) / control operations the timeline is sorted
by `Next` and holds at most one entry per job id. -/
theorem timeline_sorted_unique (limit : Nat) (ops : List Op) :
    (run (init limit) ops).tl.Pairwise (fun a b => a.next ≤ b.next) ∧
    (run (init limit) ops).tl.Pairwise (fun a b => a.id ≠ b.id) :=
  ⟨(WF_run (WF_init limit) ops).sorted, (WF_run (WF_init limit) ops).nodupId⟩

open CronM in
/-- At most one entry per job id also counting the recurring jobs whose `Fn` is executing and which will be put back on the
timeline when it returns (`c.running`): after every history — including removals and replacements issued while an `Fn` of
that id runs — the ids of `Timeline ++ running` are pairwise different, and `running` holds only recurring jobs whose `Fn`
has not returned. So the return of an `Fn` can never create a second pending entry for an id. -/
theorem unique_pending_per_id (limit : Nat) (ops : List Op) :
    let s := run (init limit) ops
    (s.tl ++ s.running).Pairwise (fun a b => a.id ≠ b.id) ∧ ∀ j ∈ s.running, j ∈ s.inflight ∧ j.period ≠ 0 := by
  intro s
  have hw : WF s := WF_run (WF_init limit) ops
  exact ⟨hw.nodupIdR, fun j hj => ⟨hw.runSub.subset hj, hw.runRec j hj⟩⟩

open CronM in
/-- Every invocation of a job's `Fn` happens at a loop time `≥` the job's `Next` (whatever the interleaving, also for stale
timer deliveries and during suspension); for recurring jobs `Next` is an occurrence of the schedule. -/
theorem no_early_fire (limit : Nat) (ops : List Op) :
    ∀ f ∈ (run (init limit) ops).log, f.due ≤ f.time ∧ (f.period ≠ 0 → f.due % f.period = 0) := by
  intro f hf
  obtain ⟨_, b, _, d⟩ := (WF_run (WF_init limit) ops).logOk f hf
  exact ⟨b, d⟩

open CronM in
/-- The job object created by `Add id due` (one-shot) only ever fires under that id, for that due time, no earlier than it. -/
theorem oneshot_fires_at_its_due (limit : Nat) (pre post : List Op) (id due : Nat) :
    let s0 := run (init limit) pre
    ∀ f ∈ (run s0 (.add id due 0 :: post)).log, f.serial = s0.serial →
      f.id = id ∧ f.due = due ∧ f.period = 0 ∧ due ≤ f.time := by
  intro s0 f hf hs
  have hw : WF s0 := WF_run (WF_init limit) pre
  rcases (oneshot_track hw id due post).fires f hf with h | h
  · cases h
  · obtain ⟨a, b, c⟩ := h hs
    exact ⟨a, c, b, c ▸ ((WF_run hw _).logOk f hf).2.1⟩

open CronM in
/-- A one-shot job fires at most once, in every history. -/
theorem oneshot_once (limit : Nat) (pre post : List Op) (id due : Nat) :
    let s0 := run (init limit) pre
    (firesOf s0.serial (run s0 (.add id due 0 :: post))).length ≤ 1 := by
  intro s0
  have hwf : WF (run s0 (.add id due 0 :: post)) := WF_run (WF_run (WF_init limit) pre) _
  match hl : firesOf s0.serial (run s0 (.add id due 0 :: post)) with
  | [] => exact Nat.zero_le _
  | f :: _ =>
    have hf : f ∈ firesOf s0.serial (run s0 (.add id due 0 :: post)) := hl ▸ List.mem_cons_self
    have hm := List.mem_filter.1 hf
    exact hl ▸ firesOf_oneshot_le_one hwf _ hf
      (oneshot_fires_at_its_due limit pre post id due f hm.1 (beq_iff_eq.1 hm.2)).2.2.1

open CronM in
/-- … and exactly once if it is pending, not removed, and the loop ticks at or after its due time: a pending job at position
`pre.length` of the timeline whose due time has come is fired by the next `pre.length + 1` timer events (each tick pops the
head, which is due because the timeline is sorted). -/
theorem oneshot_exactly_once (limit : Nat) (ops : List Op) (pre : List Job) (j : Job) (post : List Job) :
    let s := run (init limit) ops
    s.paused = false → s.tl = pre ++ j :: post → j.period = 0 → j.next ≤ s.clock →
    (firesOf j.serial (run s (List.replicate (pre.length + 1) .tick))).length = 1 := by
  intro s hp htl hper hdue
  have hw : WF s := WF_run (WF_init limit) ops
  obtain ⟨hmem, _, _⟩ := ticks_fire hw hp pre j post htl hdue
  have hin : fireOf j s.clock ∈ firesOf j.serial (run s (List.replicate (pre.length + 1) .tick)) :=
    List.mem_filter.2 ⟨hmem, beq_iff_eq.2 rfl⟩
  exact Nat.le_antisymm (firesOf_oneshot_le_one (WF_run hw _) _ hin hper) (List.length_pos_of_mem hin)

open CronM in
/-- A recurring job fires at most once per occurrence: the occurrences (`due`) of the successive fires of one job object are
strictly increasing (the log is newest-first), each an occurrence of its schedule, none fired before its time. -/
theorem recurring_once_per_occurrence (limit : Nat) (ops : List Op) (k : Nat) :
    ((firesOf k (run (init limit) ops)).map (·.due)).Pairwise (· > ·) ∧
    ∀ f ∈ firesOf k (run (init limit) ops), f.period ≠ 0 → f.due % f.period = 0 ∧ f.due ≤ f.time := by
  have hw : WF (run (init limit) ops) := WF_run (WF_init limit) ops
  constructor
  · rw [List.pairwise_map]
    exact (firesOf_pairwise hw k).imp (fun h => h.2.2)
  · intro f hf hp
    obtain ⟨_, b, _, d⟩ := hw.logOk f (List.mem_filter.1 hf).1
    exact ⟨d hp, b⟩

open CronM in
/-- … and when its `Fn` returns it is put back on the timeline for the first occurrence after that moment — provided it is
still registered in `c.running`, i.e. was neither removed nor replaced while `Fn` ran (`rem_during_fn_removes`). -/
theorem recurring_rescheduled (limit : Nat) (ops : List Op) (j : Job) :
    let s := run (init limit) ops
    j ∈ s.running →
    ∃ j' ∈ (step s (.done j.serial)).tl, j'.serial = j.serial ∧ j'.id = j.id ∧ j'.next = nextOcc j.period s.clock ∧ s.clock < j'.next := by
  intro s hjr
  have hw : WF s := WF_run (WF_init limit) ops
  have hp : j.period ≠ 0 := hw.runRec j hjr
  rw [step, done_running hw hjr]
  have hn := schedJob_next hp s.clock
  exact ⟨schedJob s.clock j, mem_insertJob.2 (.inl rfl), (schedJob_id _ _).2.1, (schedJob_id _ _).1, hn, hn ▸ nextOcc_gt hp⟩

open CronM in
/-- `Rem id` means that id never fires again unless re-added, whether the job was pending or its `Fn` was running at that
moment: every later fire under that id belongs to a job object created by an `Add` issued after the `Rem`. (No hypothesis on the
state: all prefixes, all continuations.) -/
theorem removed_never_fires (limit : Nat) (pre post : List Op) (id : Nat) :
    let s := run (init limit) pre
    ∀ f ∈ (run s (.rem id :: post)).log, f.id = id → f ∈ s.log ∨ s.serial ≤ f.serial := by
  intro s f hf hid
  have hw : WF s := WF_run (WF_init limit) pre
  exact ((removed_track hw id post).fires f hf).imp_right fun h => h hid

open CronM in
/-- A `Rem` issued while the job's `Fn` runs (the recurring job `j` is registered in `c.running`) finds the job (`found = true`),
takes it off `c.running`, and when `Fn` returns afterwards nothing is put back on the timeline; by `removed_never_fires` the id
then never fires again unless re-added. -/
theorem rem_during_fn_removes (limit : Nat) (ops : List Op) (j : Job) :
    let s := run (init limit) ops
    j ∈ s.running →
    remFound s j.id = true ∧ j ∉ (step s (.rem j.id)).running ∧ j ∈ (step s (.rem j.id)).inflight ∧
    (step (step s (.rem j.id)) (.done j.serial)).tl = (step s (.rem j.id)).tl ∧
    ∀ x ∈ (step (step s (.rem j.id)) (.done j.serial)).tl ++ (step (step s (.rem j.id)) (.done j.serial)).running, x.id ≠ j.id := by
  intro s hjr
  have hw : WF s := WF_run (WF_init limit) ops
  have hnone : ∀ x ∈ (step s (.rem j.id)).tl ++ (step s (.rem j.id)).running, x.id ≠ j.id := drop_no_id hw j.id
  have hnr : j ∉ (step s (.rem j.id)).running := fun h => hnone j (List.mem_append_right _ h) rfl
  have hinf : j ∈ (step s (.rem j.id)).inflight := hw.runSub.subset hjr
  have hd : step (step s (.rem j.id)) (.done j.serial) = finish (step s (.rem j.id)) j.serial :=
    done_cancelled (WF_step hw _) hinf hnr
  refine ⟨?_, hnr, hinf, by rw [hd]; rfl, by rw [hd]; exact hnone⟩
  rw [remFound, Bool.or_eq_true]
  exact .inr (List.any_eq_true.2 ⟨j, hjr, beq_iff_eq.2 rfl⟩)

open CronM in
/-- An `Add` for an id that exists replaces the job, also while the old job's `Fn` runs: every later fire under that id belongs to
this `Add` or a later one (the replaced job object never fires again), and the return of any `Fn` — in particular the old job's —
leaves the new entry on the timeline (a `Cron.run` that re-schedules without asking `c.running` removes it and puts the old job back). -/
theorem replace_during_fn_wins (limit : Nat) (pre post : List Op) (id due period : Nat) :
    let s := run (init limit) pre
    (∀ f ∈ (run s (.add id due period :: post)).log, f.id = id → f ∈ s.log ∨ s.serial ≤ f.serial) ∧
    ((∀ o ∈ post, (∃ k, o = .done k) ∨ o.isControl = true) →
      ∀ x ∈ (step s (.add id due period)).tl, x ∈ (run s (.add id due period :: post)).tl) := by
  intro s
  have hw : WF s := WF_run (WF_init limit) pre
  refine ⟨?_, ?_⟩
  · intro f hf hid
    exact ((replaced_track hw id due period post).fires f hf).imp_right fun h => h hid
  · intro hpost x hx
    exact run_tl_keep (WF_step hw _) post hpost hx

open CronM in
/-- Suspending, pausing, resuming and the passage of time never drop a pending or running job and never fire one … -/
theorem suspend_only_delays (s : Cron) (cs : List Op) (hc : ∀ o ∈ cs, o.isControl = true) :
    (run s cs).tl = s.tl ∧ (run s cs).inflight = s.inflight ∧ (run s cs).log = s.log ∧ s.clock ≤ (run s cs).clock := by
  induction cs generalizing s with
  | nil => exact ⟨rfl, rfl, rfl, Nat.le_refl _⟩
  | cons o cs ih =>
    have h1 : (step s o).tl = s.tl ∧ (step s o).inflight = s.inflight ∧ (step s o).log = s.log ∧ s.clock ≤ (step s o).clock := by
      have hco := hc o List.mem_cons_self
      have hst := step_control s hco
      generalize step s o = s' at hst
      cases hst with
      | control _ hle => exact ⟨rfl, rfl, rfl, hle⟩
      | _ => cases hco
    obtain ⟨a, b, c, d⟩ := ih (step s o) (fun o' ho' => hc o' (List.mem_cons_of_mem _ ho'))
    exact ⟨a.trans h1.1, b.trans h1.2.1, c.trans h1.2.2.1, Nat.le_trans h1.2.2.2 d⟩

open CronM in
/-- … and `resume` of a suspended cron (likewise the end of a pause) re-arms the timer for the head of the timeline, whose
delivery then fires the head as soon as it is due (`oneshot_exactly_once`): suspension only delays. -/
theorem resume_rearms (s : Cron) :
    (s.suspended = true → (step s .resume).armed = rearm s.tl ∧ (step s .resume).suspended = false) ∧
    (s.paused = true → (step s .pauseEnd).armed = rearm s.tl ∧ (step s .pauseEnd).paused = false) ∧
    (∀ j rest, s.tl = j :: rest → rearm s.tl = some j.next) := by
  refine ⟨?_, ?_, ?_⟩
  · intro h; simp [step, h, show C16Gen.resumeRearms = true from rfl]
  · intro h; simp [step, h]
  · intro j rest h; simp [rearm, h]

open CronM in
/-- In every reachable state that is neither suspended nor paused and has a pending job, the timer is armed, for a time no later
than the head's due time — after every history, removals of the head and `Add`s rejected for capacity included (those leave the
timer pointing at the removed job's earlier time). -/
theorem timer_armed (limit : Nat) (ops : List Op) :
    let s := run (init limit) ops
    s.suspended = false → s.paused = false → ∀ j rest, s.tl = j :: rest → ∃ t, s.armed = some t ∧ t ≤ j.next := by
  intro s
  exact ArmedR_run Nat.le_refl (WF_init limit) (ArmedR_init limit) ops (.inr fun _ _ _ => Nat.le_trans)

open CronM in
/-- A delivery of the timer that finds the head of the timeline not ready (the timer was armed for a job removed since, or the
delivery is a stale one) re-arms the timer for exactly the head's due time and changes nothing else. -/
theorem early_delivery_rearms (s : Cron) (j : Job) (rest : List Job) :
    s.paused = false → s.tl = j :: rest → s.clock < j.next →
    (tick s).armed = some j.next ∧ (tick s).tl = s.tl ∧ (tick s).log = s.log ∧ (tick s).running = s.running := by
  intro hp htl hlt
  rcases tick_cases s with ⟨a, e, ha⟩ | ⟨j', rest', _, h1, hr, _⟩
  · rw [e]
    exact ⟨(ha hp j rest htl).2, rfl, rfl, rfl⟩
  · rw [htl] at h1; cases h1
    exact absurd hlt (Nat.not_lt_of_le hr)

open CronM in
/-- Liveness, over all histories: after any sequence of Add / Rem / replace / Suspend / Resume / Pause / ticks / returns of `Fn`s,
if the loop is neither suspended nor paused, every pending job whose due time has passed fires — the timer contract ("an armed
timer whose target has come is delivered") yields `pre.length + 1` deliveries, each of them due, and they fire the jobs ahead of
`j` and then `j` itself, at the current clock reading. -/
theorem no_starvation (limit : Nat) (ops : List Op) (pre : List Job) (j : Job) (post : List Job) :
    let s := run (init limit) ops
    s.suspended = false → s.paused = false → s.tl = pre ++ j :: post → j.next ≤ s.clock →
    ∃ s', deliverN (pre.length + 1) s = some s' ∧ fireOf j s.clock ∈ s'.log ∧ s'.tl = post := by
  intro s hs hp htl hdue
  have hw : WF s := WF_run (WF_init limit) ops
  obtain ⟨h2, h3, h1⟩ := ticks_fire hw hp pre j post htl hdue
  exact ⟨_, h1 hs (timer_armed limit ops), h2, h3⟩

open CronM in
/-- Along histories without `Rem` and without an `Add` rejected for capacity (`Calm`) the timer is armed for exactly the head's due
time: no delivery ever comes early. -/
theorem timer_exact_when_calm (limit : Nat) (ops : List Op) (h : Calm (init limit) ops) :
    let s := run (init limit) ops
    s.suspended = false → s.paused = false → ∀ j rest, s.tl = j :: rest → s.armed = some j.next := by
  intro s hs hp j rest htl
  obtain ⟨t, e, rfl⟩ := ArmedR_run (R := Eq) (fun _ => rfl) (WF_init limit) (ArmedR_init limit) ops (.inl h) hs hp j rest htl
  exact e

/-! ## Bolt-backed cron service -/

open Crolt in
/-- After every history of the service's transactions (Add, Delete, work with any cursor choices and any new due times, reopen)
the two buckets agree key for key: `jobs[aid].TId` is a key of `time` holding the same job and vice versa. Every prefix of a
history is a history, `reopen` is the identity on the file, so this holds at every reopen point — given that a Bolt transaction
is atomic and durable. `Legal` asks nothing of the jobs passed to `Add` (any `TId`, any flags in the request body); it only says
that the writing transaction of an `Add` taken alone (`addCommit`) runs while the job does not exist, which the real `Add`
checks inside that transaction. -/
theorem buckets_consistent (ops : List Op) (h : Legal {} ops) : BInv (run {} ops) :=
  (DBInv_run DBInv_empty ops h).agree

open Crolt in
/-- … hence at most one entry of the time index per job. -/
theorem one_entry_per_job (ops : List Op) (h : Legal {} ops) (aid : Nat) :
    ((run {} ops).time.filter (fun e => e.2.aid == aid)).length ≤ 1 :=
  one_entry (DBInv_run DBInv_empty ops h) aid

open Crolt in
/-- The service only runs a job whose key in the time index is before the loop's `now`. -/
theorem crolt_no_early_fire (ops : List Op) : ∀ f ∈ (run {} ops).log, f.due < f.now :=
  List.foldlRecOn ops _ (motive := fun (db : DB) => ∀ f ∈ db.log, f.due < f.now)
    (fun _ h => (List.not_mem_nil h).elim) fun _ hb op _ => step_log hb op

open Crolt in
/-- PARTIAL (one-shot jobs of the service). Full statement wanted: between its `Add` and its eviction a one-shot job runs exactly
once, over all histories. Proved here, per visit of the work loop (any state, any due entry): a visit to an entry already marked
`evict` runs nothing (it deletes the job), and a visit to an unmarked one-shot runs it once and stores it marked `evict` in both
buckets under the new key. Missing: the induction over histories that links the visits of one incarnation (covered only by the
differential run, which counts runs per incarnation on the real buckets). -/
theorem crolt_oneshot_once_partial (db : DB) (now : Nat) (k : TId) (ts : Nat) (v : Job)
    (hv : get k db.time = some v) (hdue : isDue k now = true) :
    (v.evict = true → (workOne db now k ts).1.log = db.log ∧ (workOne db now k ts).2 = true) ∧
    (v.evict = false → v.once = true →
      (workOne db now k ts).1.log = ⟨v.aid, k.ts, now, true⟩ :: db.log ∧
      (get v.aid (workOne db now k ts).1.jobs).map (·.evict) = some true ∧
      (get ⟨ts, v.aid⟩ (workOne db now k ts).1.time).map (·.evict) = some true) := by
  rw [workOne_due hv hdue]
  constructor
  · intro he
    rw [he]
    exact ⟨delete_log _ _, rfl⟩
  · intro he ho
    rw [he, ho]
    -- the job is stored marked `evict` (which `set` then leaves alone)
    refine ⟨rfl, ?_, ?_⟩
    · show (get v.aid (update _ { v with once := true, evict := true } ts).jobs).map (·.evict) = some true
      rw [get_update_jobs, if_pos rfl]; rfl
    · show (get ⟨ts, v.aid⟩ (update _ { v with once := true, evict := true } ts).time).map (·.evict) = some true
      rw [get_update_time, if_pos rfl]; rfl

open Crolt in
/-- Why `Legal` needs its hypothesis on `addCommit` (finding C16-crolt-add-race: `Add` checks again inside the writing
transaction): two writing transactions of `Add` for one id, neither re-checking existence, leave two entries in the time index for
one job (and the first is orphaned). -/
theorem crolt_concurrent_add_two_entries :
    let j : Job := ⟨1, none, true, false, false⟩
    let db := run {} [.addCommit j 10, .addCommit j 20]
    (db.time.filter (fun e => e.2.aid == 1)).length = 2 ∧ get ⟨10, 1⟩ db.time ≠ none ∧
    (get 1 db.jobs).map (·.tid) = some (some ⟨20, 1⟩) := by
  decide +kernel

open Crolt in
/-- The `TId` of the job handed to `Add` (through `AddHandler`: any string the client put into the request body) is never used:
`Add` changes no entry of the time index and no entry of the jobs bucket that belongs to another job. Together with
`buckets_consistent` (which asks nothing of the jobs passed to `Add`): the only time entry an `update` ever deletes is the updated
job's own, the one its stored version points to. -/
theorem crolt_tid_is_servers (db : DB) (j : Job) (ts : Nat) :
    (∀ t : TId, t.aid ≠ j.aid → get t (step db (.add j ts)).time = get t db.time) ∧
    (∀ a : Nat, a ≠ j.aid → get a (step db (.add j ts)).jobs = get a db.jobs) := by
  rw [step, add]
  cases get j.aid db.jobs with
  | some v => exact ⟨fun _ _ => rfl, fun _ _ => rfl⟩
  | none =>
    -- the job is stored without the caller's `TId`, so `update` deletes no key, and it writes under `j.aid` only
    have ha : (setFlags (clearTid j)).aid = j.aid := (setFlags_fields _).1
    have ht : (setFlags (clearTid j)).tid = none := (setFlags_fields _).2
    constructor
    · intro t hne
      rw [get_update_time, ha, ht, if_neg fun e => hne (congrArg TId.aid e), if_neg nofun]
    · intro a hne
      rw [get_update_jobs, ha, if_neg hne]

open Crolt in
/-- A recurring job never runs before the occurrence it runs for, jitter included: every run recorded in the life of a job with a
cron expression (any period `p ≠ 0`, any `MaxJitter`, any sequence of polls with any draws of the random number) served an
occurrence of the schedule that lies strictly before the clock reading of the due test. -/
theorem crolt_not_before_due (p max now u : Nat) (hp : p ≠ 0) (ops : List ROp) :
    ∀ r ∈ (rrun p max (rinit p max now u) ops).runs, r.1 % p = 0 ∧ r.1 < r.2 := by
  intro r hr
  obtain ⟨_, a, b⟩ := (RInv_run hp (RInv_init p max now u) ops).served r hr
  exact ⟨b, a⟩

open Crolt in
/-- … and it runs at most once per occurrence: the occurrences served by its successive runs are strictly increasing (the log is
newest first). A negative jitter would let the job run before its occurrence, and `Next(now)` would then be
that same occurrence again (finding C16-crolt-jitter-double-fire). -/
theorem crolt_one_run_per_occurrence (p max now u : Nat) (hp : p ≠ 0) (ops : List ROp) :
    ((rrun p max (rinit p max now u) ops).runs.map (·.1)).Pairwise (· > ·) :=
  (RInv_run hp (RInv_init p max now u) ops).incr

/-! ## non-vacuity: the hypotheses are met by non-trivial instances -/

open CronM in
/-- a history with a replace, a removal, a recurring job and three fires in timeline order -/
example :
    let s := run (init 3) [.add 1 50 0, .add 2 30 0, .add 1 20 0, .add 3 0 25, .advance 30, .tick, .done 2, .tick, .tick, .rem 3, .advance 5]
    s.tl.map (·.id) = [] ∧ s.log.map (fun f => (f.id, f.due, f.time)) = [(2, 30, 30), (3, 25, 30), (1, 20, 30)] := by decide +kernel

open CronM in
/-- `oneshot_exactly_once`: job 2 (due 30) sits behind job 1 (due 20); two ticks at time 40 fire it exactly once -/
example :
    let s := run (init 3) [.add 2 30 0, .add 1 20 0, .advance 40]
    s.paused = false ∧ (∃ a b, s.tl = [a] ++ b :: [] ∧ b.id = 2 ∧ b.period = 0 ∧ b.next ≤ s.clock) := by
  refine ⟨rfl, ⟨1, 20, 0, 1⟩, ⟨2, 30, 0, 0⟩, by decide +kernel, rfl, rfl, by decide +kernel⟩

open CronM in
/-- `removed_never_fires`: the removed job never fires, the re-added one does -/
example :
    let s := run (init 3) [.add 1 10 0]
    (run s [.rem 1, .advance 20, .tick, .add 1 30 0, .advance 20, .tick]).log.map (fun f => (f.id, f.serial)) = [(1, 1)] := by
  decide +kernel

open CronM in
/-- `rem_during_fn_removes` (the schedule of finding C16-rem-in-flight): the recurring job 7 fires at 10, `Rem 7` comes while
its `Fn` runs: it is found, and after `Fn` returned nothing is pending and nothing fires at the next occurrence -/
example :
    let s := run (init 5) [.add 7 0 10, .advance 10, .tick]
    s.running.map (·.id) = [7] ∧ remFound s 7 = true ∧
    (run s [.rem 7, .done 0, .advance 10, .tick]).log.map (fun f => (f.id, f.due)) = [(7, 10)] ∧
    (run s [.rem 7, .done 0, .advance 10, .tick]).tl = [] := by
  decide +kernel

open CronM in
/-- `replace_during_fn_wins` / `unique_pending_per_id`: job 7 (recurring) is replaced by a one-shot due at 25 while its `Fn` runs; the
return of the old `Fn` leaves the replacement alone, which fires at 25, and the old job never fires again -/
example :
    let ops : List Op := [.add 7 0 10, .advance 10, .tick, .add 7 25 0, .done 0, .advance 15, .tick, .advance 20, .tick]
    (run (init 5) ops).log.map (fun f => (f.id, f.serial, f.due, f.time)) = [(7, 1, 25, 25), (7, 0, 10, 10)] ∧
    (run (init 5) ops).tl = [] ∧ (run (init 5) ops).running = [] := by
  decide +kernel

open CronM in
/-- `timer_armed` / `early_delivery_rearms` / `no_starvation` (the schedule of finding C16-rem-head-disarms): after removing the
head the timer still points at the removed job's time 100 (≤ 200); its delivery at 100 finds job 2 not ready and re-arms for 200,
whose delivery fires job 2 -/
example :
    let s := run (init 5) [.add 1 100 0, .add 2 200 0, .rem 1, .advance 100]
    s.armed = some 100 ∧ s.tl.map (·.id) = [2] ∧ (tick s).armed = some 200 ∧
    (run s [.tick, .advance 100, .tick]).log.map (fun f => (f.id, f.time)) = [(2, 200)] ∧
    (∃ s', deliverN 1 (run s [.tick, .advance 100]) = some s' ∧ s'.log.map (·.id) = [2]) := by
  refine ⟨by decide +kernel, by decide +kernel, by decide +kernel, by decide +kernel, _, rfl, by decide +kernel⟩

open CronM in
/-- `recurring_once_per_occurrence` / `recurring_rescheduled`: three fires for three different occurrences (occurrence 40 passes while nothing ticks and is skipped) -/
example :
    (firesOf 0 (run (init 3) [.add 1 0 10, .advance 10, .tick, .advance 3, .done 0, .advance 7, .tick, .done 0, .advance 25, .tick])).map (·.due)
      = [30, 20, 10] := by decide +kernel

open CronM in
/-- `suspend_only_delays` / `resume_rearms`: a job due during the suspension fires after `resume` -/
example :
    let s := run (init 3) [.add 1 10 0, .suspend, .advance 50]
    s.suspended = true ∧ s.armed = none ∧ (step s .resume).armed = some 10 ∧ (run s [.resume, .tick]).log.map (·.id) = [1] := by
  decide +kernel

open CronM in
/-- `timer_exact_when_calm`: a calm history (adds, a replace, ticks, a suspension) -/
example : Calm (init 5) [.add 1 30 0, .add 2 10 0, .add 1 20 0, .suspend, .advance 15, .resume, .tick, .done 1] ∧
    (run (init 5) [.add 1 30 0, .add 2 10 0, .add 1 20 0, .suspend, .advance 15, .resume, .tick, .done 1]).armed = some 20 := by
  refine ⟨?_, by decide +kernel⟩
  simp only [Calm, okTimer, and_true]
  decide +kernel

open Crolt in
/-- `buckets_consistent`: a legal history with a one-shot that fires, is marked for eviction, is evicted, with a reopen and a delete -/
example :
    let a : Job := ⟨1, none, true, false, false⟩
    let b : Job := ⟨2, none, false, false, false⟩
    let ops : List Op := [.add a 10, .add b 15, .reopen, .work 12 [(⟨10, 1⟩, 100)], .add a 11, .delete 2, .work 200 [(⟨100, 1⟩, 0)]]
    Legal {} ops ∧ (run {} ops).jobs = [] ∧ (run {} ops).time = [] ∧ (run {} ops).log.map (·.aid) = [1] := by
  refine ⟨?_, by decide +kernel⟩
  simp [Legal, okOp]

open Crolt in
/-- `buckets_consistent` / `crolt_tid_is_servers` (the history of finding C16-crolt-tid-injection): the second `Add` carries
the first job's `TId`; the history is legal all the same, the first job keeps its entry in the time index, the buckets agree -/
example :
    let a : Job := ⟨1, none, true, false, false⟩
    let b : Job := ⟨2, some ⟨10, 1⟩, true, false, false⟩
    let db := run {} [.add a 10, .add b 20]
    Legal {} [.add a 10, .add b 20] ∧ (get ⟨10, 1⟩ db.time).map (·.aid) = some 1 ∧ (get ⟨20, 2⟩ db.time).map (·.aid) = some 2 ∧
    (get 2 db.jobs).map (·.tid) = some (some ⟨20, 2⟩) := by
  refine ⟨by simp [Legal, okOp], by decide +kernel⟩

open Crolt in
/-- `crolt_one_run_per_occurrence` / `crolt_not_before_due`: an every-second job (p = 1000 ms, MaxJitter 900 ms) added at 1234 with
draws 100, 850, 0, 0, polled every 300 ms: four runs, for the occurrences 2000, 3000, 4000 and 5000, each after its occurrence -/
example :
    (rrun 1000 900 (rinit 1000 900 1234 100) [.advance 600, .poll 1 850, .advance 300, .poll 1 850, .advance 300, .poll 1 850,
        .advance 1500, .poll 1 0, .advance 300, .poll 1 0, .advance 300, .poll 1 0, .advance 300, .poll 1 0, .advance 300, .poll 1 5]).runs
      = [(5000, 5137), (4000, 4236), (3000, 3935), (2000, 2134)] := by decide +kernel
