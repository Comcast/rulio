import RulioProofs.StateExamples
import RulioProofs.StateMono

/-! # C08 — deleteWith removes exactly the dependents, durably, and terminates

Model: `RulioModel/State.lean` (`St.irem/ideps/iremAll/isearch…` = `IndexedState.rem/deleteDependencies/search`,
`St.lrem/…` = `LinearState`), specification: `closure`/`specRem` in `RulioModel/Spec.lean`, invariants in
`RulioModel/StateInv.lean`. The recursion budget of the model is `St.fuel = 6·|facts| + 12 + tiWidth`;
`St.fuelOK`/`St.remOK`/`St.getOK` (StateInv) are `St.fuel`/`St.rem`/`St.get` under a second name
(`St.fuel_eq_fuelOK`, `St.rem_eq_remOK`), and the theorems below are stated with them.

Hypotheses used below:
* `WF s`          — unique fact ids, no variable-looking id, and (indexed state) the term index lists every stored
                    fact under each of its terms, id lists without duplicates; holds for every reachable state
                    (`reachable_wf`);
* `NoneExpiredBut s id now` — no stored fact *other than the root `id`* is expired at `now` (an expired dependent
                    would start another cascade in the middle of this one); this covers `Rem id` on a state
                    without expired facts (`NoneExpired.but`) and the deletion of `id` triggered by its own expiry;
* `isVar id = false`  — the root id is not variable-looking (known finding: such an id is a pattern variable);
* `UnindexOK s`   — (indexed state, only for "rem does not fail") every stored rule can leave the pattern index. -/

/-! ## the matcher on the cascade's pattern -/

/-- **Matcher lemma.** For a constant `id`, the pattern `{"deleteWith":[id]}` matches a fact iff the fact has a key
`deleteWith` holding an *array* that contains the *string* `id` (duplicates, non-array values, other element types
and `?`-strings inside the fact's array do not matter); it then yields exactly one empty binding and never fails. -/
theorem dep_pattern_match (id : String) (hid : isVar id = false) (fact : Obj) :
    matchesJ (.obj [("deleteWith", .arr [.str id])]) (.obj fact)
      = .ok (if (deleteWithOf fact).contains id then [[]] else []) :=
  matchesJ_depPat id hid fact

/-! ## the specification is the least closed set -/

/-- the closure contains its roots -/
theorem closure_contains_roots (F : List (String × Obj)) (roots : List String) :
    ∀ r, r ∈ roots → r ∈ closure F roots := closure_roots F roots

/-- the closure is closed: a stored fact naming a member in `deleteWith` is a member
(so `|facts|` rounds of `depsStep` are enough) -/
theorem closure_is_closed (F : List (String × Obj)) (roots : List String) (k d : String) (fact : Obj)
    (hm : (k, fact) ∈ F) (hd : d ∈ closure F roots) (hdep : d ∈ deleteWithOf fact) : k ∈ closure F roots :=
  closure_closed F roots hm hd (by simpa [depOn] using hdep)

/-- the closure is the least such set -/
theorem closure_is_least (F : List (String × Obj)) (roots : List String) (X : String → Prop)
    (hroots : ∀ r, r ∈ roots → X r)
    (hstep : ∀ k fact d, (k, fact) ∈ F → X d → d ∈ deleteWithOf fact → X k) :
    ∀ k, k ∈ closure F roots → X k :=
  closure_least F roots X hroots (fun k fact d hm hX hdep => hstep k fact d hm hX (by simpa [depOn] using hdep))

/-! ## termination -/

/-- a reachable indexed state on which the budget `6·|facts|+12` (`St.fuel` without its last summand) is too small:
nine ids that were added with `deleteWith:["x"]`, overwritten, then removed stay (stale) in the term index under
`deleteWith` and `x` -/
def staleOps : List StOp :=
  (List.range 9).flatMap (fun i =>
    [StOp.add ("a" ++ toString i) [("deleteWith", J.arr [.str "x"])] 0,
     StOp.add ("a" ++ toString i) [("k", J.num 1)] 0,
     StOp.rem ("a" ++ toString i) 0])

def isFuelErr {α} : Except LErr α → Bool
  | .error e => e == "fuel"
  | .ok _ => false

/-- **Negative (model budget, not the Go code).** After `staleOps` the indexed state is empty, the budget
`6·|facts|+12 = 12` runs out in `Rem "x"` (the Go code has no budget and returns `false, nil`);
with the model's budget, which adds `tiWidth`, the same call succeeds. -/
theorem fuel_insufficient :
    (St.run { kind := .indexed } staleOps).facts = [] ∧
    isFuelErr (St.irem (6 * (St.run { kind := .indexed } staleOps).facts.length + 12)
      (St.run { kind := .indexed } staleOps) "x" 0).2 = true ∧
    ((St.run { kind := .indexed } staleOps).remOK "x" 0).2 = .ok false := by
  -- one evaluation of the history for the three facts
  have h : (St.run { kind := .indexed } staleOps).facts = [] ∧
      isFuelErr (St.irem (6 * (St.run { kind := .indexed } staleOps).facts.length + 12)
        (St.run { kind := .indexed } staleOps) "x" 0).2 = true ∧
      (match ((St.run { kind := .indexed } staleOps).remOK "x" 0).2 with | .ok false => true | _ => false) = true := by
    decide +kernel
  refine ⟨h.1, h.2.1, ?_⟩
  have := h.2.2
  split at this
  · assumption
  · cases this

/-- **cascade_terminates.** With the budget `St.fuelOK s = 6·|facts| + 12 + tiWidth` the recursion of `Rem` never
runs out of fuel — for both state kinds, every id (present, absent, dangling, variable-looking), and every
dependency graph (cycles, self-loops, fans, chains). -/
theorem cascade_terminates (s : St) (now : Int) (id : String) (hwf : WF s) (hne : NoneExpiredBut s id now) :
    (s.remOK id now).2 ≠ .error "fuel" :=
  remWith_ne_fuel hwf id hne (Nat.le_refl _)

/-- **Fuel monotonicity.** Every budget at least `St.fuelOK s` gives the same state and the same result:
the budget is a proof device, not part of the behaviour. -/
theorem cascade_fuel_irrelevant (s : St) (now : Int) (id : String) (hwf : WF s) (hne : NoneExpiredBut s id now)
    (g : Nat) (hg : s.fuelOK ≤ g) : s.remWith g id now = s.remOK id now := by
  have hnf := remWith_ne_fuel hwf id hne (Nat.le_refl s.fuelOK)
  simp only [St.remWith, St.remOK] at hnf ⊢
  cases hk : s.kind with
  | indexed => rw [hk] at hnf; exact irem_mono hne hnf g hg
  | linear => rw [hk] at hnf; exact lrem_mono hnf g hg

set_option linter.unusedVariables false in
/-- `St.rem` is `St.remOK`: the same function (the hypotheses are not needed) -/
theorem rem_linear_budget_ok (s : St) (now : Int) (id : String) (hwf : WF s) (hk : s.kind = .linear)
    (hne : NoneExpiredBut s id now) : s.rem id now = s.remOK id now :=
  St.rem_eq_remOK s id now

set_option linter.unusedVariables false in
/-- the same for the indexed state (the hypotheses, among them a bound on the longest term-index list, are not
needed: `St.fuel` contains `tiWidth`) -/
theorem rem_indexed_budget_ok (s : St) (now : Int) (id : String) (hwf : WF s) (hk : s.kind = .indexed)
    (hne : NoneExpiredBut s id now) (hw : tiWidth s.ti ≤ 3 * s.facts.length + 6) : s.rem id now = s.remOK id now :=
  St.rem_eq_remOK s id now

/-! ## well-formedness is an invariant -/

/-- `add` preserves well-formedness (successful or not) -/
theorem wf_add (s : St) (hwf : WF s) (given : String) (x : Obj) (now : Int) : WF (s.add given x now).1 :=
  hwf.add given x now

/-- `rem` preserves well-formedness (successful or not; `St.remOK` and `St.rem` are the same function) -/
theorem wf_rem (s : St) (hwf : WF s) (id : String) (now : Int) :
    WF (s.remOK id now).1 ∧ WF (s.rem id now).1 :=
  ⟨St.rem_eq_remOK s id now ▸ hwf.le (St.rem_purge s id now).le, hwf.le (St.rem_purge s id now).le⟩

/-- **reachable_wf.** Every state reachable from the empty state of either kind by any history of
`add`/`rem` operations is well-formed. -/
theorem reachable_wf (k : Kind) (ops : List StOp) : WF (St.run { kind := k } ops) :=
  run_wf (wf_empty k) ops

/-- removal never makes a fact expire: `NoneExpired` is preserved by `rem` -/
theorem noneExpired_rem (s : St) (id : String) (now : Int) (hne : NoneExpired s now) :
    NoneExpired (s.remOK id now).1 now :=
  St.rem_eq_remOK s id now ▸ St.All.purge hne (St.rem_purge s id now)

/-! ## exactness -/

/-- **cascade_exact.** When `Rem id` returns without error, the facts left are *exactly* `specRem s.facts id`
— the same list, in the same order: the deleted ids are the least set containing `id` and closed under
"names a deleted id in `deleteWith`" (see `closure_is_closed`/`closure_is_least`), nothing else is deleted —
and the reported flag says whether `id` itself was stored. -/
theorem cascade_exact (s s' : St) (now : Int) (id : String) (b : Bool) (hwf : WF s) (hne : NoneExpiredBut s id now)
    (hid : isVar id = false) (hr : s.remOK id now = (s', .ok b)) :
    s'.facts = specRem s.facts id ∧ b = amHas s.facts id :=
  have h := remWith_spec hwf hne hid (Nat.le_refl _) hr
  ⟨h.facts, h.flag⟩

/-- **Rem does not fail**: in the linear state always, in the indexed state when every stored rule can leave the
pattern index (`UnindexOK`, see `cascade_aborts_on_unindex_error` for what happens otherwise). -/
theorem cascade_ok (s : St) (now : Int) (id : String) (hwf : WF s) (hne : NoneExpiredBut s id now)
    (hid : isVar id = false) (hun : s.kind = .indexed → UnindexOK s) :
    ∃ s' b, s.remOK id now = (s', .ok b) :=
  remWith_ok hwf hne hid hun (Nat.le_refl _)

/-- both state kinds delete the same facts -/
theorem cascade_kinds_agree (s t s' t' : St) (now : Int) (id : String) (b c : Bool)
    (hs : WF s) (ht : WF t) (hsn : NoneExpiredBut s id now) (htn : NoneExpiredBut t id now) (hfacts : s.facts = t.facts)
    (hid : isVar id = false) (hrs : s.remOK id now = (s', .ok b)) (hrt : t.remOK id now = (t', .ok c)) :
    s'.facts = t'.facts ∧ b = c := by
  obtain ⟨h1, h2⟩ := cascade_exact s s' now id b hs hsn hid hrs
  obtain ⟨h3, h4⟩ := cascade_exact t t' now id c ht htn hid hrt
  rw [h1, h3, h2, h4, hfacts]; exact ⟨rfl, rfl⟩

/-! ## durability -/

/-- **cascade_durable.** Every deleted fact id is also removed from storage, and no storage entry outside the
deleted closure changes (storage is touched only through the ids of the closure). -/
theorem cascade_durable (s s' : St) (now : Int) (id : String) (b : Bool) (hwf : WF s) (hne : NoneExpiredBut s id now)
    (hid : isVar id = false) (hr : s.remOK id now = (s', .ok b)) :
    (∀ k, k ∈ closure s.facts [id] → amHas s.facts k = true → amGet s'.store k = none) ∧
    (∀ k, k ∉ closure s.facts [id] → amGet s'.store k = amGet s.store k) :=
  have h := remWith_spec hwf hne hid (Nat.le_refl _) hr
  ⟨h.store_gone, h.store_kept⟩

/-! ## deletion by expiry -/

/-- `NoneExpired` is the special case used for an explicit `Rem` on a state without expired facts -/
theorem noneExpired_but (s : St) (now : Int) (hne : NoneExpired s now) (id : String) : NoneExpiredBut s id now :=
  hne.but id

/-- **Deletion triggered by expiry.** `Get id` on a stored fact that has expired (no other stored fact being expired)
removes it through the same cascade: the result is not-found, exactly `specRem s.facts id` is left, and the storage
entries of the closure are gone. `St.getOK` is the public `St.get`: the last conjunct says so for the linear kind,
`St.get_eq_getOK` (StateBasic) for both. -/
theorem cascade_by_expiry (s : St) (now : Int) (id : String) (fact : Obj) (hwf : WF s)
    (hg : amGet s.facts id = some fact) (hx : checkExpiration fact now = .ok true)
    (hne : NoneExpiredBut s id now) (hun : s.kind = .indexed → UnindexOK s) :
    ∃ s', s.getOK id now = (s', .error "notFound") ∧ s'.facts = specRem s.facts id ∧
      (∀ k, k ∈ closure s.facts [id] → amHas s.facts k = true → amGet s'.store k = none) ∧
      (∀ k, k ∉ closure s.facts [id] → amGet s'.store k = amGet s.store k) ∧
      (s.kind = .linear → s.get id now = s.getOK id now) := by
  obtain ⟨s', b, h, hget⟩ := getOK_expired hwf hg hx hne hun
  exact ⟨s', hget, h.facts, h.store_gone, h.store_kept, fun _ => St.get_eq_getOK s id now⟩

/-! ## a rule that cannot leave the pattern index blocks the cascade (indexed state) -/

/-- a scheduled rule whose `when` holds an array that the pattern index cannot sort -/
def stuckRule : Obj :=
  [("rule", .obj [("schedule", .str "+1h"), ("when", .obj [("a", .arr [.num 1, .str "x"])]),
                  ("action", .obj [("code", .str "1")])])]

def stuckOps : List StOp :=
  [StOp.add "r1" stuckRule 0, StOp.add "d1" [("deleteWith", J.arr [.str "r1"]), ("k", .str "v")] 0]

/-- **Negative (confirmed on the real code).** `AddFact` accepts the scheduled rule `stuckRule` in the indexed state
(scheduled rules are not put into the pattern index), but `RemFact "r1"` then fails with `notSortable` because it
tries to remove the `when` pattern from the pattern index: the rule stays, and so does its dependent `d1`.
The linear state deletes both. -/
theorem cascade_aborts_on_unindex_error :
    ((St.run { kind := .indexed } stuckOps).remOK "r1" 0).2 = .error "notSortable" ∧
    ((St.run { kind := .indexed } stuckOps).remOK "r1" 0).1.facts.map (·.1) = ["r1", "d1"] ∧
    ((St.run { kind := .linear } stuckOps).remOK "r1" 0).1.facts = [] := by
  have hi : (match ((St.run { kind := .indexed } stuckOps).remOK "r1" 0).2 with
        | .error e => e == "notSortable" | _ => false) = true ∧
      ((St.run { kind := .indexed } stuckOps).remOK "r1" 0).1.facts.map (·.1) = ["r1", "d1"] := by decide +kernel
  have hl : noneExpiredB (St.run { kind := .linear } stuckOps) 0 = true ∧ isVar "r1" = false ∧
      specRem (St.run { kind := .linear } stuckOps).facts "r1" = [] := by decide +kernel
  refine ⟨?_, hi.2, ?_⟩
  · have := hi.1
    split at this
    · rename_i e he; rw [he]; simp at this; rw [this]
    · cases this
  · have hwf := reachable_wf .linear stuckOps
    have hne := noneExpired_of_check hl.1
    obtain ⟨s', b, hr, h⟩ := remWith_answers hwf (hne.but "r1") hl.2.1 (fun h => by rw [run_kind] at h; cases h)
      (Nat.le_refl _)
    rw [St.remOK_eq_remWith, hr, h.facts]
    exact hl.2.2

/-! ## non-vacuity -/

/-- a cycle `a ↔ b`, a self-loop `c` that also names `a`, a fact `d` hanging on the dangling id `zz`,
and an unrelated fact `e` -/
def cycleOps : List StOp :=
  [StOp.add "a" [("deleteWith", J.arr [.str "b"])] 0, StOp.add "b" [("deleteWith", J.arr [.str "a"])] 0,
   StOp.add "c" [("deleteWith", J.arr [.str "c", .str "a"])] 0, StOp.add "d" [("deleteWith", J.arr [.str "zz"])] 0,
   StOp.add "e" [("x", J.num 1)] 0]

/-- the hypotheses of the theorems above hold for a non-trivial state of each kind (so `Rem` succeeds), and the
conclusion is the expected one: deleting `a` deletes `a`, `b`, `c` and keeps `d`, `e`; deleting the dangling id
`zz` deletes `d` only -/
example (k : Kind) :
    WF (St.run { kind := k } cycleOps) ∧ NoneExpired (St.run { kind := k } cycleOps) 0 ∧
    (k = .indexed → UnindexOK (St.run { kind := k } cycleOps)) ∧
    (∃ s' b, (St.run { kind := k } cycleOps).remOK "a" 0 = (s', .ok b) ∧ s'.facts.map (·.1) = ["d", "e"] ∧ b = true) ∧
    (∃ s' b, (St.run { kind := k } cycleOps).remOK "zz" 0 = (s', .ok b) ∧
      s'.facts.map (·.1) = ["a", "b", "c", "e"] ∧ b = false) := by
  have hwf := reachable_wf k cycleOps
  -- everything that has to be computed on the two concrete states, in one evaluation per kind
  have hc : noneExpiredB (St.run { kind := k } cycleOps) 0 = true ∧ unindexOKB (St.run { kind := k } cycleOps) = true ∧
      (isVar "a" = false ∧ (specRem (St.run { kind := k } cycleOps).facts "a").map (·.1) = ["d", "e"] ∧
        amHas (St.run { kind := k } cycleOps).facts "a" = true) ∧
      (isVar "zz" = false ∧ (specRem (St.run { kind := k } cycleOps).facts "zz").map (·.1) = ["a", "b", "c", "e"] ∧
        amHas (St.run { kind := k } cycleOps).facts "zz" = false) := by
    cases k <;> decide +kernel
  obtain ⟨hne, hun, ha, hz⟩ := hc
  have hne := noneExpired_of_check hne
  have hun := unindexOK_of_check hun
  refine ⟨hwf, hne, fun _ => hun, ?_, ?_⟩
  · obtain ⟨s', b, hr, h⟩ := remWith_answers hwf (hne.but "a") ha.1 (fun _ => hun) (Nat.le_refl _)
    exact ⟨s', b, hr, h.facts ▸ ha.2.1, h.flag ▸ ha.2.2⟩
  · obtain ⟨s', b, hr, h⟩ := remWith_answers hwf (hne.but "zz") hz.1 (fun _ => hun) (Nat.le_refl _)
    exact ⟨s', b, hr, h.facts ▸ hz.2.1, h.flag ▸ hz.2.2⟩

/-- the hypotheses of `cascade_by_expiry` hold at time 10 for both kinds: `Get "t"` answers not-found and leaves `v` -/
example (k : Kind) : ∃ s', (St.run { kind := k } expiryOps).getOK "t" 10 = (s', .error "notFound") ∧
    s'.facts.map (·.1) = ["v"] := by
  have hc := expiryOps_facts k
  obtain ⟨fact, hg, hx⟩ := expired_of_check hc.1
  obtain ⟨s', h1, h2, _⟩ := cascade_by_expiry _ 10 "t" fact (reachable_wf k expiryOps) hg hx
    (noneExpiredBut_of_check hc.2.1) (fun _ => unindexOK_of_check hc.2.2.1)
  exact ⟨s', h1, h2 ▸ hc.2.2.2⟩
