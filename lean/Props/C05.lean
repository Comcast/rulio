import RulioModel.Gen.Loc
import RulioProofs.MatchExamples
import RulioProofs.MatchRefl
import RulioProofs.MatchIneq
import RulioProofs.MatchOrder

/-! # C05 — the matcher is sound and complete for partial matching

Model: `matchJ` (`RulioModel/Match.lean`, line-by-line port of sheens `match` without its inequality variables;
rulio switches those on: `matchJI`, section "Inequality variables").
Specification: `pmv σ p d` (`RulioModel/MatchSpec.lean`): the bindings `σ` lay pattern `p` over datum `d`
as a partial match with every variable bound to exactly the value at its position.
Fragment: `patOK p`, `dataOK d` (`RulioModel/MatchSpec.lean`), and the scalar-repeats condition
`scalarRepeatsIn σ p bs` (`RulioModel/MatchFrag.lean`): every variable that occurs more than once in `p`, or is bound in the
incoming bindings `bs`, is bound to a scalar in `σ`.  Helper lemmas live in `RulioProofs/Match*.lean`. -/

/-- the specification relation is monotone in the bindings (what lets the left-to-right threading compose) -/
theorem sol_mono {σ σ' : Bs} (he : σ.Ext σ') {p d : J} (h : Sol σ p d) : Sol σ' p d := Sol.mono he h

set_option linter.unusedVariables false in
/-- **Soundness.** Inside the fragment every binding `σ` returned by the matcher extends the incoming
bindings and lays the pattern over the datum (`pmv`), provided the variables that repeat in the pattern or
were already bound are bound to scalars in `σ`.  Full fragment: nested maps, arrays as sets with
backtracking over structured elements, one array variable.  (The hypothesis `hd` on the datum is not needed: `soundJ`
holds of every datum; only completeness depends on `dataOK`.) -/
theorem match_sound (p d : J) (bs : Bs) (bss : List Bs) (σ : Bs)
    (hp : patOK p = true) (hd : dataOK d = true)
    (hr : matchJ p d bs = .ok bss) (hσ : σ ∈ bss)
    (hsc : scalarRepeatsIn σ p bs = true) :
    bs.Ext σ ∧ pmv σ p d = true := by
  obtain ⟨h1, _, h3⟩ := soundJ p hp d bs bss σ hr hσ
  exact ⟨h1, h3 σ (Bs.Ext.refl σ) ((scalarRepeatsIn_iff σ p bs).1 hsc)⟩

set_option linter.unusedVariables false in
/-- Every returned binding is minimal: it binds nothing besides the incoming bindings and the variables of
the pattern (no scalar hypothesis needed; nor `hd`: `soundJ` holds of every datum). -/
theorem match_result_minimal (p d : J) (bs : Bs) (bss : List Bs) (σ : Bs)
    (hp : patOK p = true) (hd : dataOK d = true)
    (hr : matchJ p d bs = .ok bss) (hσ : σ ∈ bss) :
    bs.Ext σ ∧ minimalFor σ p bs = true := by
  obtain ⟨h1, h2, _⟩ := soundJ p hp d bs bss σ hr hσ
  exact ⟨h1, (minimalFor_iff σ p bs).2 h2⟩

/-- **Completeness.** Inside the fragment every minimal specification binding `σ` (it extends `bs`, lays
`p` over `d`, binds nothing else, and binds repeated / pre-bound variables to scalars) is returned by the
matcher, up to equality as a finite map. -/
theorem match_complete (p d : J) (bs : Bs) (bss : List Bs) (σ : Bs)
    (hp : patOK p = true) (hd : dataOK d = true)
    (hr : matchJ p d bs = .ok bss)
    (hext : bs.Ext σ) (hpm : pmv σ p d = true)
    (hmin : minimalFor σ p bs = true) (hsc : scalarRepeatsIn σ p bs = true) :
    ∃ σ' ∈ bss, ∀ k, σ'.get? k = σ.get? k :=
  complete_min hp hd hr hext hpm ((minimalFor_iff σ p bs).1 hmin)
    (crit_of_SC ((scalarRepeatsIn_iff σ p bs).1 hsc))

/-- **Completeness without the scalar condition.** If moreover every map inside the datum has pairwise
distinct keys (`dataKeysOK`, always true of decoded JSON / Go maps), *every* minimal specification binding
is returned, whether or not repeated variables are bound to scalars: the matcher never misses a solution in
the fragment; only soundness depends on the scalar-repeats condition. -/
theorem match_complete_noscalar (p d : J) (bs : Bs) (bss : List Bs) (σ : Bs)
    (hp : patOK p = true) (hd : dataOK d = true) (hk : dataKeysOK d = true)
    (hr : matchJ p d bs = .ok bss)
    (hext : bs.Ext σ) (hpm : pmv σ p d = true) (hmin : minimalFor σ p bs = true) :
    ∃ σ' ∈ bss, ∀ k, σ'.get? k = σ.get? k :=
  complete_min hp hd hr hext hpm ((minimalFor_iff σ p bs).1 hmin) (crit_of_DOK hp ⟨hd, hk⟩ hpm)

/-- Every returned binding binds every variable of the pattern (with `match_result_minimal`: its domain is
exactly the incoming bindings plus the variables of the pattern). -/
theorem match_result_binds_all (p d : J) (bs : Bs) (bss : List Bs) (σ : Bs)
    (hp : patOK p = true) (hr : matchJ p d bs = .ok bss) (hσ : σ ∈ bss) :
    ∀ y ∈ varsOf p, (σ.get? y).isSome = true := by
  intro y hy
  exact Option.isSome_iff_ne_none.2 ((runJ p hp d bs bss σ hr hσ).1.bound y hy)

/-- **Guard.** With ground data and ground incoming bindings the matcher never reports `nonGround`: the
data-as-pattern call `match(binding, fact)` is only ever made on ground bindings, which is the guard under
which the real recursion is bounded.  Holds for every pattern, inside or outside the fragment. -/
theorem match_no_nonground (p d : J) (bs : Bs)
    (hd : d.ground = true) (hbs : ∀ kv ∈ bs, kv.2.ground = true) :
    matchJ p d bs ≠ .error .nonGround := by
  intro h
  have := ngJ p d bs hd hbs
  rw [h] at this
  exact this.1 rfl

/-- With ground data and ground incoming bindings every returned binding is ground again (so the guard
of `match_no_nonground` is preserved when results are fed back as incoming bindings). -/
theorem match_result_ground (p d : J) (bs : Bs) (bss : List Bs) (σ : Bs)
    (hd : d.ground = true) (hbs : ∀ kv ∈ bs, kv.2.ground = true)
    (hr : matchJ p d bs = .ok bss) (hσ : σ ∈ bss) : ∀ kv ∈ σ, kv.2.ground = true := by
  have := ngJ p d bs hd hbs
  rw [hr] at this
  exact this σ hσ

/-- **Totality inside the fragment.** For a pattern of the fragment, well-formed data and ground incoming
bindings the matcher reports no error at all, so `match_sound` / `match_complete` describe its whole
behaviour there. -/
theorem match_ok (p d : J) (bs : Bs)
    (hp : patOK p = true) (hd : dataOK d = true)
    (hbs : ∀ kv ∈ bs, kv.2.ground = true ∧ dataOK kv.2 = true) :
    ∃ bss, matchJ p d bs = .ok bss :=
  matchJ_total hp (dataOK_ground d hd) (fun kv hkv => (hbs kv hkv).1)

/-- **The result set is determined by the specification.** Two patterns of the fragment with the same
variables (as a multiset) and the same specification on `d` return the same bindings, as sets of finite
maps (for the bindings that satisfy the scalar condition).  Since `pmv` does not depend on the order of
map pairs, this is what discharges Go's random map iteration. -/
theorem match_results_determined (p q d : J) (bs : Bs) (bss1 bss2 : List Bs)
    (hp : patOK p = true) (hq : patOK q = true) (hd : dataOK d = true)
    (hvars : (varsOf p).Perm (varsOf q)) (hspec : ∀ σ, pmv σ p d = pmv σ q d)
    (h1 : matchJ p d bs = .ok bss1) (h2 : matchJ q d bs = .ok bss2) :
    (∀ σ ∈ bss1, scalarRepeatsIn σ p bs = true → ∃ σ' ∈ bss2, ∀ k, σ'.get? k = σ.get? k) ∧
    (∀ σ ∈ bss2, scalarRepeatsIn σ q bs = true → ∃ σ' ∈ bss1, ∀ k, σ'.get? k = σ.get? k) :=
  ⟨fun _ hσ hsc => results_determined hp hq hd hvars hspec h1 h2 hσ ((scalarRepeatsIn_iff _ _ _).1 hsc),
   fun _ hσ hsc => results_determined hq hp hd hvars.symm (fun σ => (hspec σ).symm) h2 h1 hσ
     ((scalarRepeatsIn_iff _ _ _).1 hsc)⟩

/-- **Order independence.** Permuting the key/value pairs of any map of the pattern, or the elements of
any array of the pattern, at any depth (`PatPerm`), keeps the pattern in the fragment and permutes the
result set: the two calls return the same bindings as sets of finite maps, as far as the bindings satisfy the
scalar-repeats condition. -/
theorem match_order_independent (p q d : J) (bs : Bs) (bss1 bss2 : List Bs)
    (hpq : PatPerm p q) (hp : patOK p = true) (hd : dataOK d = true)
    (h1 : matchJ p d bs = .ok bss1) (h2 : matchJ q d bs = .ok bss2) :
    patOK q = true ∧
    (∀ σ ∈ bss1, scalarRepeatsIn σ p bs = true → ∃ σ' ∈ bss2, ∀ k, σ'.get? k = σ.get? k) ∧
    (∀ σ ∈ bss2, scalarRepeatsIn σ q bs = true → ∃ σ' ∈ bss1, ∀ k, σ'.get? k = σ.get? k) := by
  obtain ⟨hq, hvars, hspec⟩ := hpq.inv.2.2 hp
  exact ⟨hq, match_results_determined p q d bs bss1 bss2 hp hq hd hvars (fun σ => hspec σ d) h1 h2⟩

/-- The scalar condition itself does not depend on the order (so the two halves of
`match_order_independent` speak about the same bindings). -/
theorem scalarRepeatsIn_order_independent (p q : J) (σ bs : Bs) (hpq : PatPerm p q) (hp : patOK p = true) :
    scalarRepeatsIn σ p bs = scalarRepeatsIn σ q bs := by
  obtain ⟨_, hvars, _⟩ := hpq.inv.2.2 hp
  rw [Bool.eq_iff_iff, scalarRepeatsIn_iff, scalarRepeatsIn_iff]
  exact ⟨SC.perm hvars, SC.perm hvars.symm⟩

/-- **Negative theorem (finding C05).** Outside the scalar-repeats fragment soundness fails and the result
depends on the key order: for the pattern `{"a":"?x","b":"?x"}` and the datum
`{"a":{"k":1},"b":{"k":1,"j":2}}`, with key order `a,b` the matcher returns the binding `?x={"k":1}`
although the value at `b` differs (`pmv` is false for it), and with key order `b,a` it returns no match. -/
theorem repeated_var_structured_counterexample :
    let pab : J := .obj [("a", .str "?x"), ("b", .str "?x")]
    let pba : J := .obj [("b", .str "?x"), ("a", .str "?x")]
    let d : J := .obj [("a", .obj [("k", .num 1)]), ("b", .obj [("k", .num 1), ("j", .num 2)])]
    let σ : Bs := [("?x", .obj [("k", .num 1)])]
    matchJ pab d [] = .ok [σ] ∧ pmv σ pab d = false ∧ scalarRepeatsIn σ pab [] = false ∧
    matchJ pba d [] = .ok [] ∧ patOK pab = true ∧ dataOK d = true := by
  refine ⟨?_, ?_, by decide +kernel, ?_, by decide +kernel, by decide +kernel⟩
  · rw [matchJ_same_var_twice isVar_a isVar_b isVar_qx (by decide) rfl rfl (by decide +kernel),
      show gmatch _ _ = 1 from (evalG_eq _ _).symm.trans (by decide +kernel)]
    rfl
  · exact (pmv_eq_eval _ _ _).trans (by decide +kernel)
  · rw [matchJ_same_var_twice isVar_b isVar_a isVar_qx (by decide) rfl rfl (by decide +kernel),
      show gmatch _ _ = 0 from (evalG_eq _ _).symm.trans (by decide +kernel)]
    rfl

/-! ## The hypotheses are satisfiable by a non-trivial instance

`exP = {"a":"?x","b":["?y",1,{"c":"?x"}]}`, `exD = {"a":2,"b":[1,{"c":2},"z"],"e":true}`,
`exS = {"?y":"z","?x":2}` (`RulioProofs/MatchExamples.lean`): a nested map, an array with a variable, a scalar
constant and a structured element, and a variable that occurs twice. -/

/-- all hypotheses of `match_sound` hold for the instance, and its conclusion is the expected one -/
example : patOK exP = true ∧ dataOK exD = true ∧ matchJ exP exD [] = .ok [exS] ∧ exS ∈ [exS] ∧
    scalarRepeatsIn exS exP [] = true :=
  ⟨exP_ok, exD_ok, ex_match, List.mem_singleton.2 rfl, ex_scalar⟩
example : Bs.Ext [] exS ∧ pmv exS exP exD = true :=
  match_sound exP exD [] [exS] exS exP_ok exD_ok ex_match (List.mem_singleton.2 rfl) ex_scalar

/-- all hypotheses of `match_complete` hold for the instance -/
example : Bs.Ext [] exS ∧ pmv exS exP exD = true ∧ minimalFor exS exP [] = true ∧
    scalarRepeatsIn exS exP [] = true :=
  ⟨fun _ _ h => by simp [Bs.get?] at h, ex_pmv, ex_minimal, ex_scalar⟩
example : ∃ σ' ∈ [exS], ∀ k, σ'.get? k = exS.get? k :=
  match_complete exP exD [] [exS] exS exP_ok exD_ok ex_match (fun _ _ h => by simp [Bs.get?] at h)
    ex_pmv ex_minimal ex_scalar

/-- the extra hypothesis of `match_complete_noscalar` holds for the instance -/
example : dataKeysOK exD = true := exD_keys
example : ∃ σ' ∈ [exS], ∀ k, σ'.get? k = exS.get? k :=
  match_complete_noscalar exP exD [] [exS] exS exP_ok exD_ok exD_keys ex_match
    (fun _ _ h => by simp [Bs.get?] at h) ex_pmv ex_minimal

/-- the hypotheses of `match_ok` / `match_no_nonground` hold for the instance (empty incoming bindings) -/
example : ∃ bss, matchJ exP exD [] = .ok bss :=
  match_ok exP exD [] exP_ok exD_ok (fun _ h => by cases h)

/-- `match_order_independent` applies to a genuine deep permutation of the instance -/
example (bss2 : List Bs) (h2 : matchJ exP' exD [] = .ok bss2) :
    ∃ σ' ∈ bss2, ∀ k, σ'.get? k = exS.get? k :=
  (match_order_independent exP exP' exD [] [exS] bss2 ex_perm exP_ok exD_ok ex_match h2).2.1 exS
    (List.mem_singleton.2 rfl) ex_scalar

/-! ## Inequality variables (`Inequalities: true` in `core.DefaultMatcher`)

The matcher rulio really runs is `matchJI` (`RulioModel/MatchIneq.lean`): `matchJ` plus the experimental sheens
feature that treats a variable named `"?" ++ ie ++ rest` (`ie` one of `<=`, `>=`, `!=`, `>`, `<`) that is *bound to
a number in the incoming bindings* as a numeric test against the fact, binding `"?" ++ rest` to the fact.  The
theorems above are about `matchJ`; `ineq_conservative` transfers all of them to `matchJI` on patterns that mention
no such variable name, `ineq_semantics*` say what the feature does, and `ineq_repeated_var_order_dependent` shows
that with it the clause "a variable that occurs more than once must find equal values" is lost. -/

/-- **Conservativity.** If no string of the pattern (value, array element or map key, at any depth) parses as
an inequality variable, the matcher with `Inequalities: true` is the matcher of the theorems above, on every
fact and all incoming bindings (whatever those bind). -/
theorem ineq_conservative (p : J) (hp : noIneqVars p = true) (f : J) (bs : Bs) :
    matchJI p f bs = matchJ p f bs := matchJI_eq_matchJ p hp f bs

/-- `match_sound` for the faithful matcher: soundness inside the fragment, for patterns without inequality
variables. -/
theorem match_sound_faithful (p d : J) (bs : Bs) (bss : List Bs) (σ : Bs)
    (hi : noIneqVars p = true) (hp : patOK p = true) (hd : dataOK d = true)
    (hr : matchJI p d bs = .ok bss) (hσ : σ ∈ bss)
    (hsc : scalarRepeatsIn σ p bs = true) :
    bs.Ext σ ∧ pmv σ p d = true :=
  match_sound p d bs bss σ hp hd (ineq_conservative p hi d bs ▸ hr) hσ hsc

/-- `match_complete_noscalar` for the faithful matcher: completeness inside the fragment, for patterns without
inequality variables. -/
theorem match_complete_faithful (p d : J) (bs : Bs) (bss : List Bs) (σ : Bs)
    (hi : noIneqVars p = true) (hp : patOK p = true) (hd : dataOK d = true) (hk : dataKeysOK d = true)
    (hr : matchJI p d bs = .ok bss)
    (hext : bs.Ext σ) (hpm : pmv σ p d = true) (hmin : minimalFor σ p bs = true) :
    ∃ σ' ∈ bss, ∀ k, σ'.get? k = σ.get? k :=
  match_complete_noscalar p d bs bss σ hp hd hk (ineq_conservative p hi d bs ▸ hr) hext hpm hmin

/-- Which names are inequality variables: `"?" ++ ie ++ rest` for the two-character operators with any `rest`
(the empty one included: the target is then the anonymous variable `"?"`), for `<` and `>` with a non-empty `rest`
that does not start with `=`; `"?<"`, `"?>"`, `"?=n"`, `"??<n"` and `"?"` are ordinary names. -/
theorem ineq_names (rest : String) :
    ineqOf ("?<=" ++ rest) = some ("<=", rest) ∧ ineqOf ("?>=" ++ rest) = some (">=", rest) ∧
    ineqOf ("?!=" ++ rest) = some ("!=", rest) ∧
    (rest ≠ "" → ¬ ['='] <+: rest.toList → ineqOf ("?<" ++ rest) = some ("<", rest) ∧ ineqOf ("?>" ++ rest) = some (">", rest)) ∧
    ineqOf "?<" = none ∧ ineqOf "?>" = none ∧ ineqOf "?=n" = none ∧ ineqOf "??<n" = none ∧ ineqOf "?" = none ∧
    ineqOf "?<=" = some ("<=", "") :=
  ⟨ineqOf_le rest, ineqOf_ge rest, ineqOf_ne rest, ineqOf_lt_gt rest,
   by decide, by decide, by decide, by decide, by decide, by decide⟩

/-- **Semantics, target unbound.** `v = "?" ++ ie ++ rest` bound to the number `b`, fact the number `a`, target
`"?" ++ rest` unbound: the match succeeds iff `a ie b`, and then binds the target to `a` (and nothing else). -/
theorem ineq_semantics (v ie rest : String) (hv : ineqOf v = some (ie, rest)) (bs : Bs) (a b : Int)
    (hb : bs.get? v = some (.num b)) (hn : bs.get? ("?" ++ rest) = none) :
    matchJI (.str v) (.num a) bs = .ok (if ineqSat ie a b then [bs.set ("?" ++ rest) (.num a)] else []) := by
  rw [matchJI_eqns.str]; exact matchStrI_ineq_fresh hv hb hn

/-- `ineq_semantics` spelled out for `<=`, `>=`, `!=`. -/
theorem ineq_semantics_le_ge_ne (rest : String) (bs : Bs) (a b : Int) (hn : bs.get? ("?" ++ rest) = none) :
    (bs.get? ("?<=" ++ rest) = some (.num b) →
      matchJI (.str ("?<=" ++ rest)) (.num a) bs = .ok (if a ≤ b then [bs.set ("?" ++ rest) (.num a)] else [])) ∧
    (bs.get? ("?>=" ++ rest) = some (.num b) →
      matchJI (.str ("?>=" ++ rest)) (.num a) bs = .ok (if a ≥ b then [bs.set ("?" ++ rest) (.num a)] else [])) ∧
    (bs.get? ("?!=" ++ rest) = some (.num b) →
      matchJI (.str ("?!=" ++ rest)) (.num a) bs = .ok (if a ≠ b then [bs.set ("?" ++ rest) (.num a)] else [])) := by
  refine ⟨fun hb => ?_, fun hb => ?_, fun hb => ?_⟩
  · rw [ineq_semantics _ _ _ (ineqOf_le rest) bs a b hb hn, ineqSat_le]; simp
  · rw [ineq_semantics _ _ _ (ineqOf_ge rest) bs a b hb hn, ineqSat_ge]; simp
  · rw [ineq_semantics _ _ _ (ineqOf_ne rest) bs a b hb hn, ineqSat_ne]; simp

/-- `ineq_semantics` spelled out for the strict operators `<`, `>` (`rest` non-empty, not starting with `=`). -/
theorem ineq_semantics_lt_gt (rest : String) (hne : rest ≠ "") (heq : ¬ ['='] <+: rest.toList)
    (bs : Bs) (a b : Int) (hn : bs.get? ("?" ++ rest) = none) :
    (bs.get? ("?<" ++ rest) = some (.num b) →
      matchJI (.str ("?<" ++ rest)) (.num a) bs = .ok (if a < b then [bs.set ("?" ++ rest) (.num a)] else [])) ∧
    (bs.get? ("?>" ++ rest) = some (.num b) →
      matchJI (.str ("?>" ++ rest)) (.num a) bs = .ok (if a > b then [bs.set ("?" ++ rest) (.num a)] else [])) := by
  refine ⟨fun hb => ?_, fun hb => ?_⟩
  · rw [ineq_semantics _ _ _ (ineqOf_lt_gt rest hne heq).1 bs a b hb hn, ineqSat_lt]; simp
  · rw [ineq_semantics _ _ _ (ineqOf_lt_gt rest hne heq).2 bs a b hb hn, ineqSat_gt]; simp

/-- **Semantics, target bound to a number `c`.** The match succeeds iff `a ie b` and `c = a`; the bindings are
returned unchanged. -/
theorem ineq_semantics_target_num (v ie rest : String) (hv : ineqOf v = some (ie, rest)) (bs : Bs) (a b c : Int)
    (hb : bs.get? v = some (.num b)) (hn : bs.get? ("?" ++ rest) = some (.num c)) :
    matchJI (.str v) (.num a) bs = .ok (if ineqSat ie a b && c == a then [bs] else []) := by
  rw [matchJI_eqns.str, matchStrI_ineq hv hb, hn]
  cases ineqSat ie a b <;> simp

/-- **Semantics, target bound to a non-number.** A refuted inequality refutes the match, but a satisfied one
falls back to the ordinary meaning of the bound variable `v`: the match succeeds iff `a ie b` *and* `a = b`
(so never for the strict operators and `!=`). -/
theorem ineq_semantics_target_other (v ie rest : String) (hv : ineqOf v = some (ie, rest)) (bs : Bs) (a b : Int)
    (x : J) (hb : bs.get? v = some (.num b)) (hn : bs.get? ("?" ++ rest) = some x) (hx : ∀ c, x ≠ .num c) :
    matchJI (.str v) (.num a) bs = .ok (if ineqSat ie a b && b == a then [bs] else []) := by
  obtain ⟨h1, h2⟩ := ineqOf_isVar hv
  rw [matchJI_eqns.str, matchStrI_ineq hv hb, hn]
  -- the ordinary meaning of `v`, bound to `b`, over the number `a`
  have hm : matchStr v (.num a) bs = .ok (if b == a then [bs] else []) := by
    rw [matchStr_var h1, if_neg (by simpa using h2), hb]
    show Except.ok (List.replicate (gmatch (.num b) (.num a)) bs) = _
    rw [gmatch.eq_def]
    by_cases hba : b = a <;> simp [hba]
  cases ineqSat ie a b
  · simp
  · simp only [Bool.true_eq_false, if_false, Bool.true_and]
    cases x <;> first | exact absurd rfl (hx _) | exact hm

/-- **Where the feature is not used.** An inequality variable that is unbound in the incoming bindings, or bound
to a non-number, or laid over a fact that is not a number, is an ordinary variable. -/
theorem ineq_not_used (v : String) (f : J) (bs : Bs)
    (h : bs.get? v = none ∨ (∃ x, bs.get? v = some x ∧ ∀ b, x ≠ .num b) ∨ ∀ a, f ≠ .num a) :
    matchJI (.str v) f bs = matchJ (.str v) f bs := by
  rw [matchJI_eqns.str, matchJ_eqns.str]
  rcases h with h | ⟨x, h, hx⟩ | h
  · exact matchStrI_of_unbound h f
  · exact matchStrI_of_inequal_none (inequal_of_bound_not_num h hx f)
  · exact matchStrI_of_fact_not_num h v bs

/-- **Negative theorem (inequality variables).** With the feature the clause "a variable that occurs more than
once must find equal values" fails even for scalars, and the outcome depends on the key order: for the pattern
`{"a":"?<n","b":"?<n"}` over `{"a":5,"b":3}` with *empty* incoming bindings, in key order `a,b` the first
occurrence binds `?<n := 5` like an ordinary variable and the second is then the test `3 < 5`, binding `?n := 3`:
a binding is returned although the two occurrences see different values; in key order `b,a` the test is `5 < 3`
and nothing is returned.  The matcher without the feature returns nothing in both orders. -/
theorem ineq_repeated_var_order_dependent :
    let pab : J := .obj [("a", .str "?<n"), ("b", .str "?<n")]
    let pba : J := .obj [("b", .str "?<n"), ("a", .str "?<n")]
    let d : J := .obj [("a", .num 5), ("b", .num 3)]
    matchJI pab d [] = .ok [[("?n", .num 3), ("?<n", .num 5)]] ∧ matchJI pba d [] = .ok [] ∧
    matchJ pab d [] = .ok [] ∧ matchJ pba d [] = .ok [] ∧ noIneqVars pab = false ∧
    patOK pab = true ∧ dataOK d = true := by
  have hi : ineqOf "?<n" = some ("<", "n") := by decide
  have hv := (ineqOf_isVar hi).1
  refine ⟨?_, ?_, ?_, ?_, by decide +kernel, by decide +kernel, by decide +kernel⟩
  · rw [matchJI_same_ineq_twice isVar_a isVar_b hi (by decide) rfl rfl]; rfl
  · rw [matchJI_same_ineq_twice isVar_b isVar_a hi (by decide) rfl rfl]; rfl
  · rw [matchJ_same_var_twice isVar_a isVar_b hv (by decide) rfl rfl rfl,
      show gmatch _ _ = 0 from (evalG_eq _ _).symm.trans (by decide +kernel)]
    rfl
  · rw [matchJ_same_var_twice isVar_b isVar_a hv (by decide) rfl rfl rfl,
      show gmatch _ _ = 0 from (evalG_eq _ _).symm.trans (by decide +kernel)]
    rfl

/-! ### the hypotheses of the inequality theorems are satisfiable -/

/-- `ineq_conservative` / `match_sound_faithful` apply to the worked instance `exP` (no inequality variables) -/
example : noIneqVars exP = true := by decide
example : matchJI exP exD [] = .ok [exS] := by rw [ineq_conservative exP (by decide)]; exact ex_match
example : Bs.Ext [] exS ∧ pmv exS exP exD = true :=
  match_sound_faithful exP exD [] [exS] exS (by decide) exP_ok exD_ok
    (by rw [ineq_conservative exP (by decide)]; exact ex_match) (List.mem_singleton.2 rfl) ex_scalar

/-- `ineq_semantics` on the example of the sheens documentation: bindings `{"?<n":10}`, pattern `"?<n"`,
fact `3` give `{"?<n":10,"?n":3}`; fact `13` gives nothing -/
example : matchJI (.str "?<n") (.num 3) [("?<n", .num 10)] = .ok [[("?n", .num 3), ("?<n", .num 10)]] := by
  rw [ineq_semantics "?<n" "<" "n" (by decide) [("?<n", .num 10)] 3 10 rfl rfl]
  rfl
example : matchJI (.str "?<n") (.num 13) [("?<n", .num 10)] = .ok [] := by
  rw [ineq_semantics "?<n" "<" "n" (by decide) [("?<n", .num 10)] 13 10 rfl rfl]
  rfl
/-- the side conditions of `ineq_semantics_lt_gt` hold for `rest = "n"` -/
example : ("n" : String) ≠ "" ∧ ¬ ['='] <+: ("n" : String).toList := by decide
/-- `ineq_semantics_target_num` / `ineq_semantics_target_other`: target pre-bound to the same number, to a
different number, to a string -/
example : matchJI (.str "?<=n") (.num 10) [("?<=n", .num 10), ("?n", .num 10)] = .ok [[("?<=n", .num 10), ("?n", .num 10)]] := by
  rw [ineq_semantics_target_num "?<=n" "<=" "n" (by decide) _ 10 10 10 rfl rfl]
  rfl
example : matchJI (.str "?<=n") (.num 9) [("?<=n", .num 10), ("?n", .num 10)] = .ok [] := by
  rw [ineq_semantics_target_num "?<=n" "<=" "n" (by decide) _ 9 10 10 rfl rfl]
  rfl
example : matchJI (.str "?<=n") (.num 10) [("?<=n", .num 10), ("?n", .str "x")] = .ok [[("?<=n", .num 10), ("?n", .str "x")]] := by
  rw [ineq_semantics_target_other "?<=n" "<=" "n" (by decide) _ 10 10 (.str "x") rfl rfl
    (by intro c h; cases h)]
  rfl

/-! ## Go-typed inputs: what `cast` converts before the matcher runs

The matcher of the model sees JSON values. `CastMatcher` first converts `core.Map`, typed slices (through `ISlice` in the
`default` clause) and the integer and float32 types, which the Sheens matcher does not normalise inside arrays. The table
is regenerated from `core/match.go` on every run; the typed modes of the differential run exercise each case. -/

/-- `cast` names exactly these types (a dropped case leaves that Go type unconverted inside arrays) -/
theorem cast_types :
    Gen.castTypes = [["Map", "map[string]interface{}", "[]interface{}", "int", "int32", "int64", "float32", "default"]] := by decide
