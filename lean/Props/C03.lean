import RulioProofs.QueryExamples

/-! # C03 — condition queries follow the and/or/not/pattern/code semantics

`execQ srch q bss` is the model of `Query.Exec` (query.go) on the incoming bindings `bss`; the fact search
(`SearchLocations`: local and inherited facts that match, C01/C02/C05) is the parameter
`srch : Obj → Except LErr (List Bs)`, so every theorem holds for all fact sets, with and without parents.
All statements quantify over arbitrary query programs `Q` (any nesting, any arity), arbitrary `srch`
and arbitrary lists of incoming bindings. -/

open QSpec QueryProofs

/-! ## 1. the empty query -/

/-- the empty query is the identity on the incoming bindings -/
theorem exec_empty (srch : Srch) (bss : List Bs) : execQ srch .empty bss = .ok bss :=
  exec_empty_eq srch bss

/-! ## 2. `and` -/

/-- `and` is the left-to-right Kleisli composition of its conjuncts (the first error aborts) -/
theorem exec_and (srch : Srch) (qs : List Q) (bss : List Bs) :
    execQ srch (.and qs) bss = qs.foldlM (fun acc q => execQ srch q acc) bss :=
  (exec_and_execAnd srch qs bss).trans (execAnd_eq_foldlM srch qs bss)

/-- `and []` is the identity -/
theorem exec_and_nil (srch : Srch) (bss : List Bs) : execQ srch (.and []) bss = .ok bss := by
  rw [exec_and_execAnd, execAnd_nil]

/-- `and (q :: qs)`: run `q`, feed its result to the remaining conjuncts -/
theorem exec_and_cons (srch : Srch) (q : Q) (qs : List Q) (bss : List Bs) :
    execQ srch (.and (q :: qs)) bss = (do let r ← execQ srch q bss; execQ srch (.and qs) r) := by
  simp only [exec_and_execAnd, execAnd_cons]

/-! ## 3. `or` -/

/-- `or []` yields nothing, whatever comes in -/
theorem exec_or_nil (srch : Srch) (sc : Bool) (bss : List Bs) : execQ srch (.or [] sc) bss = .ok [] := by
  rw [exec_or_eq]
  exact bindEach_all_nil _ bss fun bs _ => execOr_nil srch sc bs

/-- `or` works binding by binding: the result for a list of incoming bindings is the concatenation, in order,
of the results for each single binding (the first error aborts) -/
theorem exec_or_bindings (srch : Srch) (qs : List Q) (sc : Bool) (bss : List Bs) :
    execQ srch (.or qs sc) bss = bindEach (fun bs => execQ srch (.or qs sc) [bs]) bss := by
  rw [exec_or_eq]
  congr 1
  funext bs
  rw [exec_or_eq, bindEach_single]

/-- `exec_or`: for any incoming bindings, given the result `res bs q` of every disjunct on every singleton: per
incoming binding (in order) the concatenation of all disjunct results, or — iff `shortCircuit` — only the first
non-empty one -/
theorem exec_or (srch : Srch) (qs : List Q) (sc : Bool) (res : Bs → Q → List Bs) (bss : List Bs)
    (h : ∀ bs ∈ bss, ∀ q ∈ qs, execQ srch q [bs] = .ok (res bs q)) :
    execQ srch (.or qs sc) bss =
      .ok (bss.flatMap fun bs => if sc then orFirst (qs.map (res bs)) else qs.flatMap (res bs)) := by
  rw [exec_or_eq]
  apply bindEach_ok_of_forall
  intro bs hbs
  have hp := pointwise_map (fun q r => execQ srch q [bs] = .ok r) (res bs) qs (h bs hbs)
  cases sc with
  | true => exact execOr_first srch bs qs _ hp
  | false => rw [execOr_all srch bs qs _ hp, ← List.flatMap_def]; rfl

/-- without `shortCircuit`, one incoming binding yields the concatenation of every disjunct's result -/
theorem exec_or_all (srch : Srch) (qs : List Q) (bs : Bs) (rs : List (List Bs))
    (h : Pointwise (fun q r => execQ srch q [bs] = .ok r) qs rs) :
    execQ srch (.or qs false) [bs] = .ok rs.flatten := by
  rw [exec_or_eq, bindEach_single]; exact execOr_all srch bs qs rs h

/-- with `shortCircuit`, one incoming binding yields the first non-empty disjunct result (or nothing) -/
theorem exec_or_short_circuit (srch : Srch) (qs : List Q) (bs : Bs) (rs : List (List Bs))
    (h : Pointwise (fun q r => execQ srch q [bs] = .ok r) qs rs) :
    execQ srch (.or qs true) [bs] = .ok (orFirst rs) := by
  rw [exec_or_eq, bindEach_single]; exact execOr_first srch bs qs rs h

/-- with `shortCircuit`, evaluation stops at the first non-empty disjunct: the later disjuncts `post`
are not evaluated at all (they may even be failing queries) -/
theorem exec_or_stops (srch : Srch) (pre post : List Q) (q : Q) (bs : Bs) (r : List Bs)
    (hpre : ∀ q' ∈ pre, execQ srch q' [bs] = .ok []) (hq : execQ srch q [bs] = .ok r) (hne : r ≠ []) :
    execQ srch (.or (pre ++ q :: post) true) [bs] = .ok r := by
  rw [exec_or_eq, bindEach_single, execOr_skip_empty srch true bs _ pre hpre]
  exact execOr_cons_sc srch q post bs r hq hne

/-- without `shortCircuit`, every disjunct is evaluated: a failing disjunct fails the whole `or` -/
theorem exec_or_error (srch : Srch) (pre post : List Q) (q : Q) (bs : Bs) (e : LErr)
    (hpre : ∀ q' ∈ pre, ∃ r, execQ srch q' [bs] = .ok r) (hq : execQ srch q [bs] = .error e) :
    execQ srch (.or (pre ++ q :: post) false) [bs] = .error e := by
  rw [exec_or_eq, bindEach_single]; exact execOr_nosc_err srch bs q post e pre hpre hq

/-! ## 4. `not` -/

/-- `not q` keeps exactly the incoming bindings (in order, with multiplicity) for which `q` on the
singleton yields nothing -/
theorem exec_not (srch : Srch) (q : Q) (res : Bs → List Bs) (bss : List Bs)
    (h : ∀ bs ∈ bss, execQ srch q [bs] = .ok (res bs)) :
    execQ srch (.not q) bss = .ok (bss.filter (fun bs => (res bs).isEmpty)) :=
  exec_not_filter srch q res bss h

/-- an error of the negated query on any incoming binding fails the `not` -/
theorem exec_not_error (srch : Srch) (q : Q) (bss : List Bs) (bs : Bs) (e : LErr)
    (hm : bs ∈ bss) (h : execQ srch q [bs] = .error e) : ∃ e', execQ srch (.not q) bss = .error e' := by
  rw [exec_not_eq]
  exact bindEach_err_of_mem _ bss bs e hm (by unfold notOne; rw [bind_of_err _ e _ h])

/-! ## 5. `pattern` -/

/-- `pattern`: for each incoming binding `bs`, in order, for each `more` that the fact search returns for the
pattern with `bs` substituted (`Bind`), the extension `ExtendBindings bs more`.
(`subst bs (.obj p)` is always a map, so the "isn't a map" error of the Go code is unreachable.) -/
theorem exec_pattern (srch : Srch) (p : Obj) (l : List String) (found : Bs → List Bs) (bss : List Bs)
    (h : ∀ bs ∈ bss, srch (substO bs p) = .ok (found bs)) :
    execQ srch (.pattern p l) bss = .ok (bss.flatMap fun bs => (found bs).map (extendBs bs)) := by
  rw [exec_pattern_eq]
  exact bindEach_ok_of_forall _ _ bss (fun bs hm => by unfold patOne; rw [bind_of_ok _ _ _ (h bs hm)]; rfl)

/-- a failing fact search fails the query -/
theorem exec_pattern_error (srch : Srch) (p : Obj) (l : List String) (bss : List Bs) (bs : Bs) (e : LErr)
    (hm : bs ∈ bss) (h : srch (substO bs p) = .error e) : ∃ e', execQ srch (.pattern p l) bss = .error e' := by
  rw [exec_pattern_eq]
  exact bindEach_err_of_mem _ bss bs e hm (by unfold patOne; rw [bind_of_err _ e _ h])

/-- `Bind` of a map pattern is the map with `bs` substituted in every value -/
theorem bind_is_map (bs : Bs) (p : Obj) : subst bs (.obj p) = .obj (substO bs p) := subst_obj bs p

/-- `ExtendBindings x y` is a right-biased merge: `k` maps to `y`'s value if `y` (a map: distinct keys)
binds `k`, else to `x`'s -/
theorem extendBs_get (x y : Bs) (k : String) (hn : (y.map (·.1)).Nodup) :
    Bs.get? (extendBs x y) k = (Bs.get? y k).or (Bs.get? x k) :=
  QueryProofs.extendBs_get x y k hn

/-- without the distinct-keys assumption: the last entry of `y` for `k` wins -/
theorem extendBs_get_last (x y : Bs) (k : String) :
    Bs.get? (extendBs x y) k = (Bs.getLast? y k).or (Bs.get? x k) :=
  QueryProofs.extendBs_get_last x y k

/-! ## 6. `code` -/

/-- `code`: the script is evaluated once per incoming binding, in order, on `StripQuestionMarks bs`;
its value decides through `codeKeep` -/
theorem exec_code (srch : Srch) (t : J) (val : Bs → J) (bss : List Bs)
    (h : ∀ bs ∈ bss, evalTmpl t (stripQ bs) = .ok (val bs)) :
    execQ srch (.code t) bss = .ok (bss.flatMap fun bs => codeKeep bs (val bs)) := by
  rw [exec_code_eq]
  exact bindEach_ok_of_forall _ _ bss (fun bs hm => by unfold codeOne; rw [bind_of_ok _ _ _ (h bs hm)]; rfl)

/-- an evaluation error aborts the whole query -/
theorem exec_code_error (srch : Srch) (t : J) (bss : List Bs) (bs : Bs) (e : LErr)
    (hm : bs ∈ bss) (h : evalTmpl t (stripQ bs) = .error e) : ∃ e', execQ srch (.code t) bss = .error e' := by
  rw [exec_code_eq]
  exact bindEach_err_of_mem _ bss bs e hm (by unfold codeOne; rw [bind_of_err _ e _ h])

/-- the binding is dropped iff the script's value is `null` or `false` -/
theorem code_drop_iff (bs : Bs) (v : J) : codeKeep bs v = [] ↔ v = .null ∨ v = .bool false := by
  cases v with
  | bool b => cases b <;> simp [codeKeep]
  | _ => simp [codeKeep]

/-- `true`, and every other non-null, non-false, non-object value, keeps the binding unchanged -/
theorem code_keep (bs : Bs) (v : J) (h1 : v ≠ .null) (h2 : v ≠ .bool false) (h3 : ∀ o, v ≠ .obj o) :
    codeKeep bs v = [bs] := by
  cases v with
  | bool b => cases b with | true => rfl | false => exact absurd rfl h2
  | null => exact absurd rfl h1
  | obj o => exact absurd rfl (h3 o)
  | _ => rfl

/-- a returned object is merged into the binding under `?`-prefixed keys (right-biased, as `ExtendBindings`) -/
theorem code_merge (bs : Bs) (o : Obj) :
    codeKeep bs (.obj o) = [extendBs bs (o.map (fun kv => ("?" ++ kv.1, kv.2)))] := by
  unfold codeKeep extendBs
  rw [List.foldl_map]

/-! ## 7. the compositional law -/

/-- every query maps no bindings to no bindings -/
theorem exec_nil (srch : Srch) (q : Q) : execQ srch q [] = .ok [] := QueryProofs.exec_nil srch q

/-- `exec_append`: for EVERY query program (`and`, `or`, `not` included), evaluating on `b₁ ++ b₂` is
evaluating on `b₁` and on `b₂` and concatenating -/
theorem exec_append (srch : Srch) (q : Q) (b₁ b₂ r₁ r₂ : List Bs)
    (h₁ : execQ srch q b₁ = .ok r₁) (h₂ : execQ srch q b₂ = .ok r₂) :
    execQ srch q (b₁ ++ b₂) = .ok (r₁ ++ r₂) :=
  (exec_additive srch q b₁ b₂).1 r₁ r₂ h₁ h₂

/-- an error on the first part is an error on the whole (not necessarily the same one: inside an `and`
the second part's first conjunct runs before the first part's second conjunct) -/
theorem exec_append_error_left (srch : Srch) (q : Q) (b₁ b₂ : List Bs) (e : LErr)
    (h₁ : execQ srch q b₁ = .error e) : ∃ e', execQ srch q (b₁ ++ b₂) = .error e' :=
  (exec_additive srch q b₁ b₂).2.1 e h₁

/-- an error on the second part is an error on the whole -/
theorem exec_append_error_right (srch : Srch) (q : Q) (b₁ b₂ : List Bs) (e : LErr)
    (h₂ : execQ srch q b₂ = .error e) : ∃ e', execQ srch q (b₁ ++ b₂) = .error e' :=
  (exec_additive srch q b₁ b₂).2.2 e h₂

/-- consequence: a successful evaluation on several bindings is the in-order concatenation of the
evaluations on the singletons — the per-binding theorems above determine the result on any list -/
theorem exec_singletons (srch : Srch) (q : Q) (bss r : List Bs) (h : execQ srch q bss = .ok r) :
    ∃ per, Pointwise (fun bs x => execQ srch q [bs] = .ok x) bss per ∧ r = per.flatten :=
  QueryProofs.exec_singletons srch q bss r h

/-! ## 8. `ParseQuery` dispatch order -/

/-- `{}` is the empty query -/
theorem parse_empty (n : Nat) : parseQuery (n + 1) (.obj []) = .ok .empty := QueryProofs.parse_empty n

/-- anything but a map is a syntax error -/
theorem parse_nonmap (n : Nat) (j : J) (h : ∀ o, j ≠ .obj o) : parseQuery (n + 1) j = .error "syntax" :=
  QueryProofs.parse_nonmap n j h

/-- `code` is tried first: whatever else the map holds -/
theorem parse_order_code (n : Nat) (q : Obj) (hne : q ≠ []) (h : Obj.has q "code" = true) :
    parseQuery (n + 1) (.obj q) =
      if Obj.has q "verif_bad" then .error "syntax" else .ok (.code ((Obj.get? q "verif_tmpl").getD .null)) := by
  rw [parse_obj n q hne, if_pos h]

/-- then `pattern` (must be a map) -/
theorem parse_order_pattern (n : Nat) (q : Obj) (hne : q ≠ []) (h0 : Obj.has q "code" = false)
    (h : Obj.has q "pattern" = true) :
    parseQuery (n + 1) (.obj q) =
      match Obj.get? q "pattern" with
      | some (.obj p) => .ok (.pattern p [])
      | _ => .error "syntax" := by
  rw [parse_obj n q hne, if_neg (ne_true_of_eq_false h0), if_pos h]
  rfl

/-- then `and` (must be an array of queries) -/
theorem parse_order_and (n : Nat) (q : Obj) (hne : q ≠ []) (h0 : Obj.has q "code" = false)
    (h1 : Obj.has q "pattern" = false) (h : Obj.has q "and" = true) :
    parseQuery (n + 1) (.obj q) =
      match Obj.get? q "and" with
      | some (.arr xs) => do let qs ← xs.mapM (parseQuery n); pure (.and qs)
      | _ => .error "syntax" := by
  rw [parse_obj n q hne, if_neg (ne_true_of_eq_false h0), if_neg (ne_true_of_eq_false h1), if_pos h]
  rfl

/-- then `or` (array of queries, plus the short-circuit option `scSpec`) -/
theorem parse_order_or (n : Nat) (q : Obj) (hne : q ≠ []) (h0 : Obj.has q "code" = false)
    (h1 : Obj.has q "pattern" = false) (h2 : Obj.has q "and" = false) (h : Obj.has q "or" = true) :
    parseQuery (n + 1) (.obj q) =
      match Obj.get? q "or" with
      | some (.arr xs) => do let qs ← xs.mapM (parseQuery n); let sc ← scSpec q; pure (.or qs sc)
      | _ => .error "syntax" := by
  rw [parse_obj n q hne, if_neg (ne_true_of_eq_false h0), if_neg (ne_true_of_eq_false h1),
    if_neg (ne_true_of_eq_false h2), if_pos h, ← show _ = scSpec q from sc_inline q scKeys]
  rfl

/-- then `not` (must be a map) -/
theorem parse_order_not (n : Nat) (q : Obj) (hne : q ≠ []) (h0 : Obj.has q "code" = false)
    (h1 : Obj.has q "pattern" = false) (h2 : Obj.has q "and" = false) (h3 : Obj.has q "or" = false)
    (h : Obj.has q "not" = true) :
    parseQuery (n + 1) (.obj q) =
      match Obj.get? q "not" with
      | some (.obj a) => do let q' ← parseQuery n (.obj a); pure (.not q')
      | _ => .error "syntax" := by
  rw [parse_obj n q hne, if_neg (ne_true_of_eq_false h0), if_neg (ne_true_of_eq_false h1),
    if_neg (ne_true_of_eq_false h2), if_neg (ne_true_of_eq_false h3), if_pos h]
  rfl

/-- a non-empty map with none of the five keys is a syntax error -/
theorem parse_order_none (n : Nat) (q : Obj) (hne : q ≠ []) (h0 : Obj.has q "code" = false)
    (h1 : Obj.has q "pattern" = false) (h2 : Obj.has q "and" = false) (h3 : Obj.has q "or" = false)
    (h4 : Obj.has q "not" = false) :
    parseQuery (n + 1) (.obj q) = .error "syntax" := by
  rw [parse_obj n q hne, if_neg (ne_true_of_eq_false h0), if_neg (ne_true_of_eq_false h1),
    if_neg (ne_true_of_eq_false h2), if_neg (ne_true_of_eq_false h3), if_neg (ne_true_of_eq_false h4)]

/-- two fuels ≥ the size of the document give the same parse, whatever that parse is (that it is not
`.error "fuel"` is not part of the statement); the callers pass `4 * sz q + 4` -/
theorem parse_fuel_irrelevant (n m : Nat) (j : J) (hn : sz j ≤ n) (hm : sz j ≤ m) :
    parseQuery n j = parseQuery m j :=
  QueryProofs.parse_fuel_irrelevant n m j hn hm

/-- none of the four `shortCircuit` spellings present: no short-circuit -/
theorem short_circuit_absent (q : Obj) (h : ∀ k ∈ scKeys, Obj.has q k = false) : scSpec q = .ok false := by
  unfold scSpec
  rw [List.find?_eq_none.mpr fun k hk => by simp [h k hk]]

/-- the first spelling (in the order `shortCircuit`, `ShortCircuit`, `short_circuit`, `shortcircuit`) that is
present decides, whatever the later ones say; it must be a bool -/
theorem short_circuit_first (q : Obj) (pre post : List String) (k : String) (v : J)
    (hk : scKeys = pre ++ k :: post) (hpre : ∀ k' ∈ pre, Obj.has q k' = false) (hv : Obj.get? q k = some v) :
    scSpec q = match v with | .bool b => .ok b | _ => .error "syntax" := by
  unfold scSpec
  have hh : Obj.has q k = true := by unfold Obj.has; unfold Obj.get? at hv; rw [hv]; rfl
  rw [hk, List.find?_append, List.find?_eq_none.mpr fun k' hk' => by simp [hpre k' hk'], List.find?_cons, hh]
  simp only [Option.none_or, hv]
  cases v <;> rfl

/-! ## 9. `StripQuestionMarks` -/

/-- `stripQ` drops the entries with an empty key and maps every other key through `stripKey` -/
theorem strip_spec (bs : Bs) :
    stripQ bs = (bs.filter (fun kv => !kv.1.isEmpty)).map (fun kv => (stripKey kv.1, kv.2)) :=
  stripQ_eq bs

/-- entry-wise reading of `strip_spec` -/
theorem strip_mem (bs : Bs) (k' : String) (v : J) :
    (k', v) ∈ stripQ bs ↔ ∃ k, (k, v) ∈ bs ∧ k ≠ "" ∧ k' = stripKey k := by
  rw [stripQ_eq, List.mem_map]
  constructor
  · rintro ⟨⟨k, w⟩, hm, he⟩
    rw [List.mem_filter] at hm
    simp only [Prod.mk.injEq] at he
    obtain ⟨h1, h2⟩ := he
    subst h2
    exact ⟨k, hm.1, by simpa using hm.2, h1.symm⟩
  · rintro ⟨k, hm, hne, he⟩
    exact ⟨(k, v), List.mem_filter.mpr ⟨hm, by simpa using hne⟩, by rw [he]⟩

/-- exactly one leading `?` is removed (`??x` becomes `?x`) -/
theorem strip_key_var (s : String) : stripKey ("?" ++ s) = s := stripKey_var s

/-- a key that does not start with `?` is kept -/
theorem strip_key_other (k : String) (h : k.startsWith "?" = false) : stripKey k = k := by
  unfold stripKey; rw [if_neg (by simp [h])]

/-- `startsWith "?"` means what it says -/
theorem starts_with_q (k : String) : k.startsWith "?" = true ↔ ∃ t, k = "?" ++ t := by
  constructor
  · intro h
    simp at h
    obtain ⟨r, hr⟩ := h
    exact ⟨String.ofList r, by rw [← String.toList_inj]; simp [← hr]⟩
  · rintro ⟨t, rfl⟩; simp

/-! ## Non-vacuity: the hypotheses are satisfiable, and the definitions evaluate as expected, on a concrete
instance — facts `{"a":1}`, `{"a":2}`, `{"b":1}` searched with the real matcher model (`QueryEx.exSrch`),
bindings `x1 = {"?x":1}`, `x2 = {"?x":2}`, queries `qA = {"pattern":{"a":"?x"}}`, `qB = {"pattern":{"b":"?x"}}` -/

section Examples
open QueryEx

/-- `pattern` on the empty binding: one result per matching fact, in order (hypothesis of `exec_pattern`) -/
example : execQ exSrch qA [[]] = .ok [x1, x2] := by
  rw [qA, exec_pattern exSrch _ [] (fun _ => [x1, x2]) [[]] fun bs hm => by
    rw [List.mem_singleton.mp hm, subst_a_nil, srch_a_var]]
  rfl

/-- `pattern` with the variable already bound: the binding is substituted first and then kept -/
example : execQ exSrch qB [x1] = .ok [x1] ∧ execQ exSrch qB [x2] = .ok [] := ⟨qB_x1, qB_x2⟩

/-- `not` keeps `x2` twice (no fact `{"b":2}`) and drops `x1` (fact `{"b":1}`): order and multiplicity -/
example : execQ exSrch (.not qB) [x1, x2, x2] = .ok [x2, x2] := by
  rw [exec_not exSrch qB resB [x1, x2, x2] fun bs hm => qB_res bs (by simpa using hm)]; rfl

/-- `and`: the second conjunct sees the bindings produced by the first -/
example : execQ exSrch (.and [qA, .not qB]) [[]] = .ok [x2] := by
  rw [exec_and_cons, qA_nil]
  show execQ exSrch (.and [.not qB]) [x1, x2] = _
  rw [exec_and_cons, not_qB]
  exact exec_and_nil exSrch [x2]

/-- `or` without short-circuit: both disjuncts, concatenated in order -/
example : execQ exSrch (.or [qB, qA] false) [[]] = .ok [x1, x1, x2] :=
  exec_or_all exSrch [qB, qA] [] [[x1], [x1, x2]] (.cons qB_nil (.cons qA_nil .nil))

/-- `or` with short-circuit: stops after the first non-empty disjunct, the failing third one is not run -/
example : execQ exSrch (.or [.not .empty, qB, .code tThrow] true) [[]] = .ok [x1] :=
  exec_or_stops exSrch [.not .empty] [.code tThrow] qB [] [x1]
    (by intro q hq; rw [List.mem_singleton] at hq; subst hq; exact not_empty_nil)
    qB_nil (by simp)

/-- the same `or` without short-circuit runs the third disjunct and fails -/
example : execQ exSrch (.or [.not .empty, qB, .code tThrow] false) [[]] = .error "script" :=
  exec_or_error exSrch [.not .empty, qB] [] (.code tThrow) [] "script"
    (by
      intro q hq
      simp only [List.mem_cons, List.not_mem_nil, or_false] at hq
      rcases hq with rfl | rfl
      · exact ⟨[], not_empty_nil⟩
      · exact ⟨_, qB_nil⟩)
    throw_nil

/-- `code`: `false` drops, `true` keeps; the script sees `x`, not `?x` -/
example : execQ exSrch (.code tEq2) [x1, x2] = .ok [x2] := by
  rw [exec_code exSrch tEq2 (fun bs => match bs with | [(_, .num 2)] => .bool true | _ => .bool false) [x1, x2] (by
    intro bs hm
    simp only [List.mem_cons, List.not_mem_nil, or_false] at hm
    rcases hm with rfl | rfl
    · exact eq2_x1
    · exact eq2_x2)]
  rfl

/-- `code` returning an object: merged under a `?`-prefixed key -/
example : execQ exSrch (.code tBind) [x1] = .ok [[("?y", .num 1), ("?x", .num 1)]] := by
  rw [exec_code exSrch tBind (fun _ => .obj [("y", .num 1)]) [x1] (by
    intro bs hm; rw [List.mem_singleton] at hm; subst hm; exact bind_x1)]
  rfl

/-- `exec_append` on an instance with `and` and `not` -/
example : execQ exSrch (.and [qA, .not qB]) ([[]] ++ [[]]) = .ok ([x2] ++ [x2]) :=
  exec_append exSrch _ _ _ _ _ ex_and ex_and

/-- `ParseQuery`: a map holding `and`, `or` and `not` is an `and` (dispatch order) -/
example : parseQuery 9 exDoc = .ok (.and [qA, .not qB]) := exDoc_parse

/-- `ShortCircuit:true` is tried before `short_circuit:false` -/
example : parseQuery 9 exDocOr = .ok (.or [.empty] true) := exDocOr_parse

/-- `StripQuestionMarks` on `{"?x":1}` -/
example : stripQ x1 = [("x", .num 1)] := strip_x1

end Examples
