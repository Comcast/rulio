import RulioProofs.WatchdogThms

/-! # C14 — script execution is contained

Model: `RulioModel/Watchdog.lean` (the timeout protocol of `core.RunJavascript` as a transition system over
the caller's goroutine, the watchdog goroutine and the runtime timer; `watchdogCleanup` unbuffered and the
recovered Halt returning `(nil, nil)`, exactly as coded; the proposed repair is the same system with
`cleanupBuffered := true`, `haltIsError := true`).  All schedule-quantified statements are about *every* list
of thread ids (induction over the schedule with an invariant of the reachable states), never about an
enumeration of schedules. -/

open Watchdog

/-- **Timeout selection table** (`javascript.go`, the three `if`s before the watchdog block).
(1) `JavascriptTimeouts` off: never a watchdog. (2) a positive location control wins over the system
default. (3) a negative location control disables the watchdog whatever the system default says.
(4,5) control zero (or no location): the system default decides, negative = disabled, and zero really means a
limit of zero (`time.After(0)`). -/
theorem timeout_choice :
    (∀ c : TimeoutCfg, c.timeoutsOn = false → chooseTimeout c = none) ∧
    (∀ c : TimeoutCfg, c.timeoutsOn = true → c.hasLoc = true → 0 < c.control → chooseTimeout c = some c.control) ∧
    (∀ c : TimeoutCfg, c.timeoutsOn = true → c.hasLoc = true → c.control < 0 → chooseTimeout c = none) ∧
    (∀ c : TimeoutCfg, c.timeoutsOn = true → (c.hasLoc = false ∨ c.control = 0) → 0 ≤ c.sysDefault →
        chooseTimeout c = some c.sysDefault) ∧
    (∀ c : TimeoutCfg, c.timeoutsOn = true → (c.hasLoc = false ∨ c.control = 0) → c.sysDefault < 0 →
        chooseTimeout c = none) := by
  refine ⟨?_, ?_, ?_, ?_, ?_⟩
  · intro c h; simp [chooseTimeout, h]
  · intro c h1 h2 h3; rw [chooseTimeout_on h1, effective_of_control h1 h2 (by omega), if_pos (by omega)]
  · intro c h1 h2 h3; rw [chooseTimeout_on h1, effective_of_control h1 h2 (by omega), if_neg (by omega)]
  · intro c h1 h2 h3; rw [chooseTimeout_on h1, effective_default h2, if_pos h3]
  · intro c h1 h2 h3; rw [chooseTimeout_on h1, effective_default h2, if_neg (by omega)]

example : chooseTimeout ⟨true, true, 200000000, 60000000000⟩ = some 200000000 := by decide
example : chooseTimeout ⟨true, true, 0, 60000000000⟩ = some 60000000000 := by decide
example : chooseTimeout ⟨true, true, -1, 60000000000⟩ = none := by decide
example : chooseTimeout ⟨true, true, 0, 0⟩ = some 0 := by decide

/-- **Fast path.** A watchdog is installed, the timer does not expire during the call, the script ends by
itself after `n` boundaries (with a value or by throwing). Then under *every* schedule: the caller can only
ever return the script's own outcome and never panics; whenever no thread can move, the call is over with
nothing left behind (caller returned the script's outcome, watchdog goroutine exited, both channels empty and
closed) — i.e. nothing is ever left blocked; and every step that is not blocked strictly decreases the measure
`mu`, whose initial value is `n + 12`, so no schedule performs more than `n + 12` effective steps.
Holds for the channel as coded and for the buffered one of the repair (`c.cleanupBuffered` is arbitrary). -/
theorem fast_path_clean (c : Cfg) (n : Nat) (he : c.enabled = true) (hf : c.fires = false)
    (hp : c.polls = some n) (sched : List Tid) :
    (∀ r, (run c sched (init c)).k.m = .ret r → r = .own) ∧
    (run c sched (init c)).k.m ≠ .panicked ∧
    (stuck c (run c sched (init c)) = true → cleanFinal (run c sched (init c)) .own = true) ∧
    (∀ t s', step c t (run c sched (init c)) = some s' → mu c s' < mu c (run c sched (init c))) ∧
    mu c (init c) = n + 12 ∧
    effSteps c sched (init c) ≤ n + 12 := by
  have h := fast_holds c.toKCfg he hf
  have hmu : mu c (init c) = n + 12 := by simp [mu, muK, init, Ctl.init, he, hf, hp]; omega
  have ⟨h1, h2, h3, h4⟩ := own_outcome c n hp h sched
  exact ⟨h1, h2, h3, h4, hmu, hmu ▸ own_outcome_bound c n hp h sched⟩

/-- the value of a script that ends with `v` is what the caller gets on that path -/
theorem fast_path_value {α} (n : Nat) (v : α) : resultOf (.value n v) .own = .ok (some v) := rfl

-- the hypotheses are satisfiable, and the final state is reached (a fair schedule, script with 2 boundaries)
example : cleanFinal (run ⟨⟨true, false, false, false⟩, some 2⟩ [.main, .main, .main, .main, .main, .wd, .wd, .main, .main]
    (init ⟨⟨true, false, false, false⟩, some 2⟩)) .own = true := by decide

/-- **No watchdog** (timeouts disabled by any of the three settings): a script that ends by itself returns its
own outcome under every schedule; nothing else can happen. -/
theorem unguarded_returns_own (c : Cfg) (n : Nat) (he : c.enabled = false) (hp : c.polls = some n)
    (sched : List Tid) :
    (∀ r, (run c sched (init c)).k.m = .ret r → r = .own) ∧
    (run c sched (init c)).k.m ≠ .panicked ∧
    (stuck c (run c sched (init c)) = true → (run c sched (init c)).k.m = .ret .own) ∧
    (∀ t s', step c t (run c sched (init c)) = some s' → mu c s' < mu c (run c sched (init c))) :=
  unguarded c n he hp sched

/-- **Errors are never success.** (a) A script that does not compile is reported as a syntax error without
running anything (all three callers compile first). (b) For a script that throws: under every schedule, with
or without a watchdog, whether or not the timer expires, in the tree as coded *and* in the repaired one, if the
caller gets control back then what it gets is an error, never a value and never `(nil, nil)`. -/
theorem error_not_success {α : Type} (n : Nat) (en fi b : Bool) :
    (∀ pre, callScript (Script.syntaxError : Script α) en fi b b pre = .returned (.error .syntax)) ∧
    (∀ (sched : List Tid) (r : Ret),
      (run (cfgOf (Script.throws n : Script α) en fi b b) sched (init (cfgOf (Script.throws n : Script α) en fi b b))).k.m = .ret r →
      ∃ e, resultOf (Script.throws n : Script α) r = .error e) := by
  refine ⟨fun _ => rfl, ?_⟩
  intro sched r hr
  cases b with
  | false =>
    have := coded_returns_own _ rfl sched r hr
    subst this; exact ⟨.thrown, rfl⟩
  | true =>
    cases en with
    | false =>
      have := (unguarded (cfgOf (Script.throws n : Script α) false fi true true) n rfl rfl sched).1 r hr
      subst this; exact ⟨.thrown, rfl⟩
    | true =>
      rcases ((fixed_holds (cfgOf (Script.throws n : Script α) true fi true true).toKCfg rfl rfl).of_run
        (fun _ => rfl) sched).2.2.1 rfl r hr with h | h
      · subst h; exact ⟨.thrown, rfl⟩
      · subst h; exact ⟨.timeout, rfl⟩

/-- **NEGATIVE (confirmed defect of the unchanged tree): a script that runs past its timeout blocks its caller
for ever.** With the unbuffered `watchdogCleanup` as coded:
(1) for a script that never ends by itself the caller never gets control back, under any schedule, whether or
not the timer expires;
(2) for any script: once the interrupt was taken (`panic(Halt)` unwinds into the deferred
`watchdogCleanup <- true`), the caller stays in that send under every continuation;
(3) concrete witness: set-up, one idle poll, the timer fires, the watchdog sends the interrupt, closes
`Interrupt` and exits, the script's next poll takes the interrupt — the resulting state has the script stopped,
the watchdog gone, the caller in the deferred send, and no thread can move. -/
theorem timeout_path_blocks_caller :
    (∀ (c : Cfg), c.enabled = true → c.cleanupBuffered = false → c.polls = none →
      ∀ sched, returned (run c sched (init c)) = false) ∧
    (∀ (c : Cfg), c.enabled = true → c.cleanupBuffered = false →
      ∀ sched, (run c sched (init c)).k.m = .dSend .halt →
      ∀ more, (run c more (run c sched (init c))).k.m = .dSend .halt ∧
              step c .main (run c more (run c sched (init c))) = none) ∧
    (let c : Cfg := ⟨⟨true, true, false, false⟩, none⟩
     let s := run c [.main, .main, .timer, .wd, .wd, .wd, .main] (init c)
     s.k.m = .dSend .halt ∧ s.k.w = .done ∧ stuck c s = true) :=
  ⟨fun c he hb hp sched => coded_loop_never_returns c he hb hp sched,
   fun c he hb sched hh more => coded_halt_is_forever c he hb sched hh more,
   by decide⟩

/-- **NEGATIVE (same defect, second witness): a script that *finishes* can block its caller too.** The timer
expires while the script is in its last statement (e.g. a native call such as `Env.sleep`): the watchdog sends
the interrupt and exits; the script ends normally with its value; the deferred send has no receiver. -/
theorem late_timer_blocks_caller :
    let c : Cfg := ⟨⟨true, true, false, false⟩, some 0⟩
    let s := run c [.main, .timer, .wd, .wd, .wd, .main] (init c)
    s.k.m = .dSend .fin ∧ s.k.w = .done ∧ stuck c s = true := by decide

/-- **NEGATIVE: the recovered Halt is reported as success.** `RunJavascript` has unnamed results, so the
`return` in the deferred `recover` hands `(nil, nil)` to the caller. The unbuffered channel hides this today
(the caller never gets that far); with only the channel repaired a non-terminating script "succeeds" with the
value nil. -/
theorem halt_reported_as_success :
    let c : Cfg := ⟨⟨true, true, true, false⟩, none⟩
    (run c [.main, .main, .timer, .wd, .wd, .wd, .main, .main, .main, .main] (init c)).k.m = .ret .nilOk ∧
    resultOf (Script.loops : Script Unit) .nilOk = .ok none := ⟨by decide, rfl⟩

/-- **Repair, timeout path.** `watchdogCleanup` buffered (capacity 1) and the recovered Halt returned as an
error; a script that never ends by itself; the timer expires. Under every schedule: the only thing the caller
can ever get back is the timeout error; if no thread can move the caller has returned that error and the
watchdog has exited; the measure `mu` (13 initially) never increases, and in every state where the call is
not over some thread has a step that strictly decreases it — so the call is over after at most 13 steps other
than the script's own idle polls. -/
theorem timeout_path_returns_fixed (c : Cfg) (he : c.enabled = true) (hf : c.fires = true)
    (hb : c.cleanupBuffered = true) (hE : c.haltIsError = true) (hp : c.polls = none) (sched : List Tid) :
    (∀ r, (run c sched (init c)).k.m = .ret r → r = .timeoutErr) ∧
    (stuck c (run c sched (init c)) = true → overFinal (run c sched (init c)) .timeoutErr = true) ∧
    (∀ t s', step c t (run c sched (init c)) = some s' → mu c s' ≤ mu c (run c sched (init c))) ∧
    (overFinal (run c sched (init c)) .timeoutErr = false →
      ∃ t s', step c t (run c sched (init c)) = some s' ∧ mu c s' < mu c (run c sched (init c))) ∧
    mu c (init c) = 13 := by
  have ⟨h1, h2, h3⟩ := (fixed_loops_holds c.toKCfg he hf hb hE).of_run (by simp [hp]) sched
  have prog : overFinal (run c sched (init c)) .timeoutErr = false →
      ∃ t s', step c t (run c sched (init c)) = some s' ∧ mu c s' < mu c (run c sched (init c)) := by
    intro hov
    obtain ⟨t, ht⟩ := Classical.not_forall.mp (h3 hov)
    cases hst : stepCtl c.toKCfg false t (run c sched (init c)).k with
    | none => simp [hst] at ht
    | some r =>
      obtain ⟨k', p⟩ := r
      exact ⟨t, _, step_some_iff.mpr ⟨k', p, by rw [atEnd_loops c hp]; exact hst, rfl⟩,
        by simpa [hst, mu, hp] using ht⟩
  refine ⟨h1, fun hs => ?_, fun t s' => mu_le_loops c hp _ t (h2 t) s', prog, ?_⟩
  · -- a stuck state has no such step
    cases hov : overFinal (run c sched (init c)) .timeoutErr with
    | true => rfl
    | false =>
      obtain ⟨t, s', hs', _⟩ := prog hov
      rw [stuck_step c _ hs t] at hs'
      nomatch hs'
  · simp [mu, muK, init, Ctl.init, he, hf, hp]

-- the repaired protocol on the witness schedule of `timeout_path_blocks_caller` (plus the caller's unwinding)
example : overFinal (run ⟨⟨true, true, true, true⟩, none⟩ [.main, .main, .timer, .wd, .wd, .wd, .main, .main, .main, .main]
    (init ⟨⟨true, true, true, true⟩, none⟩)) .timeoutErr = true := by decide

/-- **Repair, every script and every timer behaviour.** With the buffered channel the caller's goroutine is
never blocked: in every reachable state in which it has not returned, its next step is enabled (so whether the
call returns depends only on the script reaching a boundary). If nothing can move, the caller has returned
and the watchdog goroutine has exited. With Halt reported as an error the caller gets the script's own outcome
or the timeout error, nothing else, and never a panic. -/
theorem fixed_caller_never_blocked (c : Cfg) (he : c.enabled = true) (hb : c.cleanupBuffered = true)
    (sched : List Tid) :
    (returned (run c sched (init c)) = false → (step c .main (run c sched (init c))).isSome = true) ∧
    (stuck c (run c sched (init c)) = true →
      returned (run c sched (init c)) = true ∧ (run c sched (init c)).k.w = .done) ∧
    (c.haltIsError = true → ∀ r, (run c sched (init c)).k.m = .ret r → r = .own ∨ r = .timeoutErr) ∧
    (run c sched (init c)).k.m ≠ .panicked :=
  have ⟨h1, h2, h3, h4⟩ := (fixed_holds c.toKCfg he hb).of_run (fun _ => rfl) sched
  ⟨fun hr => step_isSome c .main _ ▸ h1 hr _, fun hs => h2 _ (stuck_ctl c _ hs), h3, h4⟩

/-- **A failed call is a failed node.** `EvalRuleCondition.Do` and `ExecRuleAction.Do` mark the node `Complete`
exactly when the call returned no error. -/
theorem node_failed_iff_error {α : Type} (r : CallRes α) : nodeComplete r = false ↔ ∃ e, r = .error e := by
  cases r <;> simp [nodeComplete]
