import RulioProofs.ConcAgree
import RulioProofs.RuleCache

/-! # C12 — concurrent requests to one location are atomic

Full statement of the property (not provable for the code as it is, see the negative theorems below):

  for every schedule of every number of clients issuing Add/Rem/Get/Search/FindRules/FindCachedRules on one
  location, results and final memory are those of a sequential run respecting real time, memory equals storage at
  quiescence, and no two conflicting accesses are concurrently enabled.

What is proved: (1) the generic theorem for any program that keeps the lock discipline, all schedules, any number of
threads; (2) the regenerated lock-discipline table of the real code keeps the discipline except at an enumerated list
of sites; (3) the fragment of requests/histories that avoids those sites is therefore linearizable on memory;
(4) each class of exception has a concrete racing / diverging schedule in the model.
(5) memory = storage for every id whenever no writer is inside its section, for any number of writers of that id
(`memory_store_agree`; the storage calls stand inside the exclusive sections: findings C12-add-add-store-inversion-*) — and, independently
of the lock, at the end for every id that has a single writer (`single_writer_memory_store_agree_partial`).
Missing (hence `_partial`): the requests that go through the rule cache and expiry (refuted: the witnesses below); the composite
Location requests (ProcessEvent, RemRule, EnableRule are several sections); data races, crashes and deadlock of
the real runtime are observed dynamically only (race detector, watchdog). -/

open Conc Conc.C12

/-- **Sections of one reader/writer lock are atomic** (all thread counts, all schedules; induction over the
schedule). If every read/write of guarded memory happens inside a section and every write inside an exclusive
one, then after any schedule `σ` the configuration, with the sections that are still open run to completion, is
exactly the configuration of the *sequential* run that executes whole sections one after the other in the order
`linOrder` in which `σ` acquired the lock. In particular, when no section is open (e.g. all threads finished),
guarded memory and every thread's observations and position are equal to those of that sequential run. -/
theorem locked_section_atomic (P : Tid → List Step) (hP : WellLocked P) (m0 : Cell → Val) (σ : List Tid) :
    let F := exec (init P m0) σ
    let A := execA (init P m0) (linOrder (init P m0) σ)
    Completes F A ∧ (Quiescent F → A.mem = F.mem ∧ ∀ t, A.th t = F.th t) := by
  have h := sim (lockInv_init P m0 hP) (completes_init P m0) σ
  exact ⟨h.2, fun hq => completes_quiescent h.1 h.2 hq⟩

/-- the sequential run really is sequential: a step of `execA` that starts a section equals the fine-grained
run in which that thread alone is scheduled from its `acq` through its `rel` -/
theorem atomic_step_is_serial (C : Config) (t : Tid) (w : Bool) (rest : List Step)
    (hT : (C.th t).todo = .acq w :: rest) (hn : (C.th t).mode = none) (hc : canAcq C w = true)
    (hw : wf (some w) rest = true) :
    stepA C t = exec C (List.replicate (bodyLen rest + 1) t) := by
  -- the first decision takes the lock, the remaining `bodyLen rest` run the section (`exec_section`)
  rw [List.replicate_succ, exec, List.foldl_cons]
  have e := step_acq hT hn hc
  have ht : ((step C t).th t).todo = rest := by rw [e]; simp
  have h := exec_section (step C t) t w (by rw [e]; simp) (by rw [ht]; exact hw)
  rw [ht, exec] at h
  rw [h, e, stepA_acq hT hn hc]
  cases w <;> simp [(canAcq_true hc).1, upd_upd]

/-- **the order respects real time**: it is a subsequence of the schedule, built left to right — every section
acquired during a prefix `σ₁` (so every section that *ended* in `σ₁`) precedes every section acquired in the rest
`σ₂` (so every section that *began* after `σ₁`) -/
theorem lin_order_real_time (C : Config) (σ₁ σ₂ : List Tid) :
    linOrder C (σ₁ ++ σ₂) = linOrder C σ₁ ++ linOrder (exec C σ₁) σ₂ ∧ (linOrder C (σ₁ ++ σ₂)).Sublist (σ₁ ++ σ₂) :=
  ⟨linOrder_append C σ₁ σ₂, linOrder_sublist C (σ₁ ++ σ₂)⟩

/-- **The real code keeps the discipline except at the listed sites.** Evaluated over the table regenerated from
the Go source on every run: every access to IdToFact/Facts, FactIndex, RuleIndex, cachedRules, Loaded by any method
reachable from the `State` interface is inside a section of the state lock, every write and every storage update
inside an exclusive one, lock calls are balanced and never nested — except `knownExceptions`. Removing or moving
a lock call, or adding an unguarded access, changes the table and this no longer evaluates to `true`. -/
theorem discipline_partial : disciplineOK Gen.C12.table knownExceptions = true := by decide +kernel

/-- **Linearizability of the fragment** (`locked_section_atomic` applied to the rows of the regenerated table, whose discipline is evaluated: `frag_rows`). Take any number of clients; each
issues any sequence of Add/Rem/Get/Search/FindRules/Count/Clear requests of one implementation, each request being
its row of the regenerated table (calls inlined) under *any* interpretation of which cells and values its accesses
denote, in histories where nothing expires, no `deleteWith` cascade runs and the rule cache is not used. Then every
schedule is equivalent, on guarded memory and on every client's observations, to the sequential run of the
requests' sections in lock-acquisition order; every such request has exactly one section, so that order is an
order of the requests, and it respects real time by `lin_order_real_time`.
Storage (`aux`) is covered by `memory_store_agree`. Not covered: FindCachedRules; expiry. -/
theorem linearizable_partial (impl : String) (himpl : impl = "indexed" ∨ impl = "linear")
    (P : Tid → List Step)
    (hP : ∀ t, ∃ reqs : List (String × Interp), (∀ q ∈ reqs, q.1 ∈ fragOps) ∧
        P t = (reqs.map (fun q => (row impl q.1).map (inst q.2 fragDrop))).flatten)
    (m0 : Cell → Val) (σ : List Tid) :
    (let F := exec (init P m0) σ
     let A := execA (init P m0) (linOrder (init P m0) σ)
     Completes F A ∧ (Quiescent F → A.mem = F.mem ∧ ∀ t, A.th t = F.th t)) ∧
    (∀ m ∈ fragOps, sections (row impl m) = 1) := by
  have hrow := frag_rows impl (by simpa using himpl)
  refine ⟨locked_section_atomic P (fun t => ?_) m0 σ, fun m hm => (hrow m hm).2.1⟩
  obtain ⟨reqs, hin, hPt⟩ := hP t
  rw [hPt]
  exact wf_flatten _ (List.forall_mem_map.2 fun q hq => wf_inst _ _ _ _ (hrow q.1 (hin q hq)).1)

/-- **Memory = storage for an id with a single writer.** One client (`owner`) issues any sequence of Add/Rem
requests on one id (rows of the regenerated table; every Add stores its value `v` in memory and in storage, Rem
stores 0 = absent); all other clients run arbitrary programs that never write that id's memory or storage cell
(requests on other ids, reads, searches). Then for every schedule after which the owner is done, whatever the others
did and however the steps interleaved, the id's memory cell equals its storage cell. (The lock plays no role here:
this is ownership; it also covers rows outside the fragment of `memory_store_agree`. With several writers of one id
it is the lock that does it: `memory_store_agree`.) -/
theorem single_writer_memory_store_agree_partial (impl : String) (himpl : impl = "indexed" ∨ impl = "linear")
    (P : Tid → List Step) (owner : Tid) (reqs : List (String × Val))
    (hreq : ∀ q ∈ reqs, q.1 = "Add" ∨ q.1 = "Rem")
    (hP : P owner = (reqs.map (fun q => (row impl q.1).map (inst (interp q.2) fragDrop))).flatten)
    (hoth : ∀ t, t ≠ owner → noWr memC storeC (P t) = true)
    (m0 : Cell → Val) (h0 : m0 memC = m0 storeC) (σ : List Tid)
    (hdone : ((exec (init P m0) σ).th owner).todo = []) :
    (exec (init P m0) σ).mem memC = (exec (init P m0) σ).aux storeC := by
  have hfrag : ∀ q ∈ reqs, q.1 ∈ fragOps := fun q hq => by
    rcases hreq q hq with h | h <;> rw [h] <;> decide
  have hgood := frag_good (by simpa using himpl) reqs hfrag
  rw [← hP] at hgood
  exact single_writer_agree P owner hgood.1 hgood.2 hoth m0 h0 σ hdone

/-! ## The rule cache (finding C12-stale-rule-cache: the cache counts its invalidations) -/

/-- **No stale rule in the cache** — the generation protocol of `FindCachedRules` / `Add` / `rem` (model
`RulioModel/RuleCache.lean`: one rule id; any number of writers, each "invalidate, update the state, invalidate", and of
readers, each "read the generation, read the rule from the state, use the cached rule if there is one, else cache what was
read provided the generation is still the one read"; one step per scheduling decision). After EVERY schedule: whatever the
cache holds is the version the state holds, unless some writer is between its update and its second invalidation — in
particular whenever every writer that started has returned. So an event that starts after `AddRule` returned runs the rule
that is stored, however the earlier events interleaved with the write. -/
theorem rule_cache_never_stale (mem gen : Nat) (pcs : List RuleCache.PC) (hf : RuleCache.Fresh pcs) (σ : List Nat) :
    let s := RuleCache.run { mem := mem, cache := none, gen := gen, pcs := pcs } σ
    ∀ c, s.cache = some c → c = s.mem ∨ RuleCache.midWrite s :=
  (List.foldlRecOn σ _ (RuleCache.inv_init mem gen pcs hf) fun _ hb t _ => RuleCache.inv_step hb t).cache

/-- the second invalidation is what makes it true. Schedule: the writer invalidates; the reader reads the generation and the
old rule; the writer updates the state; the reader caches what it read (the generation has not moved). At that point the old
version is cached and the new one stored — and that would be final if `Add` invalidated only before its
update. The writer's second invalidation, its last step, empties the cache again. -/
theorem rule_cache_needs_second_invalidation :
    (let s := RuleCache.run { mem := 1, cache := none, gen := 0, pcs := [.w0 2, .r0] } [0, 1, 1, 0, 1]
     s.cache = some 1 ∧ s.mem = 2) ∧
    (let s := RuleCache.run { mem := 1, cache := none, gen := 0, pcs := [.w0 2, .r0] } [0, 1, 1, 0, 1, 0]
     s.cache = none ∧ s.mem = 2 ∧ s.pcs = [.done none, .done (some 1)]) := by decide

/-- tie (regenerated table): in both implementations `FindCachedRules` reads the generation BEFORE it reads the rules from
the state and caches afterwards, and `Add` and `rem` invalidate twice (the extractor lists a deferred call where it is
written; that the second invalidation runs after the update is the `defer`, and is what the forced schedules of the check
observe). -/
theorem rule_cache_protocol_in_table :
    (["indexed", "linear"].all (fun impl =>
      (Gen.C12.table.find impl "FindCachedRules").map (·.body) ==
        some [.call "cacheGeneration", .call "doFindRules", .call "cachedRule", .call "cacheRule"])) = true ∧
    ((Gen.C12.table.find "indexed" "Add").map (fun m => (m.body.filter (· == .call "uncacheRule")).length)) = some 2 ∧
    ((Gen.C12.table.find "linear" "Add").map (fun m => (m.body.filter (· == .call "uncacheRule")).length)) = some 2 ∧
    ((Gen.C12.table.find "indexed" "rem").map (fun m => (m.body.filter (· == .call "uncacheRule")).length)) = some 2 := by
  decide +kernel

/-! ## Negative theorems: one witness schedule per class of exception (programs built from the regenerated table) -/

/-- `cachedRules` outside the lock: as long as the regenerated table still shows `Add` writing the cache with no
lock, the schedule `addFindSched` of `Add ∥ FindCachedRules` (built from the table rows) reaches a configuration in
which a write and an access of the cache cell are enabled at the same time — both implementations. (Stated relative
to the table so that repairing the code removes the premise, not the proof.) -/
theorem cache_race_witness :
    ((violations Gen.C12.table).contains ⟨"indexed", "Add", .wr .cachedRules, .none, false⟩ = true →
      raceAt (exec (addFind "indexed") (addFindSched "indexed")) 0 1 = true) ∧
    ((violations Gen.C12.table).contains ⟨"linear", "Add", .wr .cachedRules, .none, false⟩ = true →
      raceAt (exec (addFind "linear") (addFindSched "linear")) 0 1 = true) :=
  -- the schedules race whatever the table says about `Add`: the model does not interpret the cache's own mutex
  ⟨fun _ => by decide +kernel, fun _ => by decide +kernel⟩

/-- `expire → rem` under the shared lock: two searches over an expired fact both hold the read lock and are both
about to write the same memory cell (both implementations) -/
theorem expire_under_read_lock_witness :
    (∃ σ, let C := exec (searchSearch "indexed") σ
      raceAt C 0 1 = true ∧ C.readers.length = 2 ∧ nextIs 0 (isWrTo memC) C = true ∧ nextIs 1 (isWrTo memC) C = true) ∧
    (∃ σ, let C := exec (searchSearch "linear") σ
      raceAt C 0 1 = true ∧ C.readers.length = 2 ∧ nextIs 0 (isWrTo memC) C = true ∧ nextIs 1 (isWrTo memC) C = true) :=
  ⟨⟨searchSearchSched "indexed", by decide +kernel⟩, ⟨searchSearchSched "linear", by decide +kernel⟩⟩

/-- `FindRules.Do` writes the shared cached rule: two dispatches race on it from the start -/
theorem shared_rule_object_witness : raceAt doDo 0 1 = true := by decide +kernel

/-- **Memory = storage under any number of writers** (findings C12-add-add-store-inversion-indexed / -linear:
`Add`, `Rem`, `Clear` update the stored document inside the exclusive section that updates memory).
Any number of clients; each issues any sequence of Add/Rem/Get/Search/FindRules/Count/Clear requests of one implementation
on one id, each request being its row of the regenerated table (calls inlined; nothing expires, no cascade) and storing
its own value `v` in memory and in storage. Then after every schedule: whenever nobody holds the lock exclusively the
id's memory cell equals its storage cell, and while a writer is inside its section they will be equal again at its
release (`secPend`). In particular they are equal once every request has returned. The premise about the table is
checked by evaluation (`goodAcc`: memory and storage of the id are written only inside exclusive sections, and a section
that writes one writes the other): moving the storage call out of the locked section again makes it false. -/
theorem memory_store_agree (impl : String) (himpl : impl = "indexed" ∨ impl = "linear")
    (P : Tid → List Step)
    (hP : ∀ t, ∃ reqs : List (String × Val), (∀ q ∈ reqs, q.1 ∈ fragOps) ∧
        P t = (reqs.map (fun q => (row impl q.1).map (inst (interp q.2) fragDrop))).flatten)
    (m0 : Cell → Val) (h0 : m0 memC = m0 storeC) (σ : List Tid) :
    let F := exec (init P m0) σ
    (F.writer = none → F.mem memC = F.aux storeC) ∧
    (∀ w, F.writer = some w →
      (secPend memC storeC (F.th w).todo (F.mem memC) (F.aux storeC)).1 =
        (secPend memC storeC (F.th w).todo (F.mem memC) (F.aux storeC)).2) ∧
    ((∀ t, (F.th t).todo = []) → F.mem memC = F.aux storeC) := by
  have hgood : ∀ t, wf none (P t) = true ∧ Good memC storeC none (P t) := fun t => by
    obtain ⟨reqs, hin, hPt⟩ := hP t
    rw [hPt]
    exact frag_good (by simpa using himpl) reqs hin
  exact good_programs_agree P (fun t => (hgood t).1) (fun t => (hgood t).2) m0 h0 σ

/-- an `Add` that updates memory inside the section and the stored document after it does not meet the
premise: the check that `memory_store_agree` evaluates over the regenerated table distinguishes the two -/
theorem store_outside_section_rejected :
    goodAcc none [.lock true, .rd .mem, .wr .mem, .unlock true, .store "Add"] = false ∧
    goodAcc none [.store "Add", .lock true, .rd .mem, .wr .mem, .unlock true] = false ∧
    goodAcc none [.lock true, .rd .mem, .wr .mem, .store "Add", .unlock true] = true := by decide

/-! ## Non-vacuity -/

example : WellLocked twoWritersOneReader := by
  intro t
  match t with
  | 0 => decide
  | 1 => decide
  | 2 => decide
  | (n + 3) => rfl

/-- an interleaved schedule (the reader and writer 1 contend while writer 0 is inside) — the result is the serial one -/
example : let C := exec (init twoWritersOneReader (fun _ => 0)) [0, 2, 1, 0, 1, 0, 2, 0, 2, 1, 2, 1, 2, 1, 1, 1, 1]
    C.mem 0 = 2 ∧ (C.th 2).log = [1] ∧ linOrder (init twoWritersOneReader (fun _ => 0)) [0, 2, 1, 0, 1, 0, 2, 0, 2, 1, 2, 1, 2, 1, 1, 1, 1] = [0, 2, 1] := by
  decide

/-- the hypotheses of `linearizable_partial` are met by real request sequences -/
example : ∃ reqs : List (String × Interp), (∀ q ∈ reqs, q.1 ∈ fragOps) ∧
    (reqs.map (fun q => (row "indexed" q.1).map (inst q.2 fragDrop))).flatten ≠ [] :=
  ⟨[("Add", interp 1), ("Search", interp 0), ("Rem", interp 0)], by decide, by decide +kernel⟩

/-- the hypotheses of `single_writer_memory_store_agree_partial` are met: an owner issuing Add/Rem/Add on the id,
another client searching -/
example : (∀ q ∈ [("Add", (1 : Val)), ("Rem", 0), ("Add", 2)], q.1 = "Add" ∨ q.1 = "Rem") ∧
    noWr memC storeC ((row "indexed" "Search").map (inst (interp 0) fragDrop)) = true ∧
    noWr memC storeC ((row "linear" "Get").map (inst (interp 0) fragDrop)) = true := by
  refine ⟨by decide, by decide +kernel, by decide +kernel⟩

set_option maxRecDepth 200000 in
/-- the hypotheses of `memory_store_agree` are met by real request sequences of two writers of one id, and the schedule that
preempts client 0 after its memory update (memory = 2, storage = 1 if the storage call came after the section) ends with
both equal -/
example : (∀ q ∈ [("Add", (1 : Val)), ("Rem", 0), ("Add", 2), ("Search", 0)], q.1 ∈ fragOps) ∧
    (let C := exec (addAdd "indexed") (addAddSchedIndexed ++ List.replicate 40 1 ++ List.replicate 40 0)
     done 0 C = true ∧ done 1 C = true ∧ C.mem memC = C.aux storeC) ∧
    (let C := exec (addAdd "linear") (addAddSchedLinear ++ List.replicate 40 1 ++ List.replicate 40 0)
     done 0 C = true ∧ done 1 C = true ∧ C.mem memC = C.aux storeC) := by
  refine ⟨by decide, by decide +kernel, by decide +kernel⟩

