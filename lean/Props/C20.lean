import RulioProofs.Breaker
import RulioProofs.Throttle

/-! # C20 — configured limits are enforced and recover

Models: `RulioModel/Breaker.lean` (`OB` = the `counts`/`updated` state of `OutboundBreaker`, `BEv` (of
`RulioModel/BreakerGhost.lean`) = a `Do` call or a `Status()`/`Summary()` poll, `DoSys` = concurrent callers of `Do`, `Thr` = `Throttle.Submit` bookkeeping, `Cap` = the
capacity gate of `Location`), built on the definitions that `harness/cmd/extract_c20` regenerates from
`core/breaker.go` and `core/location.go` into `RulioModel/Gen/C20.lean`.  Time is nanoseconds on a monotone clock.

The breaker theorems are about the repaired `slide`/`Do`/`init`/`Submit`: `slide` advances
`updated` by the whole ticks it shifted (to `now` only when everything has aged out), an admission sets
`updated := now`, `init` rejects intervals below `breakerTicks` ns, `Submit` increments `pending` only for the
submissions that will decrement it.  On a tree without these repairs the extracted definitions differ and the
recovery / interval / pending theorems below do not compile. -/

open Gen.C20

/-! ## OutboundBreaker: the rate bound -/

/-- **Window bound on the real data structure.**  For a breaker whose counts are all zero (fresh, or after `Reset`),
any limit, interval (at least `ticks` ns) and any non-decreasing sequence of `Do` calls and `Status`/`Summary` polls,
every window `[a, a + ticks·⌊interval/ticks⌋)` contains at most `limit` admitted calls.  Proved by a simulation between
the `counts` array (copy/zero/`counts[0]++`, the assignments of `updated` in `slide` and `Do`) and the ghost model of
`BreakerGhost.lean`. -/
theorem breaker_window_counts (b : OB) (hz : b.counts = List.replicate b.ticks 0) (ht : 0 < b.ticks) (hr : 0 < b.res)
    (es : List BEv) (hmono : (b.updated :: es.map BEv.time).Pairwise (· ≤ ·)) (a : Nat) :
    ((b.admittedEv es).filter (fun t => a ≤ t ∧ t < a + b.ticks * b.res)).length ≤ b.limit := by
  rw [admittedEv_ghost b hz ht]
  exact breaker_window (ghost0 b) es (binv_ghost0 b hr) hmono a

/-- the same for `NewOutboundBreaker(limit, interval)` when `interval` is a multiple of `breakerTicks` nanoseconds
(every realistic interval): *any sliding window of the interval* holds at most `limit` admissions. -/
theorem breaker_window_interval (limit interval : Nat) (hi : 0 < interval) (hd : breakerTicks ∣ interval)
    (es : List BEv) (hmono : (es.map BEv.time).Pairwise (· ≤ ·)) (a : Nat) :
    (((OB.init limit interval).admittedEv es).filter (fun t => a ≤ t ∧ t < a + interval)).length ≤ limit := by
  obtain ⟨q, rfl⟩ := hd
  have hr : (OB.init limit (breakerTicks * q)).res = q := Nat.mul_div_cancel_left q (by decide)
  have := breaker_window_counts (OB.init limit (breakerTicks * q)) rfl (OB.init_ticks_pos _ _)
    (by rw [hr]; exact Nat.pos_of_mul_pos_left hi) es (pairwise_zero_cons _ hmono) a
  rwa [hr] at this

/-- **Concurrent callers are sequential.**  Any number of threads, each making any number of `Do` calls, under any
schedule: because `Do` holds the breaker's mutex from the clock reading to the increment and the assignment of
`updated` (`do_segments_shape`, a fact regenerated from the source), the execution equals a sequential run of `call`
over a subsequence of the scheduled clock readings, those taken under the lock. -/
theorem breaker_concurrent_is_sequential (b : OB) (calls : List Nat) (sch : List (Nat × Nat)) :
    ∃ ts, ts.Sublist (sch.map (·.2)) ∧ ((DoSys.start b calls).exec sch).b = b.after ts ∧
      ((DoSys.start b calls).exec sch).admitted = b.admitted ts :=
  exec_sequential (DoSys.start b calls) (start_ok b calls) sch

/-- **Under any concurrency** the admitted calls therefore obey the window bound.  (Clock readings along a schedule
are non-decreasing.) -/
theorem breaker_window_concurrent (b : OB) (hz : b.counts = List.replicate b.ticks 0) (ht : 0 < b.ticks) (hr : 0 < b.res)
    (calls : List Nat) (sch : List (Nat × Nat)) (hmono : (b.updated :: sch.map (·.2)).Pairwise (· ≤ ·)) (a : Nat) :
    ((((DoSys.start b calls).exec sch).admitted).filter (fun t => a ≤ t ∧ t < a + b.ticks * b.res)).length ≤ b.limit := by
  obtain ⟨ts, hsub, _, hadm⟩ := breaker_concurrent_is_sequential b calls sch
  rw [hadm]
  have hm : (b.updated :: ts).Pairwise (· ≤ ·) := hmono.sublist (List.Sublist.cons_cons _ hsub)
  exact breaker_window_counts b hz ht hr (ts.map .call) (by rw [map_call_time]; exact hm) a

/-! ## OutboundBreaker: recovery

`slide` keeps the part of a tick that it did not shift (`updated` advances by whole ticks), so polling — by refused
`Do` calls or by `Status()`/`Summary()` — cannot postpone the shifts; only an admission re-anchors the clock
(`updated := now`), which is what makes the rate bound exact. -/

/-- **Recovery, for every polling pattern.**  For any breaker with all-zero counts and a positive limit, any
non-decreasing sequence `pre` of `Do` calls and `Status`/`Summary` polls (any number, any spacing: faster or slower
than a tick, bursts, pauses), a call at `now` is admitted when every admission so far is at least one window
(`ticks·res`) old.  (Induction over the list of arrivals.) -/
theorem breaker_recovers (b : OB) (hz : b.counts = List.replicate b.ticks 0) (ht : 0 < b.ticks) (hr : 0 < b.res)
    (hl : 0 < b.limit) (pre : List BEv) (now : Nat)
    (hmono : (b.updated :: (pre.map BEv.time ++ [now])).Pairwise (· ≤ ·))
    (hidle : ∀ t ∈ b.admittedEv pre, t + b.ticks * b.res ≤ now) :
    ((b.afterEv pre).call now).2 = true := by
  obtain ⟨hL, hr', hu⟩ := run_before_call (ghost0 b) pre now (binv_ghost0 b hr) (linv_ghost0 b) hmono
  rw [call_after_ghost b hz ht, decide_eq_true_eq,
    ghost_idle_total _ now hL hr' hu (by rwa [G.run_W, ← admittedEv_ghost b hz ht])]
  exact hl

/-- **Recovery bound** for `NewOutboundBreaker(limit, interval)` with any accepted interval (multiple of 20 ns or
not): a caller that was refused is admitted by its first call at or after `interval` past the last admission (the one
that filled the window) — so a caller polling every `δ` waits less than `interval + δ`, in particular less than
`interval + resolution` when it polls at least once per tick — whatever else polled the breaker in between. -/
theorem breaker_recovery_bound (limit interval : Nat) (hl : 0 < limit) (hi : breakerTicks ≤ interval)
    (pre : List BEv) (now : Nat) (hmono : (pre.map BEv.time ++ [now]).Pairwise (· ≤ ·))
    (hlast : ∀ t ∈ (OB.init limit interval).admittedEv pre, t + interval ≤ now) :
    (((OB.init limit interval).afterEv pre).call now).2 = true := by
  apply breaker_recovers (OB.init limit interval) rfl (OB.init_ticks_pos _ _) (OB.init_res_pos _ hi) hl pre now
    (pairwise_zero_cons _ hmono)
  intro t ht
  have := hlast t ht
  have := window_le_interval limit interval
  omega

/-- **Graded recovery** (what holds when the window is only partly aged out).  A call is admitted when fewer than
`limit` earlier admissions are younger than their graded window: one window for the newest admission, plus
`res - 1` ns for every admission made after it (each of those re-anchored the clock and lost less than a tick).
`gradedCount W s now 0 l` counts the `t_j` of `l` (newest first, `j = 0, 1, …`) with `now < t_j + W + j·s`. -/
theorem breaker_recovers_graded (b : OB) (hz : b.counts = List.replicate b.ticks 0) (ht : 0 < b.ticks) (hr : 0 < b.res)
    (pre : List BEv) (now : Nat)
    (hmono : (b.updated :: (pre.map BEv.time ++ [now])).Pairwise (· ≤ ·))
    (hfew : gradedCount (b.ticks * b.res) (b.res - 1) now 0 (b.admittedEv pre) < b.limit) :
    ((b.afterEv pre).call now).2 = true := by
  obtain ⟨hL, hr', hu⟩ := run_before_call (ghost0 b) pre now (binv_ghost0 b hr) (linv_ghost0 b) hmono
  have := ghost_graded_total _ now hL hr' hu
  rw [G.run_W, (G.run_fields (ghost0 b) pre).1, ← admittedEv_ghost b hz ht] at this
  rw [call_after_ghost b hz ht, decide_eq_true_eq]
  exact Nat.lt_of_le_of_lt this hfew

/-- the arrival patterns that defeat a `slide` which sets `updated := now` (limit 1 per 200 ns, tick = 10 ns): polled every 3 ns
(faster than a tick) the breaker admits again at 201, the first poll at or after 200; polled every 19 ns (slower than
a tick; 1.9 windows late with such a `slide`) at 209; and `Status` polls in between do not delay the call at 200.  (Like the
other breaker runs below, computed on the ghost, which keeps a list of admissions instead of twenty buckets, and
carried over by the simulation.) -/
theorem breaker_polled_recovers_witnesses :
    (OB.init 1 200).admitted (0 :: pollEvery 0 3 80) = [201, 0] ∧
    (OB.init 1 200).admitted ((List.range 21).map (· * 19)) = [209, 0] ∧
    (OB.init 1 200).admittedEv [.call 0, .status 3, .status 7, .call 150, .status 199, .call 200, .call 201] = [200, 0] := by
  simp only [OB.admitted, init_admittedEv_ghost]
  decide +kernel

/-- **Limit of a bucketed window (design trade-off, not a defect of the repair).**  The rate bound is exact, so the
aging of an older admission is delayed by the admissions made after it: limit 2 per 200 ns, admissions at 0 and 9 —
the call at 200 is refused although only the admission at 9 is younger than 200 ns; it is admitted at 209
(`breaker_recovers_graded` is the general bound, `breaker_recovers` the case where everything has aged out). -/
theorem breaker_exact_recovery_tradeoff_witness : (OB.init 2 200).admitted [0, 9, 200, 209] = [209, 9, 0] := by
  rw [OB.admitted, init_admittedEv_ghost]
  decide +kernel

/-- **Negative witness, rounding.**  When `interval` is not a multiple of 20 ns the window that is enforced is
`20·⌊interval/20⌋`, up to 19 ns shorter than the interval: limit 1 per 39 ns admits calls 20 ns apart. -/
theorem breaker_window_rounding_witness : (OB.init 1 39).admitted [100, 120] = [120, 100] := by
  rw [OB.admitted, init_admittedEv_ghost]
  decide +kernel

/-! ## OutboundBreaker: the interval -/

/-- **`NewOutboundBreaker` / `Adjust` reject an interval below `breakerTicks` nanoseconds** (zero and negative
durations included), for every limit, before they write any field of the breaker. -/
theorem new_breaker_rejects_tiny_interval (limit interval : Int) (h : interval < breakerTicks) :
    OB.initE limit interval = none := by
  simp [OB.initE, initRejects, h]

/-- why: with such an interval `resolution` would be zero and every `Do` would divide by zero -/
theorem breaker_tiny_interval_would_divide_by_zero (limit interval now : Nat) (h : interval < breakerTicks) :
    (OB.init limit interval).callE now = .error .divByZero := by
  have : (OB.init limit interval).res = 0 := Nat.div_eq_of_lt h
  simp [OB.callE, this]

/-- **A breaker that was accepted never panics**: after any calls and polls `Do` neither divides by zero nor indexes
`counts` out of range (its limit is positive, its resolution at least 1 ns). -/
theorem breaker_accepted_never_panics (limit interval : Int) (b : OB) (h : OB.initE limit interval = some b)
    (pre : List BEv) (now : Nat) :
    (b.afterEv pre).callE now = .ok ((b.afterEv pre).call now) ∧ 0 < b.limit ∧ 0 < b.res := by
  obtain ⟨l, i, hl, hi, rfl⟩ := initE_some limit interval b h
  exact ⟨never_panics _ rfl (OB.init_ticks_pos l i) (OB.init_res_pos l hi) pre now, hl, OB.init_res_pos l hi⟩

/-! ## Throttle -/

/-- **Pending bound.**  For any pending limit, any number of submitters (including ones that arrive later), any
interleaving of their critical sections and of `Disable` calls: at most `pendingLimit + 1` submissions are between
the increment and the decrement of `pending`. -/
theorem throttle_pending_bound (pendingLimit : Nat) (disabled : Bool) (n : Nat) (evs : List Thr.Ev) :
    ((Thr.start pendingLimit disabled n).exec evs).waiting ≤ pendingLimit + 1 :=
  (exec_inv _ evs (start_inv pendingLimit disabled n)).bound

/-- `pending` is exactly the number of waiting submitters at every moment, for every interleaving of submitters and of
`Disable(true)` / `Disable(false)` calls -/
theorem throttle_pending_exact (pendingLimit : Nat) (disabled : Bool) (n : Nat) (evs : List Thr.Ev) :
    ((Thr.start pendingLimit disabled n).exec evs).pending = ((Thr.start pendingLimit disabled n).exec evs).waiting :=
  (exec_inv _ evs (start_inv pendingLimit disabled n)).eq

/-- **`pending` returns to zero.**  Whenever every `Submit` that was entered has returned (no submitter is between
the increment and the decrement), `pending = 0` — also after overflowing submissions and across `Disable` toggles; so
a throttle can never get stuck refusing with `ThrottleOverflow`. -/
theorem throttle_pending_returns_to_zero (pendingLimit : Nat) (disabled : Bool) (n : Nat) (evs : List Thr.Ev)
    (hret : ∀ pc ∈ ((Thr.start pendingLimit disabled n).exec evs).pcs, pc ≠ .waiting) :
    ((Thr.start pendingLimit disabled n).exec evs).pending = 0 := by
  rw [throttle_pending_exact]
  exact List.count_eq_zero.mpr (fun hmem => hret _ hmem rfl)

/-- the schedule that leaks when an overflowing `Submit` counts itself (`pendingLimit = 0`, `Disable(true)`, one overlapping pair of submissions, then
`Disable(false)` and a third submitter): the overflowing `Submit` leaves `pending` alone and the late submitter is served -/
theorem throttle_former_leak_schedule :
    let t := (Thr.start 0 true 2).exec [.sub 0, .sub 1, .sub 0, .setDisabled false, .spawn, .sub 2]
    t.waiting = 1 ∧ t.pending = 1 ∧ t.pcs = [.done, .overflow, .waiting] := by
  decide

/-- **At most once.**  With breakers whose `Do` reports `attempted` exactly when it ran the function, one `Submit`
runs the function at most once, and exactly once iff it reports success — for any number of attempts and any
sequence of breaker states. -/
theorem throttle_once (attempts : Nat) (st : List BKind) (hf : ∀ k ∈ st, k.faithful = true) :
    (submitLoop attempts st).1 ≤ 1 ∧ ((submitLoop attempts st).1 = 1 ↔ (submitLoop attempts st).2 = true) := by
  have := submitLoop_go_once attempts 0 st attempts hf
  unfold submitLoop
  rw [this]
  cases (submitLoop.go attempts 0 st attempts).2 <;> simp

/-- `OutboundBreaker.Do` and `ComboBreaker.Do` are such breakers (from the extracted run/return expressions) -/
theorem throttle_once_outbound_combo (c : Bool) :
    (BKind.outbound c).faithful = true ∧ (BKind.combo c).faithful = true ∧ BKind.comboDisabled.faithful = true := by
  cases c <;> decide

/-- `SimpleBreaker.Do` reports `attempted` exactly when it ran the function (`Closed || Disabled`, regenerated from the
source): every breaker kind is faithful, so `throttle_once` applies to every breaker a Throttle can wrap. (A `Do` that
reports `Closed` alone lets a disabled, open SimpleBreaker make one `Submit` run the function once
per attempt.) -/
theorem simple_breaker_faithful (closed disabled : Bool) : (BKind.simple closed disabled).faithful = true := by
  cases closed <;> cases disabled <;> rfl

/-- a disabled, open SimpleBreaker under a Throttle: the function runs once, on the first attempt, and `Submit` reports
that it worked -/
theorem throttle_simple_disabled_runs_once (attempts : Nat) (h : 0 < attempts) :
    submitLoop attempts (List.replicate attempts (.simple false true)) = (1, true) := by
  obtain ⟨m, rfl⟩ : ∃ m, attempts = m + 1 := ⟨attempts - 1, by omega⟩
  rw [submitLoop, List.replicate_succ, submitLoop.go_cons, if_pos (Nat.zero_lt_succ m)]
  rfl

/-! ## Capacity -/

/-- **Sequential capacity.**  For every history of `AddFact` / `AddRule` / removals, a location that starts within
its maximum stays within it. -/
theorem capacity_seq (c : Cap) (ops : List CapOp) (hp : ∀ o ∈ ops, Cap.CapOp.public o = true)
    (h : (c.count : Int) ≤ c.maxFacts) : ((c.exec ops).count : Int) ≤ c.maxFacts := by
  induction ops generalizing c with
  | nil => exact h
  | cons o os ih =>
    have hs := cap_step_le c o (hp o List.mem_cons_self) h
    exact hs.2 ▸ ih (c.step o).1 (fun o' h' => hp o' (List.mem_cons_of_mem _ h')) hs.1

/-- the gate exactly: an add is refused for capacity iff `MaxFacts ≤ Count` — also when it would only overwrite an
existing id — and a refused add leaves the state (hence the storage) untouched -/
theorem capacity_gate (c : Cap) (id v : String) :
    ((c.step (.addFact id v)).2 = .capacity ↔ c.maxFacts ≤ (c.count : Int)) ∧
    ((c.step (.addRule id v)).2 = .capacity ↔ c.maxFacts ≤ (c.count : Int)) := by
  rw [Cap.step_addFact, Cap.step_addRule]
  by_cases hc : c.maxFacts ≤ (c.count : Int) <;> simp [hc]

theorem capacity_refused_noop (c : Cap) (o : CapOp) (h : (c.step o).2 = .capacity) : (c.step o).1 = c := by
  cases o with
  | addFact id v | addRule id v =>
    simp only [Cap.step_addFact, Cap.step_addRule] at h ⊢
    split at h
    · rw [if_pos ‹_›]
    · cases h
  | rem id => simp only [Cap.step] at h; split at h <;> cases h
  | setProp id v => cases h

/-- **Negative witness (outside the add operations).**  Property facts written by `SetProp`, `EnableRule(false)`,
`SetParents` reach `state.Add` without the gate: a full location grows past its maximum. -/
theorem capacity_ungated_witness :
    (({ maxFacts := 1, store := [] } : Cap).exec [.addRule "r" "rule", .setProp "!r.disabled" "true"]).count = 2 := by
  decide

/-- **Capacity under any concurrency** (finding C20-capacity-check-then-add-race: the capacity test
and the addition it admits are one step under `Location.admission`). Any number of adders, each "take the admission lock and test;
add unless full, release"; one step per scheduling decision; a thread that wants the lock while another holds it waits. After EVERY
schedule the location holds at most `MaxFacts` (given that it started within it). -/
theorem capacity_concurrent (maxFacts : Int) (count n : Nat) (h : (count : Int) ≤ maxFacts) (σ : List Nat) :
    ((({ maxFacts := maxFacts, count := count, holder := none, pcs := List.replicate n .start } : CapLocked).exec σ).count : Int) ≤ maxFacts := by
  refine (CapLocked.inv_exec (M := maxFacts) ⟨rfl, h, fun t b ht => ?_⟩ σ).le
  rw [List.getElem?_replicate] at ht
  split at ht <;> cases ht

/-- what the lock is for: with the test and the addition as separate, unlocked steps two adders
that both pass the test exceed the maximum; with the lock the same schedule ends within it -/
theorem capacity_race_witness :
    (({ maxFacts := 1, count := 0, pcs := [.start, .start] } : CapRace).exec [0, 1, 0, 1]).count = 2 ∧
    (({ maxFacts := 1, count := 0, holder := none, pcs := [.start, .start] } : CapLocked).exec [0, 1, 0, 1, 1, 1]).count = 1 := by
  decide

/-! ## the hypotheses are satisfiable by non-trivial instances -/

example : (OB.init 3 1000000000).counts = List.replicate (OB.init 3 1000000000).ticks 0 ∧ 0 < (OB.init 3 1000000000).ticks
    ∧ 0 < (OB.init 3 1000000000).res ∧ 0 < (OB.init 3 1000000000).limit := by decide
example : (OB.init 2 200).admitted [5, 6, 7, 100, 205, 215, 216] = [216, 215, 6, 5] := by
  rw [OB.admitted, init_admittedEv_ghost]
  decide +kernel
-- `breaker_recovers`: polls faster than a tick, the last admission (at 6) is 200 old at 206
example : ((OB.init 2 200).updated :: (([.call 5, .call 6, .call 7, .status 9, .call 100, .status 203] : List BEv).map BEv.time ++ [206])).Pairwise (· ≤ ·)
    ∧ (∀ t ∈ (OB.init 2 200).admittedEv [.call 5, .call 6, .call 7, .status 9, .call 100, .status 203], t + (OB.init 2 200).ticks * (OB.init 2 200).res ≤ 206)
    ∧ (OB.init 2 200).admittedEv [.call 5, .call 6, .call 7, .status 9, .call 100, .status 203] = [6, 5] := by
  simp only [init_admittedEv_ghost]
  decide +kernel
-- `breaker_recovers_graded` with a non-empty window: one of the two slots is free again at 214 = 5 + 200 + 1·9
example : gradedCount 200 9 214 0 ((OB.init 2 200).admittedEv [.call 5, .call 50, .call 60]) = 1 ∧
    (((OB.init 2 200).afterEv [.call 5, .call 50, .call 60]).call 214).2 = true := by
  rw [init_admittedEv_ghost, call_after_ghost _ rfl (OB.init_ticks_pos _ _)]
  decide +kernel
example : OB.initE 3 20 = some (OB.init 3 20) ∧ OB.initE 3 19 = none ∧ OB.initE 3 0 = none ∧ OB.initE 3 (-7) = none
    ∧ OB.initE 0 1000 = none := by decide
example : ((DoSys.start (OB.init 1 200) [2, 1]).exec [(0, 5), (1, 6), (0, 7), (0, 250), (1, 251)]).admitted = [250, 5] := by
  decide +kernel
example : (submitLoop 3 [.outbound false, .outbound true, .outbound true]) = (1, true) := by decide
example : ((Thr.start 1 false 4).exec [.sub 0, .sub 1, .sub 2, .sub 3, .sub 0]).waiting = 1 := by decide
-- `throttle_pending_returns_to_zero`: overflow while disabled, toggles, everybody returned
example : let t := (Thr.start 0 true 3).exec [.sub 0, .sub 1, .setDisabled false, .sub 2, .sub 0, .setDisabled true, .spawn, .sub 3, .sub 3]
    (∀ pc ∈ t.pcs, pc ≠ .waiting) ∧ t.pcs = [.done, .overflow, .overflow, .done] ∧ t.pending = 0 := by decide
example : (({ maxFacts := 2, store := [] } : Cap).exec [.addFact "a" "1", .addFact "b" "2", .addFact "c" "3", .rem "a",
    .addRule "r" "x"]).store = [("b", "2"), ("r", "x")] := by decide
