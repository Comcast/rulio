import RulioProofs.ComposeExamples
import RulioProofs.LocExamples
import RulioProofs.LocState

open LocP

/-! # C10 — rule lifecycle: only live, enabled rules fire

Over the Location model (`locX = guards of "X"; body`), whose guard table is tied to `location.go` by
`guards_match_model` (Props/C19).  The pattern-index side of dispatch (C01) and reload (C06) are proved
elsewhere; here: the `Enabled` gate, the disabled flag as a property fact, removal, re-adding, and the
dispatch specification. -/

/-- **In a disabled location every operation reports "disabled".**  Every method of the model carries the
`Enabled` guard, and it is the first guard everywhere except in `AddFact` (where `CheckWrite` and the capacity
test come first, as in the source).  On a location whose `!enabled` property is none of "", "yes", "true"
each method returns an error and leaves the location unchanged; the error is "disabled" (for `AddFact`:
whenever the write key is right and there is room). -/
theorem disabled_location_reports (l : Loc) (c : Ctx) (now : Int) (hf : GuardFresh l.st now) (hd : Disabled l now) :
    (∀ m ∈ modelMethods, Guard.enabled ∈ guardsOf m) ∧
    (∀ m ∈ modelMethods, m ≠ "AddFact" → runGuards c now (guardsOf m) l = (l, .error "disabled")) ∧
    (∃ e, runGuards c now (guardsOf "AddFact") l = (l, .error e) ∧
      (¬ WriteDenied l c now → l.st.count < l.maxFacts → e = "disabled")) ∧
    (∀ id, locRemFact c id now l = (l, .error "disabled")) ∧
    (∀ id, locGetFact c id now l = (l, .error "disabled")) ∧
    (∀ id r, locAddRule c id r now l = (l, .error "disabled")) ∧
    (∀ id, locRemRule c id now l = (l, .error "disabled")) ∧
    (∀ id b, locEnableRule c id b now l = (l, .error "disabled")) ∧
    (∀ id, locRuleEnabled c id now l = (l, .error "disabled")) ∧
    (∀ id, locGetRule c id now l = (l, .error "disabled")) ∧
    (∀ p, locSearchFacts c p now l = (l, .error "disabled")) ∧
    (∀ ev, locSearchRules c ev now l = (l, .error "disabled")) ∧
    (locGetParents c now l = (l, .error "disabled")) ∧
    (∀ ps, locSetParents c ps now l = (l, .error "disabled")) ∧
    (locClear c now l = (l, .error "disabled")) ∧
    (locStateSize c now l = (l, .error "disabled")) ∧
    (∀ id f, ∃ e, locAddFact c id f now l = (l, .error e)) := by
  have run {α} (m : Meth) (body : LM α) (hm) := guarded_error hf (Meth.verdict_disabled (c := c) hd (m := m) hm) body
  have addFact : ∃ e, guardsVerdict c now l Meth.addFact.guards = .error e ∧
      (¬ WriteDenied l c now → l.st.count < l.maxFacts → e = "disabled") := by
    have hv := LocP.verdict_disabled (c := c) hd
    by_cases hw : WriteDenied l c now
    · obtain ⟨e, he⟩ := verdict_writeDenied hw
      exact ⟨e, guardsVerdict_head he, fun h => absurd hw h⟩
    · by_cases hc : l.maxFacts ≤ l.st.count
      · refine ⟨"capacity", ?_, fun _ h => absurd hc (Nat.not_le.2 h)⟩
        simp [Meth.guards, guardsVerdict, verdict_writeOK hw, verdict_capacity, hc]
      · refine ⟨"disabled", ?_, fun _ _ => rfl⟩
        simp [Meth.guards, guardsVerdict, verdict_writeOK hw, verdict_capacity, hc, hv]
  simp only [Meth.names, List.forall_mem_map]
  refine ⟨fun m _ => m.guardsOf_name ▸ m.enabled_mem,
    fun m _ hne => by rw [runGuards_name hf, Meth.verdict_disabled hd fun h => hne (congrArg Meth.name h)], ?_,
    fun _ => run .remFact _ nofun, fun _ => run .getFact _ nofun, fun _ _ => run .addRule _ nofun,
    fun _ => run .remRule _ nofun, fun _ _ => run .enableRule _ nofun, fun _ => run .ruleEnabled _ nofun,
    fun _ => run .getRule _ nofun, fun _ => run .searchFacts _ nofun, fun _ => run .searchRules _ nofun,
    run .getParents _ nofun, fun _ => run .setParents _ nofun, run .clear _ nofun,
    run .stateSize _ nofun, fun id f => ?_⟩
  · obtain ⟨e, he, h2⟩ := addFact
    exact ⟨e, (runGuards_name hf .addFact).trans (congrArg _ he), h2⟩
  · obtain ⟨e, he, _⟩ := addFact
    exact ⟨e, guarded_error hf he _⟩

/-- **The disabled flag is a property fact.**  A successful `EnableRule id false` stores exactly
`{id, !disabled: true, deleteWith: [id]}` under `!id.disabled` in memory and storage (every entry under that id);
a successful `EnableRule id true` leaves no fact under `!id.disabled`; `RuleEnabled` reads that fact: it
answers the negation of `ruleDisabled` (the predicate the dispatch specification filters with). -/
theorem flag_is_property_fact (c : Ctx) (id : String) (now : Int) (l l' : Loc) :
    (locEnableRule c id false now l = (l', .ok ()) →
      amGet l'.st.facts (genPropId id "disabled") = some (flagFact id) ∧
      amGet l'.st.store (genPropId id "disabled") = some (.obj (flagFact id)) ∧
      (∀ p ∈ l'.st.facts, p.1 = genPropId id "disabled" → p.2 = flagFact id) ∧
      ruleDisabled l'.st.facts id now = true) ∧
    (locEnableRule c id true now l = (l', .ok ()) →
      amGet l'.st.facts (genPropId id "disabled") = none ∧ ruleDisabled l'.st.facts id now = false) ∧
    (GuardFresh l.st now → FreshAt l.st (genPropId id "disabled") now →
      ∀ b, locRuleEnabled c id now l = (l', .ok b) → l' = l ∧ b = !ruleDisabled l.st.facts id now) := by
  refine ⟨fun h => ?_, fun h => ?_, fun hf hfl b h => ?_⟩
  · obtain ⟨l1, _, _, hb⟩ := LM.bind_eq_ok (show guarded c now .enableRule (Body.enableRule id false now) l = _ from h)
    obtain ⟨l2, r, hs, hp⟩ := LM.bind_eq_ok (show (setProp id "disabled" (.bool true) now >>= fun _ => pure ()) l1 = _ from hb)
    obtain rfl : l2 = l' := congrArg Prod.fst hp
    obtain ⟨_, hfacts, hstore⟩ := setProp_disabled_ok hs
    have hget : amGet l2.st.facts (genPropId id "disabled") = some (flagFact id) := by
      rw [hfacts, AM.amGet_amSet_self]
    refine ⟨hget, by rw [hstore, AM.amGet_amSet_self], fun p hp hk => ?_, ?_⟩
    · rw [hfacts] at hp; exact AM.amSet_entries _ _ _ p hp hk
    · exact ruleDisabled_of_flag hget now
  · obtain ⟨l1, _, _, hb⟩ := LM.bind_eq_ok (show guarded c now .enableRule (Body.enableRule id true now) l = _ from h)
    obtain ⟨l2, r, hs, hp⟩ := LM.bind_eq_ok (show (remProp id "disabled" now >>= fun _ => pure ()) l1 = _ from hb)
    obtain rfl : l2 = l' := congrArg Prod.fst hp
    obtain ⟨_, _, habs⟩ := stRem_ok (show stRem (genPropId id "disabled") now l1 = (l2, .ok r) from hs)
    exact ⟨habs, by simp [ruleDisabled, habs]⟩
  · obtain ⟨r, hr, hb⟩ := ruleEnabled_body (id := id) hfl
    have h := hr.symm.trans (guarded_ok hf (m := .ruleEnabled) h)
    simp only [Prod.mk.injEq] at h
    exact ⟨h.1.symm, hb b h.2⟩

/-- **The flag disappears with the rule.**  After a successful `RemRule id` neither the rule nor the flag
`!id.disabled` is in memory, and if the flag was stored it is gone from storage too.  (`RemRule` removes the
flag explicitly; the flag also names `id` in `deleteWith`, see `flagFact`.)  `FreshAt`: the flag fact is not
expired — flags are written without an expiry. -/
theorem flag_dies_with_rule (c : Ctx) (id : String) (now : Int) (l l' : Loc) (r : String)
    (hf : GuardFresh l.st now) (hfl : FreshAt l.st (genPropId id "disabled") now)
    (h : locRemRule c id now l = (l', .ok r)) :
    amGet l'.st.facts (genPropId id "disabled") = none ∧ amGet l'.st.facts id = none ∧
    (amGet l.st.facts (genPropId id "disabled") ≠ none → amGet l'.st.store (genPropId id "disabled") = none) ∧
    ruleDisabled l'.st.facts id now = false ∧
    deleteWithOf (flagFact id) = [id] := by
  obtain ⟨h1, h2, hk⟩ := remRule_body_ok hfl (guarded_ok hf (m := .remRule) h)
  refine ⟨h1, h2, fun hne => ?_, by simp [ruleDisabled, h1], by simp [deleteWithOf, flagFact, Obj.get?, lookupKey]⟩
  cases hg : amGet l.st.facts (genPropId id "disabled") with
  | none => exact absurd hg hne
  | some f => exact hk.store_gone hg h1

/-- **Re-adding under the same id replaces the old rule entirely.**  Whatever `AddRule id r1` left behind, a
successful `AddRule id r2` leaves, under the returned id (= `id` unless empty), the prepared wrapper of `r2` and
nothing else: it is what memory and storage answer, and every entry under that id equals it. -/
theorem readd_replaces (c : Ctx) (id : String) (r1 r2 : Obj) (t1 t2 : Int) (l0 l2 : Loc) (id2 : String)
    (h : locAddRule c id r2 t2 (locAddRule c id r1 t1 l0).1 = (l2, .ok id2)) :
    (id ≠ "" → id2 = id) ∧
    ∃ w m x' fresh, ruleWrapper r2 t2 = .ok w ∧ prepareFact id fresh w t2 = .ok (id2, m, x') ∧
      amGet l2.st.facts id2 = some (storedForm l2.st.kind m) ∧
      amGet l2.st.store id2 = some (.obj (storedForm l2.st.kind m)) ∧
      (∀ p ∈ l2.st.facts, p.1 = id2 → p.2 = storedForm l2.st.kind m) ∧
      (∀ p ∈ l2.st.store, p.1 = id2 → p.2 = .obj (storedForm l2.st.kind m)) := by
  obtain ⟨l1, _, _, hb⟩ := LM.bind_eq_ok (show guarded c t2 .addRule (Body.addRule id r2 t2) _ = _ from h)
  obtain ⟨w, m, x', hw, hp, hfacts, hstore, hid, hkind⟩ := addRule_body_ok hb
  simp only [storedForm_eq_memForm, hkind]
  refine ⟨hid, w, m, x', l1.st.freshId, hw, hp, by rw [hfacts, AM.amGet_amSet_self], by rw [hstore, AM.amGet_amSet_self],
    fun p hp' hk => ?_, fun p hp' hk => ?_⟩
  · rw [hfacts] at hp'; exact AM.amSet_entries _ _ _ p hp' hk
  · rw [hstore] at hp'; exact AM.amSet_entries _ _ _ p hp' hk

/-- **Only live, enabled rules fire** (specification side; the index side is C01's).  The dispatch specification
for a location's own rules contains exactly the stored, unexpired, non-scheduled rules whose `when` matches the
event, with the matcher's bindings: a rule that was removed (`amGet facts id = none`), has expired, or is
scheduled is not dispatched; and the filter applied on top is exactly `ruleDisabled`, which is what
`RuleEnabled` answers (`flag_is_property_fact`).
That the rules an `event` op evaluates after any history of add / overwrite / remove / disable / enable equal this
filtered specification is `fires_iff_live_enabled` below. -/
theorem fires_iff_live_enabled_partial (facts : List (String × Obj)) (ev : Obj) (now : Int)
    (out : List (String × List Bs)) (h : specDispatchLocal facts ev now = .ok out) :
    (∀ id bss, (id, bss) ∈ out ↔ ∃ f pat, (id, f) ∈ facts ∧ unexpired f now = true ∧ whenOf f = some pat ∧
        matchesJ (.obj pat) (.obj ev) = .ok bss ∧ bss ≠ []) ∧
    (∀ id bss, (id, bss) ∈ out.filter (fun r => !ruleDisabled facts r.1 now) ↔
        (id, bss) ∈ out ∧ ruleDisabled facts id now = false) ∧
    (∀ id bss, (∀ f, (id, f) ∉ facts) → (id, bss) ∉ out) ∧
    (∀ id, ruleDisabled facts id now = true → ∀ bss, (id, bss) ∉ out.filter (fun r => !ruleDisabled facts r.1 now)) := by
  refine ⟨specDispatchLocal_mem h, fun id bss => by simp [List.mem_filter], fun id bss hno hmem => ?_,
    fun id hd bss hmem => ?_⟩
  · obtain ⟨f, _, hf, _⟩ := (specDispatchLocal_mem h id bss).1 hmem
    exact hno f hf
  · have := (List.mem_filter.1 hmem).2
    simp [hd] at this

/-! ## the hypotheses are satisfiable -/

example : Disabled c10Example 7 ∧ GuardFresh c10Example.st 7 := ⟨c10Example_facts.1, guardFresh_of_b c10Example_facts.2.1⟩
example : locGetFact {} "r1" 7 c10Example = (c10Example, .error "disabled") :=
  (disabled_location_reports c10Example {} 7 (guardFresh_of_b c10Example_facts.2.1) c10Example_facts.1).2.2.2.2.1 "r1"
/-- the flag is read by `ruleDisabled`; the rule is live (stored, unexpired, with a `when`) but filtered -/
example : ruleDisabled c10Example.st.facts "r1" 7 = true ∧ ruleDisabled c10Example.st.facts "r2" 7 = false ∧
    FreshAt c10Example.st (genPropId "r1" "disabled") 7 :=
  ⟨c10Example_facts.2.2.1.1, c10Example_facts.2.2.1.2, freshAt_of_b c10Example_facts.2.2.2⟩
example : whenOf [("rule", .obj [("when", .obj [("pattern", .obj [("wants", .str "?x")])]),
                                 ("action", .obj [("code", .str "1")])])] = some [("wants", .str "?x")] := by rfl

/-! ## the lifecycle clause over all histories (composition with C01 / C05)

`fires_iff_live_enabled_partial` above is about the specification only.  Here the specification is tied to what an
`event` op does (`locProcessEvent`: `searchRules` → `RuleEnabled` per candidate → `processEvent`, the steps of the
driver's `event` case; one location, no parents) after **any history of Location operations** (`LocOp`: `AddRule` — also
under an id in use, i.e. replace —, `RemRule`, `EnableRule`, `AddFact` — also under the id of a rule —, `RemFact`,
`GetFact`, `SearchFacts`, `SearchRules`, `Clear`; whatever they answer), for both state kinds.  Well-formedness and
reachability of the state are derived from the history (`stGood_history`).  Hypotheses that remain
(see `dispatch_exact_local`, Props/C01): nothing stored is expired at the time of the event (`NoneExpired`; expiry
itself is C07's), stored rule bodies have the documented shape (`RuleShapes`), for the indexed kind the stored `when`
patterns and the event are in the fragments, and the event's work tree carries no error (`dispatch_no_error` says when).
Lemmas: `RulioProofs/Compose*.lean`. -/

/-- **`fires_iff_live_enabled`.**  After any history of Location operations on a fresh location of either kind, for
an event whose work tree carries no error: the location is unchanged by the event, every rule node `(id, bindings)`
of the tree is *live and enabled* (`LiveEnabled`: `id` is currently stored as a non-scheduled rule, unexpired, its
current `when` matches the event with exactly these bindings, and `ruleDisabled` is false for it — which is what
`RuleEnabled` answers, `flag_is_property_fact`), and if the walk was not aborted the rule nodes are **exactly** the
live and enabled rules.  A removed, replaced, overwritten or disabled rule never fires on the strength of what it
was before; a live, enabled, matching rule always does. -/
theorem fires_iff_live_enabled (srch : Srch) (name : String) (k : Kind) (ops : List LocOp) (c : Ctx) (ev : Obj)
    (now : Int) (l l' : Loc) (t : Tree) (hl : l = (Loc.fresh name k).run ops)
    (hne : _root_.NoneExpired l.st now) (hshape : RuleShapes l.st)
    (hfrag : l.st.kind = .indexed → WhenFrag l.st ∧ EvOK ev = true ∧ dataOK (.obj ev) = true)
    (hrun : locProcessEvent srch c ev now l = (l', t)) (herr : t.err = none) :
    l' = l ∧
    (∀ id bss, (id, bss) ∈ t.fired → LiveEnabled l.st.facts ev now id bss) ∧
    (t.aborted = false → ∀ id bss, (id, bss) ∈ t.fired ↔ LiveEnabled l.st.facts ev now id bss) := by
  have hgood : StGood l.st := hl ▸ stGood_history name k ops
  obtain ⟨h1, out, hout, _, hsub, hperm⟩ := locProcessEvent_exact srch hgood.1.keys hne hshape
    (fun hk => ⟨hgood.2 hk, hfrag hk⟩) hrun herr
  refine ⟨h1, fun id bss hmem => (specFires_mem hout id bss).1 (hsub _ hmem), fun hab id bss => ?_⟩
  rw [← specFires_mem hout id bss]
  exact (hperm hab).mem_iff

/-- **removed, overwritten and disabled rules never fire** (no assumption on how the walk ended): after any
history, an id under which no fact is stored, an id whose stored fact is not a non-scheduled rule, and an id whose
disabled flag is set have no rule node. -/
theorem dead_rules_never_fire (srch : Srch) (name : String) (k : Kind) (ops : List LocOp) (c : Ctx) (ev : Obj)
    (now : Int) (l l' : Loc) (t : Tree) (hl : l = (Loc.fresh name k).run ops)
    (hne : _root_.NoneExpired l.st now) (hshape : RuleShapes l.st)
    (hfrag : l.st.kind = .indexed → WhenFrag l.st ∧ EvOK ev = true ∧ dataOK (.obj ev) = true)
    (hrun : locProcessEvent srch c ev now l = (l', t)) (herr : t.err = none) (id : String) :
    (amGet l.st.facts id = none → ∀ bss, (id, bss) ∉ t.fired) ∧
    ((∀ f, (id, f) ∈ l.st.facts → whenOf f = none) → ∀ bss, (id, bss) ∉ t.fired) ∧
    (ruleDisabled l.st.facts id now = true → ∀ bss, (id, bss) ∉ t.fired) := by
  obtain ⟨_, hlive, _⟩ := fires_iff_live_enabled srch name k ops c ev now l l' t hl hne hshape hfrag hrun herr
  refine ⟨fun hnone bss hmem => ?_, fun hnr bss hmem => ?_, fun hdis bss hmem => ?_⟩
  · obtain ⟨f, _, hf, _⟩ := hlive id bss hmem
    exact not_stored_of_amGet_none hnone f hf
  · obtain ⟨f, p, hf, hw, _⟩ := hlive id bss hmem
    rw [hnr f hf] at hw; cases hw
  · obtain ⟨_, _, _, _, _, _, _, hen⟩ := hlive id bss hmem
    rw [hdis] at hen; cases hen

/-- **disable suppresses, remove removes** — the two lifecycle operations composed with the event: if the history
ends with a successful `EnableRule id false`, or with a successful `RemRule id` (flag unexpired, as flags always
are), then `id` has no rule node in any later error-free event on that state, at any time, whatever `id`'s rule
matches.  (`flag_is_property_fact`, `flag_dies_with_rule` give the state after the operation; the flag fact carries
no expiry, so it disables at every later time.) -/
theorem disable_and_remove_suppress (srch : Srch) (name : String) (k : Kind) (ops : List LocOp) (c c' : Ctx)
    (ev : Obj) (t1 now : Int) (id : String) (l0 l l' : Loc) (t : Tree) (hl0 : l0 = (Loc.fresh name k).run ops)
    (hop : locEnableRule c' id false t1 l0 = (l, .ok ()) ∨
      (∃ r, locRemRule c' id t1 l0 = (l, .ok r) ∧ GuardFresh l0.st t1 ∧ FreshAt l0.st (genPropId id "disabled") t1))
    (hne : _root_.NoneExpired l.st now) (hshape : RuleShapes l.st)
    (hfrag : l.st.kind = .indexed → WhenFrag l.st ∧ EvOK ev = true ∧ dataOK (.obj ev) = true)
    (hrun : locProcessEvent srch c ev now l = (l', t)) (herr : t.err = none) :
    ∀ bss, (id, bss) ∉ t.fired := by
  rcases hop with hop | ⟨r, hop, hgf, hfl⟩
  · have hl : l = (Loc.fresh name k).run (ops ++ [LocOp.enableRule c' id false t1]) := by
      rw [Loc.run_snoc, ← hl0, LocOp.step, hop]
    have hflag := ((flag_is_property_fact c' id t1 l0 l).1 hop).1
    exact (dead_rules_never_fire srch name k _ c ev now l l' t hl hne hshape hfrag hrun herr id).2.2
      (ruleDisabled_of_flag hflag now)
  · have hl : l = (Loc.fresh name k).run (ops ++ [LocOp.remRule c' id t1]) := by
      rw [Loc.run_snoc, ← hl0, LocOp.step, hop]
    have hgone := (flag_dies_with_rule c' id t1 l0 l r hgf hfl hop).2.1
    exact (dead_rules_never_fire srch name k _ c ev now l l' t hl hne hshape hfrag hrun herr id).1 hgone

/-- **… until it is enabled again.**  If the history ends with a successful `EnableRule id true`, the flag is gone
(at every later time), so in a later error-free, non-aborted event `id` fires iff it is stored as a non-scheduled,
unexpired rule whose current `when` matches — the disabled clause has dropped out. -/
theorem enable_restores (srch : Srch) (name : String) (k : Kind) (ops : List LocOp) (c c' : Ctx)
    (ev : Obj) (t1 now : Int) (id : String) (l0 l l' : Loc) (t : Tree) (hl0 : l0 = (Loc.fresh name k).run ops)
    (hop : locEnableRule c' id true t1 l0 = (l, .ok ()))
    (hne : _root_.NoneExpired l.st now) (hshape : RuleShapes l.st)
    (hfrag : l.st.kind = .indexed → WhenFrag l.st ∧ EvOK ev = true ∧ dataOK (.obj ev) = true)
    (hrun : locProcessEvent srch c ev now l = (l', t)) (herr : t.err = none) (hab : t.aborted = false) :
    ∀ bss, (id, bss) ∈ t.fired ↔
      ∃ f p, (id, f) ∈ l.st.facts ∧ whenOf f = some p ∧ unexpired f now = true ∧
        matchesJ (.obj p) (.obj ev) = .ok bss ∧ bss ≠ [] := by
  have hl : l = (Loc.fresh name k).run (ops ++ [LocOp.enableRule c' id true t1]) := by
    rw [Loc.run_snoc, ← hl0, LocOp.step, hop]
  have hnone := ((flag_is_property_fact c' id t1 l0 l).2.1 hop).1
  have hen : ruleDisabled l.st.facts id now = false := by simp [ruleDisabled, hnone]
  obtain ⟨_, _, hiff⟩ := fires_iff_live_enabled srch name k _ c ev now l l' t hl hne hshape hfrag hrun herr
  intro bss
  rw [hiff hab id bss]
  unfold LiveEnabled
  constructor
  · rintro ⟨f, p, h1, h2, h3, h4, h5, _⟩; exact ⟨f, p, h1, h2, h3, h4, h5⟩
  · rintro ⟨f, p, h1, h2, h3, h4, h5⟩; exact ⟨f, p, h1, h2, h3, h4, h5, hen⟩

/-- non-vacuity: on the history `ComposeEx.cxLoc k` (either kind: `r1` replaced, `r2` disabled, `r3` overwritten by a
plain fact) all hypotheses of `fires_iff_live_enabled` hold for the event `{"wants":"tacos","likes":["chips","tacos"]}`
at time 7 and the event reports no error (`dispatch_no_error`); hence `r2` (disabled although its `when` matches) and
`r3` (no longer a rule) have no rule node -/
example (k : Kind) (srch : Srch) :
    (locProcessEvent srch {} ComposeEx.cxEv 7 (ComposeEx.cxLoc k)).2.err = none ∧
    (∀ bss, ("r2", bss) ∉ (locProcessEvent srch {} ComposeEx.cxEv 7 (ComposeEx.cxLoc k)).2.fired) ∧
    (∀ bss, ("r3", bss) ∉ (locProcessEvent srch {} ComposeEx.cxEv 7 (ComposeEx.cxLoc k)).2.fired) := by
  have h1 := locProcessEvent_no_error srch (c := {}) (ev := ComposeEx.cxEv) (now := 7) (l := ComposeEx.cxLoc k)
    (ComposeEx.cx_good k).1.keys (ComposeEx.cx_noneExpired k) (ComposeEx.cx_shapes k) (ComposeEx.cx_idx k)
    (ComposeEx.cx_valid k) (ComposeEx.cx_maps k) (ComposeEx.cx_guards k) (fun _ => ComposeEx.cx_spec k)
  generalize hrun : locProcessEvent srch {} ComposeEx.cxEv 7 (ComposeEx.cxLoc k) = res at h1 ⊢
  obtain ⟨l', t⟩ := res
  have hd := dead_rules_never_fire srch "home" k ComposeEx.cxOps {} ComposeEx.cxEv 7 (ComposeEx.cxLoc k) l' t rfl
    (ComposeEx.cx_noneExpired k) (ComposeEx.cx_shapes k)
    (fun hk => ⟨ComposeEx.cx_whenFrag k, ComposeEx.cx_ev.1, ComposeEx.cx_ev.2⟩) hrun h1.2
  exact ⟨h1.2, (hd "r2").2.2 (ComposeEx.cx_disabled k).1, (hd "r3").2.1 (ComposeEx.cx_r3 k)⟩
