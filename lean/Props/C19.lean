import RulioModel.Gen.Loc
import RulioProofs.LocExamples

open LocP

/-! # C19 — access controls and enablement are enforced on every path

`Gen.*` is regenerated from `core/location.go`, `core/state.go`, `core/events.go` before this file is built.
The model's methods are `locX = guards of "X"; body of X` (`guardsOf`, RulioModel/Loc.lean). -/

/-- The guard table regenerated from `location.go` (calls of `Enabled` / `CheckRead` / `CheckWrite` /
`AtCapacity` at the top of each method, in source order), restricted to the methods of the model, is the
table `guardsOf` the model runs.  Removing or reordering a guard in `location.go` breaks this theorem. -/
theorem guards_match_model : guardsAgree Gen.locationGuards = true := by decide +kernel

/-- The comparisons translated from the Go source are the ones the model uses: `notAfter`
(`secs == 0 ⇒ false`, else `secs <= now`), `AtCapacity` (`MaxFacts <= Count`), `Enabled` (property and accepted
values), `CheckWrite` / `CheckRead` (read-only test first / property / key test against the caller's key),
`IdProperty`, `genPropId`; likewise the twins (`enabledOK`, `keyOK`, `capFull`, property names) that
`guardVerdict` — the closed form of the guards used by the theorems below — is written with.  A flipped operator or a changed literal in Go breaks this theorem. -/
theorem gen_defs_match_model :
    (∀ secs now : Int, notAfter secs now = Gen.notAfter secs now) ∧
    (∀ secs now : Int, secs ≠ 0 → notAfter secs now = Gen.notAfterCmp secs now) ∧
    (∀ now : Int, notAfter 0 now = false) ∧
    (∀ l : Loc, atCapacity l =
        (l, if Gen.atCapacityCmp l.maxFacts l.st.count then .error "capacity" else .ok ())) ∧
    (∀ now : Int, enabled now =
        (getPropStringD Gen.enabledProp now >>= fun e => if Gen.enabledOK e then pure () else LM.fail "disabled")) ∧
    (∀ e : String, Gen.enabledOK e = Gen.enabledValues.contains e) ∧
    (∀ (c : Ctx) (now : Int), checkWrite c now =
        (LM.get >>= fun l => if l.readOnly then LM.fail "readOnly" else
          getPropStringD Gen.checkWriteProp now >>= fun k =>
            if Gen.checkWriteKeyOK c.wk k then pure () else LM.fail "writeDenied")) ∧
    Gen.checkWriteReadOnlyFirst = true ∧ Gen.checkWriteCtxField = "WriteKey" ∧
    (∀ (c : Ctx) (now : Int), checkRead c now =
        (getPropStringD Gen.checkReadProp now >>= fun k =>
          if Gen.checkReadKeyOK c.rk k then pure () else LM.fail "readDenied")) ∧
    Gen.checkReadReadOnlyFirst = false ∧ Gen.checkReadCtxField = "ReadKey" ∧
    (∀ p : String, idProperty p = Gen.idProperty p) ∧
    (∀ id prop : String, genPropId id prop = Gen.genPropId id prop) ∧
    (enabledOK = Gen.enabledOK ∧ keyOK = Gen.checkWriteKeyOK ∧ keyOK = Gen.checkReadKeyOK ∧
      capFull = Gen.atCapacityCmp ∧ propEnabled = Gen.enabledProp ∧ propWriteKey = Gen.checkWriteProp ∧
      propReadKey = Gen.checkReadProp) := by
  refine ⟨fun _ _ => rfl, ?_, ?_, ?_, fun _ => rfl, ?_, fun _ _ => rfl, rfl, rfl, fun _ _ => rfl, rfl, rfl,
    fun _ => rfl, fun _ _ => rfl, rfl, rfl, rfl, rfl, rfl, rfl, rfl⟩
  · intro secs now h
    simp [notAfter, Gen.notAfterCmp, h]
  · intro now; simp [notAfter]
  · intro l
    simp only [atCapacity, bind, LM.bind, LM.get, Gen.atCapacityCmp]
    by_cases h : l.maxFacts ≤ l.st.count <;> simp [h, LM.fail, pure, LM.pure]
  · intro e
    simp only [Gen.enabledOK, Gen.enabledValues, List.contains, List.elem]
    cases (e == "") <;> cases (e == "yes") <;> cases (e == "true") <;> rfl

/-- Every mutating method is guarded by both `Enabled` and `CheckWrite`; every revealing method by both
`Enabled` and `CheckRead` (read off the model's table, which `guards_match_model` ties to the source). -/
theorem every_path_is_guarded :
    (∀ m ∈ mutatingMethods, Guard.enabled ∈ guardsOf m ∧ Guard.checkWrite ∈ guardsOf m) ∧
    (∀ m ∈ revealingMethods, Guard.enabled ∈ guardsOf m ∧ Guard.checkRead ∈ guardsOf m) ∧
    (∀ m ∈ mutatingMethods ++ revealingMethods, m ∈ modelMethods) := by
  -- the three lists name methods of the enumeration, whose table is the model's: decided on constructors
  have hm : mutatingMethods = ([.addFact, .remFact, .addRule, .remRule, .enableRule, .setParents, .clear, .delete] :
      List Meth).map Meth.name := rfl
  have hr : revealingMethods = ([.getFact, .getRule, .ruleEnabled, .searchFacts, .searchRules, .sysSearchRules, .listRules,
      .getParents, .stateSize] : List Meth).map Meth.name := rfl
  rw [hm, hr, Meth.names, ← List.map_append]
  simp only [List.forall_mem_map, Meth.guardsOf_name]
  exact ⟨by decide, by decide, fun m _ => List.mem_map_of_mem (Meth.forall_of_all (fun _ h => h) m)⟩

/-- Generic form of a refusal: when some guard of the list refuses, the guarded method returns an error and
the location (facts, storage, everything) is exactly what it was.  `GuardFresh`: the property facts
`!.enabled`, `!.writeKey`, `!.readKey` are not expired at `now` (reading an expired one purges it; that is the
only way a guard changes the state). -/
theorem guard_fail_noop {α} (c : Ctx) (now : Int) (gs : List Guard) (body : LM α) (l : Loc)
    (hf : GuardFresh l.st now) (g : Guard) (hg : g ∈ gs) (e : LErr) (he : guardVerdict c now l g = .error e) :
    runGuard c now g l = (l, .error e) ∧
    ∃ e', (runGuards c now gs >>= fun _ => body) l = (l, .error e') := by
  refine ⟨by rw [runGuard_eq hf c g, he], ?_⟩
  obtain ⟨e', he'⟩ := guardsVerdict_error_of_mem (gs := gs) hg he
  exact ⟨e', by rw [guarded_eq hf c gs body, he']⟩

/-- **Refused writes are no-ops.** On a location that is read-only, or has a `!writeKey` the caller does not
present, or is disabled, each of the seven mutating methods that have a body in the model (all of `mutatingMethods`
but `Delete`, of which only the guard list is modelled) returns an error and leaves the location — its facts and its
storage included — unchanged. -/
theorem refused_is_noop (l : Loc) (c : Ctx) (now : Int) (hf : GuardFresh l.st now)
    (hr : WriteDenied l c now ∨ Disabled l now) :
    (∀ id f, ∃ e, locAddFact c id f now l = (l, .error e)) ∧
    (∀ id, ∃ e, locRemFact c id now l = (l, .error e)) ∧
    (∀ id r, ∃ e, locAddRule c id r now l = (l, .error e)) ∧
    (∀ id, ∃ e, locRemRule c id now l = (l, .error e)) ∧
    (∀ id b, ∃ e, locEnableRule c id b now l = (l, .error e)) ∧
    (∀ ps, ∃ e, locSetParents c ps now l = (l, .error e)) ∧
    (∃ e, locClear c now l = (l, .error e)) :=
  have run {α} (m : Meth) (body : LM α) (hm) : ∃ e, guarded c now m body l = (l, .error e) :=
    (Meth.verdict_refused hr hm).imp fun _ he => guarded_error hf he body
  ⟨fun _ _ => run .addFact _ (by decide), fun _ => run .remFact _ (by decide), fun _ _ => run .addRule _ (by decide),
    fun _ => run .remRule _ (by decide), fun _ _ => run .enableRule _ (by decide), fun _ => run .setParents _ (by decide),
    run .clear _ (by decide)⟩

/-- The same, spelled out on facts and storage. -/
theorem refused_leaves_facts_and_store (l : Loc) (c : Ctx) (now : Int) (hf : GuardFresh l.st now)
    (hr : WriteDenied l c now ∨ Disabled l now) (id : String) (f : Obj) :
    (∃ e, (locAddFact c id f now l).2 = .error e) ∧
    (locAddFact c id f now l).1.st.facts = l.st.facts ∧ (locAddFact c id f now l).1.st.store = l.st.store ∧
    (∃ e, (locRemFact c id now l).2 = .error e) ∧
    (locRemFact c id now l).1.st.facts = l.st.facts ∧ (locRemFact c id now l).1.st.store = l.st.store := by
  obtain ⟨⟨e1, h1⟩, ⟨e2, h2⟩⟩ := And.intro ((refused_is_noop l c now hf hr).1 id f) ((refused_is_noop l c now hf hr).2.1 id)
  rw [h1, h2]; exact ⟨⟨e1, rfl⟩, rfl, rfl, ⟨e2, rfl⟩, rfl, rfl⟩

/-- **Reads need the read key.** On a location with a `!readKey` the caller does not present, the revealing
methods (the location's own seven and `ListRules` of the system; the system's `SearchRules` is not among the
conjuncts) fail and leave the location unchanged; the error is "readDenied" unless the location is
also disabled (then "disabled", the `Enabled` guard comes first). -/
theorem reads_need_read_key (l : Loc) (c : Ctx) (now : Int) (hf : GuardFresh l.st now)
    (hr : ReadDenied l c now) :
    let e := if Disabled l now then "disabled" else "readDenied"
    (∀ id, locGetFact c id now l = (l, .error e)) ∧
    (∀ p, locSearchFacts c p now l = (l, .error e)) ∧
    (∀ ev, locSearchRules c ev now l = (l, .error e)) ∧
    (∀ id, locGetRule c id now l = (l, .error e)) ∧
    (locGetParents c now l = (l, .error e)) ∧
    (∀ id, locRuleEnabled c id now l = (l, .error e)) ∧
    (locStateSize c now l = (l, .error e)) ∧
    (∀ (sys : Sys) (n : String) (inh : Bool), sys.get? n = some l →
      sysListRules sys c n inh now = (sys.put l, .error e)) := by
  have run {α} (m : Meth) (body : LM α) (hm) := guarded_error hf (Meth.verdict_readDenied hr (m := m) hm) body
  refine ⟨fun _ => run .getFact _ rfl, fun _ => run .searchFacts _ rfl, fun _ => run .searchRules _ rfl,
    fun _ => run .getRule _ rfl, run .getParents _ rfl, fun _ => run .ruleEnabled _ rfl, run .stateSize _ rfl,
    fun sys n inh hn => ?_⟩
  have hg := (runGuards_name hf .listRules).trans (congrArg _ (Meth.verdict_readDenied hr rfl))
  simp only [sysListRules, Sys.at, hn, show guardsOf "ListRules" = guardsOf Meth.listRules.name from rfl, hg]

/-- **With the right keys the guards are transparent.** On an enabled location, for a caller who presents
the write key and the read key (or none is set; not read-only), the guards of every method let the call
through without changing the location — only the capacity test of `AddFact` / `AddRule` can still refuse —
so every method behaves as its unguarded body, as on an unprotected location. -/
theorem right_key_transparent (l : Loc) (c : Ctx) (now : Int) (hf : GuardFresh l.st now)
    (he : ¬ Disabled l now) (hw : ¬ WriteDenied l c now) (hr : ¬ ReadDenied l c now) :
    (∀ m, runGuards c now (guardsOf m) l = (l, capacityResult l (guardsOf m))) ∧
    (∀ id f, l.st.count < l.maxFacts → locAddFact c id f now l = Body.addFact id f now l) ∧
    (∀ id r, l.st.count < l.maxFacts → locAddRule c id r now l = Body.addRule id r now l) ∧
    (∀ id, locRemFact c id now l = Body.remFact id now l) ∧
    (∀ id, locGetFact c id now l = Body.getFact id now l) ∧
    (∀ id, locRemRule c id now l = Body.remRule id now l) ∧
    (∀ id b, locEnableRule c id b now l = Body.enableRule id b now l) ∧
    (∀ id, locRuleEnabled c id now l = Body.ruleEnabled id now l) ∧
    (∀ id, locGetRule c id now l = Body.getRule id now l) ∧
    (∀ p, locSearchFacts c p now l = Body.searchFacts p now l) ∧
    (∀ ev, locSearchRules c ev now l = Body.searchRules ev now l) ∧
    (locGetParents c now l = Body.getParents now l) ∧
    (∀ ps, locSetParents c ps now l = Body.setParents ps now l) ∧
    (locClear c now l = Body.clear l) ∧
    (locStateSize c now l = Body.stateSize l) :=
  have run {α} (m : Meth) (body : LM α) (hc) := guarded_transparent hf he hw hr m body hc
  ⟨fun m => by rw [runGuards_eq hf c, guardsVerdict_transparent he hw hr],
    fun _ _ h => run .addFact _ (.inr h), fun _ _ h => run .addRule _ (.inr h),
    fun _ => run .remFact _ (.inl (by decide)), fun _ => run .getFact _ (.inl (by decide)),
    fun _ => run .remRule _ (.inl (by decide)), fun _ _ => run .enableRule _ (.inl (by decide)),
    fun _ => run .ruleEnabled _ (.inl (by decide)), fun _ => run .getRule _ (.inl (by decide)),
    fun _ => run .searchFacts _ (.inl (by decide)), fun _ => run .searchRules _ (.inl (by decide)),
    run .getParents _ (.inl (by decide)), fun _ => run .setParents _ (.inl (by decide)),
    run .clear _ (.inl (by decide)), run .stateSize _ (.inl (by decide))⟩

/-! ## the hypotheses are satisfiable: a location protected by a write key -/

example : GuardFresh c19Example.st 100 := guardFresh_of_b c19Example_facts.1
example : propStr c19Example.st "writeKey" 100 = "s3cret" := c19Example_facts.2.1
/-- no key and a wrong key are refused, the right key is not; the location is enabled and has no read key -/
example : WriteDenied c19Example {} 100 ∧ WriteDenied c19Example { wk := "guess" } 100 ∧
    ¬ WriteDenied c19Example { wk := "s3cret" } 100 ∧ ¬ Disabled c19Example 100 ∧
    ¬ ReadDenied c19Example {} 100 := c19Example_facts.2.2.1
/-- the refusal, computed: the caller without the key gets "writeDenied" and the same location back -/
example : (locRemFact {} "f1" 100 c19Example).2 = .error "writeDenied" ∧
    (locRemFact {} "f1" 100 c19Example).1.st.facts = c19Example.st.facts := by
  have h : locRemFact {} "f1" 100 c19Example = (c19Example, .error "writeDenied") :=
    guarded_error (m := .remFact) (guardFresh_of_b c19Example_facts.1) c19Example_facts.2.2.2.2.1 _
  rw [h]; exact ⟨rfl, rfl⟩
/-- with the key the write goes through (`Clear` empties the location); reads need no key here -/
example : (locClear { wk := "s3cret" } 100 c19Example).2 = .ok () ∧
    (locClear { wk := "s3cret" } 100 c19Example).1.st.facts = [] ∧
    (locGetFact {} "f1" 100 c19Example).2 = .ok [("likes", .str "tacos")] := by
  have hf : GuardFresh c19Example.st 100 := guardFresh_of_b c19Example_facts.1
  have t := right_key_transparent c19Example { wk := "s3cret" } 100 hf c19Example_facts.2.2.1.2.2.2.1
    c19Example_facts.2.2.1.2.2.1 c19Example_facts.2.2.2.1
  rw [t.2.2.2.2.2.2.2.2.2.2.2.2.2.1]
  refine ⟨rfl, rfl, ?_⟩
  have h : locGetFact {} "f1" 100 c19Example = _ := guarded_run (m := .getFact) hf _
  rw [h, show Meth.getFact.guards = [.enabled, .checkRead] from rfl, c19Example_facts.2.2.2.2.2]
  rfl

/-! ## The request's context is pointed at the addressed location

Hooks (cron), rule actions (`Env.AddFact` …) and the JavaScript timeout read "the current location" from the caller's
`Context`; callers reuse contexts across locations.  The models address every operation to an explicit location, which
is sound exactly when every entry point of the Location API points the context at its own location before it touches
the state.  `Gen.locationPointsCtx` is regenerated from `core/location.go` on every run. -/

/-- the entry points of the Location API through which requests (and rule actions) reach the state -/
def ctxEntryPoints : List String :=
  ["RuleEnabled", "EnableRule", "AddRule", "RemRule", "GetRule", "AddFact", "addFact", "RemFact", "GetFact", "searchFacts",
   "searchRules", "SearchRules", "ListRules", "GetParents", "SetParents", "Clear", "RunJavascript", "Query", "Delete"]

/-- **Every entry point points the context at its own location before touching the state** (regenerated table). -/
theorem entry_points_point_ctx : ∀ m ∈ ctxEntryPoints, (m, true) ∈ Gen.locationPointsCtx := by decide +kernel

/-- the remaining state-touching methods that take a context are helpers reached only through an entry point (guards,
property access, the ancestor walk) or pure delegations: nothing new takes a context and skips `SetLoc` unnoticed -/
theorem ctx_helpers_are_known :
    (Gen.locationPointsCtx.filter (fun r => !r.2)).map (·.1) =
      ["CheckWrite", "CheckRead", "StateSize", "AtCapacity", "Enabled", "Have", "SetProp", "RemProp", "DoAncestors", "SearchFacts",
       "GetPropString", "GetProp"] := by decide +kernel
