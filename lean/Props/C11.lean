import RulioProofs.Indep
import RulioModel.Gen.C11

/-! # C11 — concurrent requests to different locations do not interfere

Model: `RulioModel/Indep.lean` (engines, the frame hypothesis, interleaved and solo runs; the System as an engine
over the cache model of `RulioModel/Cache.lean`; the two-step `ensureStorage`).  Helper lemmas:
`RulioProofs/Indep.lean`.  `RulioModel/Gen/C11.lean` is regenerated from the Go source on every run.
Data races, crashes and deadlocks are runtime notions: they are observed by the harness (race detector, watchdog),
not proved. -/

variable {Client : Type} [DecidableEq Client]

/-- **Independent locations.**  For every engine whose steps satisfy the frame hypothesis (a step of client `i`
reads and writes only `i`'s component — which presupposes that shared objects such as the storage already exist or
are created atomically), every number of clients, every interleaving `sched` of their request sequences and every
client `i`: the results `i` receives in the interleaved run are the results of `i`'s requests run alone in issue
order, and `i`'s component of the final state is the one of the solo run. -/
theorem independent_locations (E : Engine Client) (F : Frame E) (s : E.State) (sched : List (Client × E.Op)) (i : Client) :
    resultsOf i (runAll E s sched).2 = (runSolo E s i sched).2 ∧
    F.view (runAll E s sched).1 i = F.view (runSolo E s i sched).1 i :=
  indep_gen E F i sched s s rfl

/-- **The System satisfies the hypothesis** (one request = one step of the sequential cache semantics, any TTL, any
CheckExistence, any location semantics): every request to location `n` reads and writes only the cache-table slot
and the storage bucket of `n`.  Hence, for the System model, requests to different locations do not interfere. -/
theorem system_independent (sem : LocSem) (cfg : Cfg) (st : SysSt sem) (sched : List (String × (ROp sem × Int × Int))) (n : String) :
    resultsOf n (runAll (sysEngine sem cfg) st sched).2 = (runSolo (sysEngine sem cfg) st n sched).2 ∧
    sysView (runAll (sysEngine sem cfg) st sched).1 n = sysView (runSolo (sysEngine sem cfg) st n sched).1 n :=
  independent_locations (sysEngine sem cfg) (sysFrame sem cfg) st sched n

/-- **`ensureStorage` made atomic creates one storage.**  With the nil check and the creation under one lock, for
every number of clients and every schedule there is at most one storage instance and every client is bound to it. -/
theorem atomic_storage_single (reqs : List (String × Nat)) (sched : List Nat) :
    let s := lzRun true { pcs := reqs.map (fun r => LzPC.start r.1 r.2) } sched
    s.stores.length ≤ 1 ∧ ∀ pc ∈ s.pcs, ∀ l f sid, (pc = LzPC.write l f sid ∨ pc = LzPC.done sid) → sid = 0 :=
  (lzInv_run sched _ (LzInv.init reqs)).single

/-- **The real `ensureStorage` is check-then-create without a lock** (system.go:700-714).  Two clients issue the very
first requests: client 0 passes the nil check, client 1 passes the nil check, creates storage 0, writes its fact and
is acknowledged; client 0 creates storage 1, overwrites `sys.storage`, writes and is acknowledged.  Two storage
instances exist, and a reload of client 1's location (any finite TTL, or a restart) reads storage 1: the
acknowledged fact 7 of location "b" is gone. -/
theorem lazy_storage_race :
    let s := lzRun false { pcs := [LzPC.start "a" 5, LzPC.start "b" 7] } [0, 1, 1, 1, 0, 0]
    s.stores.length = 2 ∧ s.pcs = [LzPC.done 1, LzPC.done 0] ∧ lzVisible s "b" = [] ∧ lzVisible s "a" = [5] := by
  decide

/-- accepted writes without visible synchronisation: process configuration set at start-up or through the
administrative / test endpoints, never by a location client -/
def acceptedUnguarded : List (String × String) := [
  ("core", "SystemParameters"),       -- sys.NewSystem (start-up) and /api/sys/params (administration)
  ("core", "SystemParameterHooks"),   -- core.ParametersAddHook (registration at start-up)
  ("core", "JavascriptTestValue")     -- /api/sys/util/setJavascriptTestValue (test utility)
]

/-- **Globals.**  Every write to a package-level variable of core, sys, cron, service outside `init` (table
regenerated from the source on every run) happens inside a mutex-protected region, through sync/atomic, or targets
one of the accepted configuration variables. -/
theorem globals_protected :
    globalWrites.all (fun w => w.sync != "none" || acceptedUnguarded.contains (w.pkg, w.name)) = true := by
  decide

/-- **No request leaves a process-wide lock behind.**  In core, sys, cron and service no function returns while a
mutex it locked earlier is still locked without a deferred unlock pending (table regenerated from the source on every
run) — a leaked lock on a shared object (the timer table, the location cache, the cron) would block the requests of
every other location.  The one entry is by design: `CachedLocations.Open` hands the cache entry to its caller locked
while the entry is being loaded; `Release` / the loader unlock it. -/
theorem no_return_under_lock : returnsUnderLock = ["sys.CachedLocations.Open: return while cl is locked"] := by decide

/-! ## The hypotheses are satisfiable by non-trivial instances -/

/-- `sysFrame` *is* a frame for the System engine over the toy semantics with a finite TTL and checking on -/
example : Frame (sysEngine toySem { ttl := .finite 5, checkExistence := true }) := sysFrame _ _

/-- a concrete interleaving over two locations: each client sees what it would have seen alone -/
example :
    let sched : List (String × (ROp toySem × Int × Int)) :=
      [("a", .create, 0, 1), ("b", .create, 1, 2), ("a", .api (.add 5), 2, 3), ("b", .api (.has 5), 3, 9), ("a", .api (.has 5), 9, 10)]
    (resultsOf "b" (runAll (sysEngine toySem { ttl := .finite 5, checkExistence := true }) {} sched).2).map Out.toyCode = [3, 0] := by
  decide
