import RulioProofs.CloseReload
import RulioProofs.ReloadStore
import RulioProofs.PatIndexMatch

open AM

/-! # C06 — acknowledged changes are durable; reload reproduces the live location

Model: `RulioModel/State.lean` (both `State` implementations over a reliable storage map; storage faults and
the Bolt back end are exercised by the dynamic part of the C06 check). Vocabulary: `RulioModel/SysInv.lean`. -/

/-- **store_mirrors_facts** — for every history of `Add`/`Rem`/`Get`/`Search`/`FindRules`/`Clear` operations
(successful or not, both state kinds, cascades and expiry-triggered removals included) started from the empty
state: the storage map is exactly the image of the in-memory facts — for every id the stored document is the
prepared in-memory fact — and both are finite maps with unique ids. -/
theorem store_mirrors_facts (k : Kind) (ops : List ROp) :
    let s := (St.empty k).runOps ops
    (∀ id, amGet s.store id = (amGet s.facts id).map J.obj) ∧
      (s.facts.map (·.1)).Nodup ∧ (s.store.map (·.1)).Nodup :=
  have ok := St.runOps_storeOK ops (St.empty_storeOK k)
  ⟨ok.mirror, ok.factsNodup, ok.storeNodup⟩

/-- the invariant is inductive: one more operation on any state that satisfies it keeps it -/
theorem store_mirrors_facts_step {s : St} (ok : StoreOK s) (op : ROp) : StoreOK (s.stepOp op).1 :=
  St.stepOp_storeOK ok op

example : StoreOK ((St.empty .indexed).runOps
    [.add "x" [("a", .num 1), ("ttl", .num 5)] 10, .add "" [("deleteWith", .arr [.str "x"])] 11,
     .search [("a", .str "?v")] 20, .rem "x" 21]) :=
  St.runOps_storeOK _ (St.empty_storeOK _)

/-- **reload_facts_linear** — for every state satisfying the invariant, the linear `Load` of its storage
succeeds and yields the same facts (as a finite map), the same storage, and again a state satisfying the invariant. -/
theorem reload_facts_linear {s : St} (ok : StoreOK s) :
    ∃ t, St.lLoad s.store = .ok t ∧ t.kind = .linear ∧ t.store = s.store ∧
      (∀ id, amGet t.facts id = amGet s.facts id) ∧ StoreOK t := by
  have hgo := lLoad_go_eq s.store ok.all_obj []
  have hfacts : ∀ id, amGet (s.store.map (fun p => (p.1, unObj p.2))) id = amGet s.facts id := by
    intro id
    rw [amGet_map_val, ok.mirror id]
    cases amGet s.facts id <;> simp [unObj]
  refine ⟨{ kind := .linear, store := s.store, facts := s.store.map (fun p => (p.1, unObj p.2)) }, ?_, rfl, rfl, hfacts, ?_⟩
  · unfold St.lLoad; rw [hgo]; simp
  · refine ⟨?_, ?_, ok.storeNodup⟩
    · intro id
      show amGet s.store id = (amGet (s.store.map (fun p => (p.1, unObj p.2))) id).map J.obj
      rw [hfacts id]; exact ok.mirror id
    · show ((s.store.map (fun p => (p.1, unObj p.2))).map (·.1)).Nodup
      rw [List.map_map]; exact ok.storeNodup

/-- … in particular after every history on a linear state -/
theorem reload_facts_linear_history (ops : List ROp) :
    ∃ t, ((St.empty .linear).runOps ops).reload 0 = .ok t ∧
      ∀ id, amGet t.facts id = amGet ((St.empty .linear).runOps ops).facts id := by
  have ok := St.runOps_storeOK ops (St.empty_storeOK .linear)
  obtain ⟨t, ht, _, _, hf, _⟩ := reload_facts_linear ok
  have hk : ((St.empty .linear).runOps ops).kind = .linear := St.runOps_kind ops _
  refine ⟨{ t with fresh := ((St.empty .linear).runOps ops).fresh }, ?_, hf⟩
  unfold St.reload
  rw [hk]
  simp only [ht, Except.map]

/-- **ack_durable (add)** — an acknowledged `Add` is in storage: the returned id maps to the prepared fact now
held in memory. -/
theorem ack_durable_add {s s' : St} {given : String} {x : Obj} {now : Int} {id : String}
    (h : s.add given x now = (s', .ok id)) :
    ∃ fact, amGet s'.facts id = some fact ∧ amGet s'.store id = some (.obj fact) := by
  obtain ⟨m, ha⟩ := add_shape_of_eq h
  exact ⟨memForm s.kind m, by rw [ha.facts]; exact amGet_amSet_self _ _ _, by rw [ha.store]; exact amGet_amSet_self _ _ _⟩

/-- **ack_durable (rem)** — after an acknowledged `Rem id` (on a state whose storage mirrors its facts) the id is
gone from memory and from storage. -/
theorem ack_durable_rem {s s' : St} (hm : Mirror s) {id : String} {now : Int} {b : Bool}
    (h : s.rem id now = (s', .ok b)) : amGet s'.facts id = none ∧ amGet s'.store id = none := by
  refine ⟨(St.rem_ok_gone h).1, (St.rem_ok_gone h).2 ?_⟩
  -- an id that is not in memory is not in storage either
  cases hf : amGet s.facts id with
  | none => exact .inr (by rw [hm id, hf]; rfl)
  | some _ => exact .inl nofun

/-- **failed_add_no_write** — an `Add` that reports an error has written nothing: facts and storage are unchanged. -/
theorem failed_add_no_write {s s' : St} {given : String} {x : Obj} {now : Int} {e : LErr}
    (h : s.add given x now = (s', .error e)) : s'.facts = s.facts ∧ s'.store = s.store :=
  have sp := add_shape_of_eq h
  ⟨sp.facts, sp.store⟩

/-- **rem_only_removes_partial** — whatever `Rem` returns (also on failure half-way through a cascade), every id
is either untouched in memory and storage, or gone from both; nothing is ever written or altered.
(Full statement — "only the named id and its `deleteWith` dependents are touched, for every crash point between
two storage writes" — is left to the dynamic check, which stops histories after k storage writes.) -/
theorem rem_only_removes_partial (s : St) (id : String) (now : Int) (k : String) :
    let s' := (s.rem id now).1
    (amGet s'.facts k = amGet s.facts k ∧ amGet s'.store k = amGet s.store k) ∨
      (amGet s'.facts k = none ∧ amGet s'.store k = none) :=
  (St.rem_purge s id now).shrinks.2.2.2.2 k

example : isOk ((St.empty .indexed).add "" [("a", .num 1)] 5).2 = true := by decide +kernel
example : isOk ((((St.empty .linear).add "x" [("a", .num 1)] 5).1.rem "x" 6).2) = true := by decide +kernel

/-- **store_is_facts_image** — stronger, list-level form of the mirror for every history of either kind: storage is
the in-memory fact list document by document *in the same order* (both are updated by the same `amSet`/`amErase`). -/
theorem store_is_facts_image (k : Kind) (ops : List ROp) :
    ((St.empty k).runOps ops).store = ((St.empty k).runOps ops).facts.map (fun p => (p.1, J.obj p.2)) :=
  St.runOps_storeEq ops (s := St.empty k) rfl

/-- **reload_linear_identity** — for every history on a linear state, reloading from storage gives back *the very
same state* (facts, storage, id counter; the linear state never touches the indexes). -/
theorem reload_linear_identity (ops : List ROp) (now : Int) :
    ((St.empty .linear).runOps ops).reload now = .ok ((St.empty .linear).runOps ops) :=
  reload_linear_id (St.runOps_storeEq ops (s := St.empty .linear) rfl)
    (St.runOps_inv (P := LinIdx) (fun _ op h => St.stepOp_linIdx h op) ops (s := St.empty .linear) ⟨rfl, rfl, rfl⟩) now

/-- **reload_observationally_equal (linear)** — hence every later history of operations behaves identically on the
reloaded and on the live state: same results, same final state. -/
theorem reload_observationally_equal_linear (ops later : List ROp) (now : Int) (t : St)
    (h : ((St.empty .linear).runOps ops).reload now = .ok t) (op : ROp) :
    (t.runOps later).stepOp op = (((St.empty .linear).runOps ops).runOps later).stepOp op := by
  rw [reload_linear_identity] at h
  cases h
  rfl

/-- **prepare_idempotent** — a fact that came out of `PrepareFact` (under a non-empty fresh id) is a fixed point:
`ExtractRule` leaves it unchanged, and preparing it again with its own id at any later time `now'` yields the same
id and the same fact as long as it is not expired at `now'` (property facts regenerate their canonical id, other
facts keep the given one), and the `expired` error exactly when it is. -/
theorem prepare_idempotent {given fresh : String} {x : Obj} {now : Int} {id : String} {m x' : Obj}
    (hp : prepareFact given fresh x now = .ok (id, m, x')) (hfresh : fresh ≠ "") (fresh' : String) (now' : Int) :
    indexedForm m = m ∧
    (unexpired m now' = true → ∃ x'', prepareFact id fresh' m now' = .ok (id, m, x'')) ∧
    (unexpired m now' = false → prepareFact id fresh' m now' = .error "expired") := by
  obtain ⟨hform, hc⟩ := canon_of_prepare hp hfresh
  refine ⟨hform, ?_, ?_⟩
  · intro hu
    rcases prepare_canon hc fresh' now' with ⟨h, _⟩ | ⟨_, h⟩
    · rw [hu] at h; cases h
    · exact h
  · intro hu
    rcases prepare_canon hc fresh' now' with ⟨_, h⟩ | ⟨h, _⟩
    · exact h
    · rw [hu] at h; cases h

example : isOk (prepareFact "r1" "fresh#0"
    [("rule", .obj [("when", .obj [("a", .num 1)])]), ("ttl", .num 5)] 100) = true := by decide +kernel

/-- **reload_facts_indexed** — for every history on an indexed state and every reload time `now`, the indexed `Load`
of the storage succeeds and its in-memory facts are exactly the live facts that are not expired at `now`, in the same
order, with the same contents (hence the same absolute `expires`). That stored rule patterns can be re-indexed
(`AllIndexable`) is proved from reachability: whether `AddPatternMap` fails depends on the pattern only. -/
theorem reload_facts_indexed (ops : List ROp) (now : Int) :
    ∃ t, St.iLoad ((St.empty .indexed).runOps ops).store now = .ok t ∧ t.kind = .indexed ∧
      t.facts = ((St.empty .indexed).runOps ops).facts.filter (fun p => unexpired p.2 now) :=
  have inv := IdxInv.runOps ops IdxInv.empty
  have ⟨t, h1, h2, h3, _⟩ := iLoad_spec inv.storeEq inv.canon inv.indexable inv.nodup now
  ⟨t, h1, h2, h3⟩

/-- non-vacuity: `x` (ttl 5 at 10) is expired at 20 and dropped by the reload, `y` survives … -/
example : (match St.iLoad ((St.empty .indexed).runOps
      [.add "x" [("a", .num 1), ("ttl", .num 5)] 10, .add "y" [("b", .num 2)] 11]).store 20 with
    | .ok t => t.facts.map (·.1) | .error _ => []) = ["y"] := by decide +kernel

/-- … and at 12 both are reloaded, the rule `y` (array pattern) being re-indexed -/
example : (match St.iLoad ((St.empty .indexed).runOps
      [.add "x" [("a", .num 1), ("ttl", .num 5)] 10,
       .add "y" [("rule", .obj [("when", .obj [("a", .arr [.num 1, .num 2])])])] 11]).store 12 with
    | .ok t => t.facts.map (·.1) | .error _ => []) = ["x", "y"] := by decide +kernel

/-- the same from the invariant (any state with list-mirrored storage and canonical, indexable, uniquely keyed facts) -/
theorem reload_facts_indexed_of_inv {s : St} (he : StoreEq s) (hc : AllCanon s) (hi : AllIndexable s)
    (hnd : (s.facts.map (·.1)).Nodup) (now : Int) :
    ∃ t, St.iLoad s.store now = .ok t ∧ t.kind = .indexed ∧ t.facts = s.facts.filter (fun p => unexpired p.2 now) :=
  have ⟨t, h1, h2, h3, _⟩ := iLoad_spec he hc hi hnd now
  ⟨t, h1, h2, h3⟩

/-- **reload_observationally_equal_indexed_partial** — for the indexed kind the reloaded state has the live state's
unexpired facts but freshly built indexes. Any observation `obs` (search results, rule dispatch, …) that, on states
satisfying the index invariants `IndexInv` (intended: `WF` with `TIOK`/`TINodup` of `RulioModel/StateInv.lean` and the
pattern-index invariant `StIdx`), is determined by the unexpired facts, takes the same value on the live and on the
reloaded state. That the live and the reloaded state satisfy `IndexInv` are hypotheses here (`hlive`, `hre`);
`reload_observationally_equal_indexed` below discharges them for `WF` and `StIdx` (`reload_index_invariants`,
`live_index_invariants`). -/
theorem reload_observationally_equal_indexed_partial {β : Type} (IndexInv : St → Prop) (obs : St → β) (now : Int)
    (hobs : ∀ s t : St, IndexInv s → IndexInv t →
      s.facts.filter (fun p => unexpired p.2 now) = t.facts.filter (fun p => unexpired p.2 now) → obs s = obs t)
    (ops : List ROp) (t : St) (ht : St.iLoad ((St.empty .indexed).runOps ops).store now = .ok t)
    (hlive : IndexInv ((St.empty .indexed).runOps ops)) (hre : IndexInv t) :
    obs t = obs ((St.empty .indexed).runOps ops) := by
  obtain ⟨t', ht', _, hf⟩ := reload_facts_indexed ops now
  rw [ht] at ht'
  cases ht'
  apply hobs t _ hre hlive
  rw [hf, List.filter_filter]
  simp

/-! ## the invariant hypotheses of `reload_observationally_equal_indexed_partial` discharged (composition with the invariants of C01 / C02 / C08)

`IdxInvs s` (RulioModel/CloseFrag.lean) = indexed kind ∧ `WF s` (unique ids, no variable-looking id, `TIOK`, `TINodup`) ∧
`StIdx s` (the rule-index invariant of C01). `ReloadSim s t` = same facts, storage and id counter, `IdxInvs` of both,
and the storage of `s` is the list image of its facts (`StoreEq`). -/

/-- **reload_index_invariants** — the indexed `Load` of *any* storage contents at *any* time, whenever it succeeds,
yields a state that satisfies the same invariants as a live reachable state: `WF` (with `KeysNodup`, `IdsOK`, `TIOK`,
`TINodup`) and the rule-index invariant `StIdx`. Reason: `Load` is a history of the very in-memory `add`s the live
state uses, started from empty indexes (`iLoad_go_inv`); dropping an expired record touches storage only.
The same holds for `St.reload` of an indexed state. -/
theorem reload_index_invariants (docs : List (String × J)) (now : Int) :
    (∀ t, St.iLoad docs now = .ok t → t.kind = .indexed ∧ WF t ∧ StIdx t) ∧
    (∀ s t : St, s.kind = .indexed → s.reload now = .ok t → t.kind = .indexed ∧ WF t ∧ StIdx t) :=
  ⟨fun _ h => ⟨(iLoad_inv h).kind, (iLoad_inv h).wf, (iLoad_inv h).idx⟩,
   fun _ _ hk h => ⟨(reload_inv hk h).kind, (reload_inv hk h).wf, (reload_inv hk h).idx⟩⟩

/-- **live_index_invariants** — every state reachable by a history of `Add`/`Rem`/`Get`/`Search`/`FindRules`/`Clear`
(the six-operation histories of this file, any clocks) is well-formed, for both kinds; an indexed one moreover
satisfies `StIdx` and is reachable in the sense of C01 (`IReach`). -/
theorem live_index_invariants (k : Kind) (ops : List ROp) :
    WF ((St.empty k).runOps ops) ∧
    (k = .indexed → StIdx ((St.empty k).runOps ops) ∧ IReach ((St.empty k).runOps ops)) := by
  refine ⟨St.runOps_inv (P := WF) (fun _ op h => h.stepOp op) ops (wf_empty k), fun hk => ?_⟩
  subst hk
  exact ⟨(IdxInvs.runOps ops IdxInvs.empty).idx, (St.runOps_inv (P := fun s => IReach s ∧ s.kind = .indexed)
    (fun s op h => ⟨h.1.stepOp h.2 op, (St.stepOp_kind s op).trans h.2⟩) ops ⟨.init, rfl⟩).1⟩

/-- **reload_observationally_equal_indexed** — `reload_observationally_equal_indexed_partial` with its two invariant
hypotheses discharged: any observation `obs` that, on states satisfying the index invariants, is determined by the
facts unexpired at `now`, takes the same value on the reloaded and on the live state — for every history and every
reload time. (What such observations are is spelled out in `in_step_observations`.) -/
theorem reload_observationally_equal_indexed {β : Type} (obs : St → β) (now : Int)
    (hobs : ∀ s t : St, IdxInvs s → IdxInvs t →
      s.facts.filter (fun p => unexpired p.2 now) = t.facts.filter (fun p => unexpired p.2 now) → obs s = obs t)
    (ops : List ROp) (t : St) (ht : St.iLoad ((St.empty .indexed).runOps ops).store now = .ok t) :
    obs t = obs ((St.empty .indexed).runOps ops) :=
  reload_observationally_equal_indexed_partial IdxInvs obs now hobs ops t ht
    (IdxInvs.runOps ops IdxInvs.empty) (iLoad_inv ht)

/-- **in_step_observations** — what is equal on two states in step (`ReloadSim`: live indexed state and its reload):
1. facts, storage and id counter are equal (as lists, hence as finite maps);
2. `Get` answers the same fact for every id at every time (`.ok f` on one iff on the other); when the addressed fact is
   absent or not expired the two `Get`s are the same pure read (identical result, error included, states untouched);
3. `Add` answers the same id or the same error; `Rem` inside the fragment of `OpsOK` succeeds on both with the same flag;
4. inside the C02 fragment (`TermOK` pattern, matcher sound on the stored facts, nothing expired at that time) both
   `Search`es succeed, change nothing, and return the matches of the specification `specSearch` up to order —
   i.e. equal multisets of (id, bindings); the order differs because the term-index candidate order differs;
5. inside the C01 fragment (`IdxOK` pattern over an `EvOK` event) every stored non-scheduled rule whose `when` lies
   over the event is among the dispatch candidates of both pattern indexes. -/
theorem in_step_observations {s t : St} (h : ReloadSim s t) :
    (t.facts = s.facts ∧ t.store = s.store ∧ t.fresh = s.fresh) ∧
    ((∀ id now f, (t.get id now).2 = .ok f ↔ (s.get id now).2 = .ok f) ∧
     (∀ id now, (∀ f, amGet s.facts id = some f → checkExpiration f now = .ok false) →
        ∃ r, s.get id now = (s, r) ∧ t.get id now = (t, r))) ∧
    ((∀ g x now, (t.add g x now).2 = (s.add g x now).2) ∧
     (∀ id now, NoneExpired s now → isVar id = false → UnindexOK s →
        (t.rem id now).2 = (s.rem id now).2 ∧ ∃ b, (s.rem id now).2 = .ok b)) ∧
    (∀ p now R, NoneExpired s now → TermOK p = true → MatcherSoundOn s.facts p → specSearch s.facts p now = .ok R →
      ∃ Rs Rt, s.search p now = (s, .ok Rs) ∧ t.search p now = (t, .ok Rt) ∧
        (projRes Rs).Perm R ∧ (projRes Rt).Perm R ∧ (projRes Rt).Perm (projRes Rs)) ∧
    (∀ ev id fact pat σ, amGet s.facts id = some fact → whenOf fact = some pat → IdxOK pat = true → EvOK ev = true →
      pmv σ (.obj pat) (.obj ev) = true →
      (∃ ids, piSearch s.ri ev = .ok ids ∧ id ∈ ids) ∧ (∃ ids, piSearch t.ri ev = .ok ids ∧ id ∈ ids)) := by
  refine ⟨⟨h.mem.facts, h.mem.store, h.mem.fresh⟩,
    ⟨fun id now f => get_ok_congr h.mem.facts id now f, fun id now hq => get_quiet_congr h.mem.facts id now hq⟩,
    ⟨fun g x now => h.add_result g x now, fun id now hne hid hun => h.rem_result ⟨hne, hid, hun⟩⟩, ?_, ?_⟩
  · intro p now R hne hterm hsound hspec
    obtain ⟨Rs, Rt, h1, h2, h3, h4⟩ := search_perm_congr h.live h.re h.mem.facts hne hterm hsound hspec
    exact ⟨Rs, Rt, h1, h2, h3, h4, h4.trans h3.symm⟩
  · intro ev id fact pat σ hst hwhen hp hev hm
    have key : ∀ u : St, StIdx u → amGet u.facts id = some fact → ∃ ids, piSearch u.ri ev = .ok ids ∧ id ∈ ids := by
      intro u hu hg
      obtain ⟨π, hπ, hid⟩ := hu.2 id fact pat hg hwhen
      exact PI.piSearch_complete hπ hid hp hev hm
    exact ⟨key s h.live.idx hst, key t h.re.idx (by rw [h.mem.facts]; exact hst)⟩

/-- **reload_in_step** — for every history `ops` on an indexed state, every reload time `now` at which no stored fact is
expired, and every later history inside the fragment `OpsOK` (writes and `Clear` unrestricted; `Get` of an absent or
unexpired fact; `Search`/`FindRules` while nothing is expired; `Rem` of a non-variable id while nothing is expired and
every stored rule can leave the pattern index): the reload succeeds with the same facts, storage and id counter, and
after **every** prefix of the later history the live and the reloaded state are still in step — so all of
`in_step_observations` (which includes that each write is acknowledged identically on both) holds after every step.

Not covered (full statement of C06 for the indexed kind): later operations that run while some stored fact is expired
(expiry-triggered cascades visit the term-index lists in their own order, and an aborting cascade stops at an
order-dependent point), `Rem` when some stored rule cannot leave the pattern index, search results outside the C02
fragment and dispatch candidates outside the C01 fragment (stale index entries are not excluded by `WF`/`StIdx`).
When some fact *is* expired at `now`, `reload_facts_indexed` + `reload_index_invariants` +
`reload_observationally_equal_indexed` still give: the reload holds exactly the unexpired facts and satisfies the
invariants, so every observation determined by the unexpired facts agrees. -/
theorem reload_in_step (ops later : List ROp) (now : Int)
    (hne : NoneExpired ((St.empty .indexed).runOps ops) now) (hok : OpsOK ((St.empty .indexed).runOps ops) later) :
    ∃ t, ((St.empty .indexed).runOps ops).reload now = .ok t ∧
      ReloadSim ((St.empty .indexed).runOps ops) t ∧
      ∀ k, ReloadSim (((St.empty .indexed).runOps ops).runOps (later.take k)) (t.runOps (later.take k)) := by
  obtain ⟨t, hr, hsim⟩ := ReloadSim.of_reload (IdxInv.runOps ops IdxInv.empty) (IdxInvs.runOps ops IdxInvs.empty) hne
  exact ⟨t, hr, hsim, fun k => hsim.runOps _ (OpsOK.take k hok)⟩

/-- non-vacuity of `reload_index_invariants`: a `Load` that succeeds (a fact and a rule; the expired record is dropped) -/
example : (match St.iLoad [("x", .obj [("a", .num 1)]), ("e", .obj [("expires", .num 5)]),
      ("r", .obj [("rule", .obj [("when", .obj [("a", .num 1)])])])] 10 with
    | .ok t => t.facts.map (·.1) | .error _ => []) = ["x", "r"] := by decide +kernel

/-- non-vacuity of `reload_in_step`: after `reloadOps` (an expiring fact, a rule, a dependent, an overwritten fact that
leaves stale ids in the live term index) nothing is expired at 15, `laterOps` is inside the fragment, so the reloaded
state stays in step through all of it; the live term index really differs from the rebuilt one -/
example :
    NoneExpired ((St.empty .indexed).runOps reloadOps) 15 ∧ OpsOK ((St.empty .indexed).runOps reloadOps) laterOps ∧
    (∃ t, ((St.empty .indexed).runOps reloadOps).reload 15 = .ok t ∧
      (t.runOps laterOps).facts = (((St.empty .indexed).runOps reloadOps).runOps laterOps).facts ∧
      t.facts.map (·.1) = ["x", "r", "d", "o"]) ∧
    (match ((St.empty .indexed).runOps reloadOps).reload 15 with
      | .ok t => t.ti.length | .error _ => 0) ≠ ((St.empty .indexed).runOps reloadOps).ti.length := by
  -- one evaluation of the two histories for all four checks
  have hc : (noneExpiredB ((St.empty .indexed).runOps reloadOps) 15 &&
      opsOKB ((St.empty .indexed).runOps reloadOps) laterOps &&
      decide (((St.empty .indexed).runOps reloadOps).facts.map (·.1) = ["x", "r", "d", "o"]) &&
      decide ((match ((St.empty .indexed).runOps reloadOps).reload 15 with
        | .ok t => t.ti.length | .error _ => 0) ≠ ((St.empty .indexed).runOps reloadOps).ti.length)) = true := by
    decide +kernel
  simp only [Bool.and_eq_true, decide_eq_true_eq] at hc
  obtain ⟨⟨⟨h1, h2⟩, h3⟩, h4⟩ := hc
  have hne := noneExpired_of_check h1
  have hok := opsOK_of_check h2
  refine ⟨hne, hok, ?_, h4⟩
  obtain ⟨t, hr, hsim, hall⟩ := reload_in_step reloadOps laterOps 15 hne hok
  refine ⟨t, hr, ?_, by rw [hsim.mem.facts]; exact h3⟩
  have := (hall laterOps.length).mem.facts
  rw [List.take_length] at this
  exact this
